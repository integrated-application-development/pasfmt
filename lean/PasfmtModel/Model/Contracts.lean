/-
  Executable (decidable) contract checkers: evaluated by the driver on every record, and proved
  sound w.r.t. the Prop-level hypotheses of the theorems (`C01.wrapFrameB_sound`, `C07.wrapIgnoredB_sound`,
  `wrapContentB_sim` in `Proofs/MlsSim.lean`).
-/
import PasfmtModel.Model.Pipeline
import PasfmtModel.Model.Mls

namespace Pasfmt

def all2B {α β : Type} (f : α → β → Bool) : List α → List β → Bool
  | [], [] => true
  | a :: as, b :: bs => f a b && all2B f as bs
  | _, _ => false

/-- frame of the wrapper stage on one token (C01 part): whitespace kept or dropped, content
    changed only in blanks/case when the original has no dangling `E3` -/
def wrapRelB (t t' : FTok) : Bool :=
  (t'.tok.ws == t.tok.ws || t'.tok.ws == []) &&
  (t'.tok.content == t.tok.content ||
    (!nd t.tok.content || (nd t'.tok.content && foldStrip t'.tok.content == foldStrip t.tok.content)))

def wrapFrameB (ft ft' : FT) : Bool := all2B wrapRelB ft ft'

/-- contents of all scanned tokens have no dangling `E3` (follows from valid UTF-8 and token ends at character
    boundaries: `lexWith_char_boundaries`) -/
def contentsNdB (raw : List RawTok) : Bool := raw.all fun t => nd t.content

/-- content clause of the wrapper contract (`WrapExact`): the wrapper stage changes only non-ignored multi-line
    string literals, exactly as the string re-indenter computes from the token's final counters (so a reflow keeps
    the indentation the strings were given) -/
def wrapContentB (cfg : Config) (ft ft' : FT) : Bool :=
  all2B (fun t t' =>
    t'.tok.kind == t.tok.kind && t'.fmt.ignored == t.fmt.ignored &&
    t'.tok.content == mlsTok cfg.settings cfg.fmtMls t t'.fmt.ind t'.fmt.cont) ft ft'

/-- ignored tokens pass the wrapper stage untouched (flag, original whitespace, text), and no further
    token becomes ignored (C07) -/
def wrapIgnoredB (ft ft' : FT) : Bool :=
  all2B (fun t t' => t'.fmt.ignored == t.fmt.ignored &&
    (!t.fmt.ignored || (t'.tok.ws == t.tok.ws && t'.tok.content == t.tok.content))) ft ft'

/-- side conditions of the reconstruction theorems, evaluated on the final token list -/
def isSingleLineCommentK : Kind → Bool
  | .tComment .cInlineLine => true
  | .tComment .cIndividualLine => true
  | _ => false

/-- no safety-net newline is inserted in front of any ignored token (C07 `verbatim_emitted`) -/
def safeRunAllGo : Bool → FT → Bool
  | _, [] => true
  | mb, t :: r =>
    (!t.fmt.ignored || !(mb && !containsByte 0x0A t.tok.ws && !(t.tok.kind == .tEof))) &&
      safeRunAllGo (isSingleLineCommentK t.tok.kind) r

/-- the safety net does not fire at all -/
def noSafetyNetGo : Bool → FT → Bool
  | _, [] => true
  | mb, t :: r =>
    !(mb && !(t.tok.kind == .tEof) &&
        (if t.fmt.ignored then !containsByte 0x0A t.tok.ws else t.fmt.nl == 0)) &&
      noSafetyNetGo (isSingleLineCommentK t.tok.kind) r

def canonFmtB (f : FmtData) : Bool :=
  decide (f.nl ≤ 2) && (f.nl == 0 || f.sp == 0) && (f.nl != 0 || (f.ind == 0 && f.cont == 0 && decide (f.sp ≤ 1)))

def canonAll (ft : FT) : Bool :=
  ft.zipIdx.all fun (t, i) => t.fmt.ignored || (canonFmtB t.fmt && (i != 0 || (t.fmt.nl == 0 && t.fmt.sp == 0)))

def noNlAll (ft : FT) : Bool :=
  ft.all fun t => !containsByte 0x0A t.tok.content && (!t.fmt.ignored || !containsByte 0x0A t.tok.ws)

def noTabAll (ft : FT) : Bool :=
  ft.all fun t => !containsByte 0x09 t.tok.content && (!t.fmt.ignored || !containsByte 0x09 t.tok.ws)

end Pasfmt
