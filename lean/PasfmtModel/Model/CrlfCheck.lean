/-
  Executable side of `C09.C09_format_full_crlf_config`: the decidable side conditions of the crlf/lf theorem for the
  closed model, evaluated by the driver on every case of the `full` stream (`info_c09`).  Definitions only; the
  lemmas are in Proofs/CrlfFull.lean, the stage and end-to-end theorems in Props/C09.lean.
-/
import PasfmtModel.Model.PipelineFull

namespace Pasfmt.CrlfFull

/-- a non-ignored multi-line literal: what the string passes look at -/
def mlsLive (t : FTok) : Bool := !t.fmt.ignored && isMlsKind t.tok.kind

/-- the two runs agree on whether the re-indenter changes this token -/
def agreeTok (SL SC : Settings) (t : FTok) : Bool :=
  !mlsLive t ||
    (mlsRewrite SL t.tok.content t.fmt.ind t.fmt.cont).isSome == (mlsRewrite SC t.tok.content t.fmt.ind t.fmt.cont).isSome

/-- the text of token `j` when the stage starts -/
def origContent (ft0 : FT) (j : Nat) : Bytes := (ft0[j]?.map (·.tok.content)).getD []

/-- the lf run's state when the first string pass starts -/
def phase0 (cfg : Config) (lines : List Line) (ft : FT) : Option FT :=
  (applyLinesS 0 lines (firstPassLines lines) (searchInit cfg lines ft) ft []).map (·.1)

/-- a token of the lf run's final state that is safe to emit under the substitution; `oc` = its text when the stage
    started.  An ignored token (emitted with its whitespace, verbatim): no `\n` in whitespace or text.  Any other
    token: no `\n` in its text, or the stage changed the text (then it is a re-indented literal, whose line breaks
    are the configured ones). -/
def safeTok (oc : Bytes) (t : FTok) : Bool :=
  if t.fmt.ignored then !containsByte 0x0A t.tok.ws && !containsByte 0x0A t.tok.content
  else !containsByte 0x0A t.tok.content || t.tok.content != oc

/-- the side conditions of the stage theorem, computed from the lf run: (1) every non-ignored multi-line literal of
    the stage's input ends in a quote; (2) if strings are re-indented, the two runs agree on which literals the first
    string pass changes; (3) every token of the lf run's final state is safe to emit under the substitution. -/
def crlfStageOk (cfg : Config) (lines : List Line) (ft0 : FT) : Bool :=
  ft0.all (fun t => !mlsLive t || t.tok.content.getLast? == some 0x27) &&
  (!cfg.fmtMls ||
    match phase0 { cfg with crlf := false } lines ft0 with
    | some ft1 => ft1.all (agreeTok ({ cfg with crlf := false }).settings ({ cfg with crlf := true }).settings)
    | none => true) &&
  (match wrapStageFull { cfg with crlf := false } lines ft0 with
    | some (ftz, _) => ftz.zipIdx.all (fun x => safeTok (origContent ft0 x.2) x.1)
    | none => true)

/-- the side conditions for a whole input: `crlfStageOk` at the state the wrapper stage starts from (which does not
    depend on the configuration) -/
def crlfOk (cfg : Config) (alnum : Bytes → Bool) (s : Bytes) : Bool :=
  match lex s with
  | none => true
  | some raw =>
    match parseAndConsolidate raw with
    | none => true
    | some po =>
      let O : Oracles := { parser := fun _ => po, wrap := fun _ _ ft => ft, alnum := alnum }
      crlfStageOk cfg (preWrap O raw).2.1 (preWrap O raw).2.2


/-- conjuncts (2) and (3) of `crlfStageOk`: conjunct (1) (every non-ignored multi-line literal ends in a quote) is a
    theorem at the state the wrapper stage starts from (`Proofs/CrlfFull.lean`) -/
def crlfStageOk23 (cfg : Config) (lines : List Line) (ft0 : FT) : Bool :=
  (!cfg.fmtMls ||
    match phase0 { cfg with crlf := false } lines ft0 with
    | some ft1 => ft1.all (agreeTok ({ cfg with crlf := false }).settings ({ cfg with crlf := true }).settings)
    | none => true) &&
  (match wrapStageFull { cfg with crlf := false } lines ft0 with
    | some (ftz, _) => ftz.zipIdx.all (fun x => safeTok (origContent ft0 x.2) x.1)
    | none => true)

/-- `crlfStageOk23` at the state the wrapper stage starts from: `crlfOk` without its first conjunct -/
def crlfOk23 (cfg : Config) (alnum : Bytes → Bool) (s : Bytes) : Bool :=
  match lex s with
  | none => true
  | some raw =>
    match parseAndConsolidate raw with
    | none => true
    | some po =>
      let O : Oracles := { parser := fun _ => po, wrap := fun _ _ ft => ft, alnum := alnum }
      crlfStageOk23 cfg (preWrap O raw).2.1 (preWrap O raw).2.2

end Pasfmt.CrlfFull
