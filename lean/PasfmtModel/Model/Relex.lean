/-
  Re-scanning the reconstructed text token by token, each token in a window of three bytes of
  lookahead (`relexFT`).  `Proofs/LexLocal.lean` proves that a successful windowed re-scan is the
  scan of the whole output (`relexFT_sound`), using the locality of the scanner.
  The driver evaluates `relexB` on every well-formed case (field `rx`).
-/
import PasfmtModel.Model.Recon

namespace Pasfmt

/-- the lookahead window after a token: the next three bytes of the output, closed by a non-blank
    sentinel so that nothing can run to the end of the window unnoticed; fewer than three bytes are
    the true end of the output and are used as they are -/
def windowOf (la : Bytes) : Bytes := if la.length == 3 then la ++ [0x41] else la

/-- the first `n` bytes of `reconGo S mb ft`, without building the rest -/
def reconTake (S : Settings) : FT → Nat → Bool → Bytes
  | [], _, _ => []
  | t :: r, n, mb =>
    let x := gapOf S t mb ++ t.tok.content
    if n ≤ x.length then x.take n else x ++ reconTake S r (n - x.length) (isSingleLineComment t.tok.kind)

/-- windowed re-scan of the reconstruction of `ft` (which must end with a token of empty content, the
    end-of-file token): the kinds found, or `none` if some window does not give back exactly the
    emitted gap and content -/
def relexFT (S : Settings) : LexState → Bool → FT → Option (List RawKind)
  | _, _, [] => none
  | st, mb, [t] =>
    if t.tok.content.isEmpty then
      match lexOne false st (gapOf S t mb) with
      | some none => some []
      | _ => none
    else none
  | st, mb, t :: t2 :: r =>
    match lexOne false st (gapOf S t mb ++ t.tok.content
        ++ windowOf (reconTake S (t2 :: r) 3 (isSingleLineComment t.tok.kind))) with
    | some (some (ws, e, k, st')) =>
      if ws == (gapOf S t mb).length && e == (gapOf S t mb).length + t.tok.content.length then
        (relexFT S st' (isSingleLineComment t.tok.kind) (t2 :: r)).map (k :: ·)
      else none
    | _ => none

/-- the token vector that the re-scan yields: emitted gaps as leading blanks, emitted contents, the
    kinds found, and the end-of-file token -/
def relexToks (S : Settings) : Bool → FT → List RawKind → List RawTok
  | _, [], _ => []
  | mb, [t], _ => [{ ws := gapOf S t mb, content := [], kind := .rEof }]
  | mb, t :: t2 :: r, k :: ks =>
    { ws := gapOf S t mb, content := t.tok.content, kind := k } :: relexToks S (isSingleLineComment t.tok.kind) (t2 :: r) ks
  | _, _ :: _ :: _, [] => []

/-- raw kinds equal up to the first-on-line status of a comment -/
def sameKindModPos : RawKind → RawKind → Bool
  | .rComment a, .rComment b => a.isSingleline == b.isSingleline
  | a, b => a == b

/-- the contract evaluated per case: the windowed re-scan succeeds and finds the input's kinds -/
def relexB (S : Settings) (raw : List RawTok) (ft : FT) : Bool :=
  match relexFT S LexState.init false ft with
  | some ks => ks.length + 1 == raw.length && (raw.zip ks).all (fun p => sameKindModPos p.1.kind p.2)
  | none => false

end Pasfmt
