/-
  Executable side of the end-of-file clause of C14: `eofOk`, the decidable hypothesis "in every pass the lines typed
  `Eof` are exactly the one line `eofLine`", tallied by the driver on every case of the `pfull` stream (`info_eofline`).
  `C14.parser_model_single_eof_line` assumes `eofLineInEveryPass` (`Proofs/ParserParentsMutual.lean`), which says the
  same of an answer of the model (`C14.eof_hypotheses_equivalent`).  Definitions only; the theorems are in
  Proofs/ParserParents.lean.
-/
import PasfmtModel.Model.ParserFull

namespace Pasfmt.Parents

/-- the end-of-file line of a file of `n` tokens -/
def eofLine (n : Nat) : PLine := { parent := none, level := 0, tokens := [n - 1], ltype := .lEof }

/-- the hypothesis on the lines of one pass: exactly one line has type `Eof`, and it is `eofLine n` -/
def passEofOk (n : Nat) (ls : List PLine) : Bool := ls.filter (fun l => l.ltype == .lEof) == [eofLine n]

/-- the hypothesis of `final_single_eof_line`: in every pass, the last `next_token` of `parse` met the end-of-file token
    (it was not consumed earlier) with every context closed -/
def eofOk (o : ParseFullOut) : Bool := o.passLines.all (passEofOk o.kinds.length)

end Pasfmt.Parents
