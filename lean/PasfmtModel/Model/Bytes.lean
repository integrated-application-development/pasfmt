/-
  Byte-level text representation shared by the whole model.

  pasfmt indexes bytes everywhere (`as_bytes()[i]`, `memchr`, `ws_len: u32`,
  cursor byte offsets), so text is `List UInt8`.  UTF-8 facts are explicit
  predicates, never implicit in the type.
-/
namespace Pasfmt

abbrev Bytes := List UInt8

/-- number of leading elements satisfying `p` (`bytes().take_while(p).count()`) -/
def countWhile (p : UInt8 → Bool) : Bytes → Nat
  | [] => 0
  | b :: r => if p b then countWhile p r + 1 else 0

/-- A byte that is blank on its own: code points U+0000 ..= U+0020. -/
@[inline] def isBlankByte (b : UInt8) : Bool := b ≤ 0x20

/-- Length of the maximal blank prefix: bytes `≤ 0x20` and the sequence `E3 80 80` (U+3000).
    Model of `count_leading_whitespace` / `count_unicode_whitespace` of lexer.rs (they agree
    with this on valid UTF-8). -/
def countLeadingWs : Bytes → Nat
  | [] => 0
  | 0xE3 :: 0x80 :: 0x80 :: r => countLeadingWs r + 3
  | b :: r => if b ≤ 0x20 then countLeadingWs r + 1 else 0

/-- blank run of a *reversed* text (U+3000 appears as `80 80 E3`). -/
def countLeadingWsRev : Bytes → Nat
  | [] => 0
  | 0x80 :: 0x80 :: 0xE3 :: r => countLeadingWsRev r + 3
  | b :: r => if b ≤ 0x20 then countLeadingWsRev r + 1 else 0

/-- `count_unicode_whitespace(input.chars().rev())` -/
def countTrailingWs (s : Bytes) : Nat := countLeadingWsRev s.reverse

/-- removes every blank (bytes ≤ 0x20 and E3 80 80) -/
def stripBlank : Bytes → Bytes
  | [] => []
  | 0xE3 :: 0x80 :: 0x80 :: r => stripBlank r
  | b :: r => if b ≤ 0x20 then stripBlank r else b :: stripBlank r

def BlankOnly (g : Bytes) : Prop := stripBlank g = []

instance (g : Bytes) : Decidable (BlankOnly g) := inferInstanceAs (Decidable (stripBlank g = []))

@[inline] def isUpper (b : UInt8) : Bool := 0x41 ≤ b && b ≤ 0x5A
@[inline] def isLower (b : UInt8) : Bool := 0x61 ≤ b && b ≤ 0x7A
@[inline] def isDigit (b : UInt8) : Bool := 0x30 ≤ b && b ≤ 0x39
@[inline] def isAlpha (b : UInt8) : Bool := isUpper b || isLower b
@[inline] def isAlnum (b : UInt8) : Bool := isAlpha b || isDigit b
/-- `u8::is_ascii_whitespace`: space, \t, \n, \x0C, \r (not \x0B) -/
@[inline] def isAsciiWs (b : UInt8) : Bool := b == 0x20 || b == 0x09 || b == 0x0A || b == 0x0C || b == 0x0D

@[inline] def toLowerByte (b : UInt8) : UInt8 := if isUpper b then b + 0x20 else b
@[inline] def toUpperByte (b : UInt8) : UInt8 := if isLower b then b - 0x20 else b

/-- ASCII lower-casing of a byte string (`to_ascii_lowercase`) -/
def asciiLower (s : Bytes) : Bytes := s.map toLowerByte
def asciiUpper (s : Bytes) : Bytes := s.map toUpperByte

/-- `eq_ignore_ascii_case` -/
def eqIgnoreCase (a b : Bytes) : Bool := asciiLower a == asciiLower b

/-- is `i` a char boundary of `s` in Rust's sense (0, len, or a non-continuation byte) -/
def isCharBoundary (s : Bytes) (i : Nat) : Bool :=
  if i == 0 then true
  else match s[i]? with
    | none => i == s.length
    | some b => !(0x80 ≤ b && b ≤ 0xBF)

@[inline] def isCont (b : UInt8) : Bool := 0x80 ≤ b && b ≤ 0xBF

/-- length of the well-formed UTF-8 character at the head of the text (Unicode Table 3-7), if any -/
def firstCharLen : Bytes → Option Nat
  | [] => none
  | b0 :: r =>
    if b0 < 0x80 then some 1
    else if 0xC2 ≤ b0 && b0 ≤ 0xDF then
      match r with
      | b1 :: _ => if isCont b1 then some 2 else none
      | _ => none
    else if 0xE0 ≤ b0 && b0 ≤ 0xEF then
      match r with
      | b1 :: b2 :: _ =>
        if (if b0 == 0xE0 then 0xA0 ≤ b1 && b1 ≤ 0xBF
            else if b0 == 0xED then 0x80 ≤ b1 && b1 ≤ 0x9F
            else isCont b1) && isCont b2 then some 3 else none
      | _ => none
    else if 0xF0 ≤ b0 && b0 ≤ 0xF4 then
      match r with
      | b1 :: b2 :: b3 :: _ =>
        if (if b0 == 0xF0 then 0x90 ≤ b1 && b1 ≤ 0xBF
            else if b0 == 0xF4 then 0x80 ≤ b1 && b1 ≤ 0x8F
            else isCont b1) && isCont b2 && isCont b3 then some 4 else none
      | _ => none
    else none

theorem firstCharLen_bounds (l : Bytes) (k : Nat) (h : firstCharLen l = some k) : 1 ≤ k ∧ k ≤ l.length := by
  revert h
  fun_cases firstCharLen l
  all_goals
    intro h
    cases h <;> (simp only [List.length_cons]; omega)

/-- Well-formed UTF-8: a sequence of well-formed characters. -/
def validUtf8 (l : Bytes) : Bool :=
  match h : firstCharLen l with
  | none => l.isEmpty
  | some k => validUtf8 (l.drop k)
termination_by l.length
decreasing_by
  have := firstCharLen_bounds l k h
  simp only [List.length_drop]
  omega

def ValidUtf8 (s : Bytes) : Prop := validUtf8 s = true

/-- every `E3` byte is followed by two continuation bytes inside the text (true of valid UTF-8) -/
def nd : Bytes → Bool
  | [] => true
  | 0xE3 :: b1 :: b2 :: r => isCont b1 && isCont b2 && nd r
  | 0xE3 :: _ => false
  | _ :: r => nd r

/-- `fold ∘ stripBlank`: the sequence of non-blank characters, ASCII letters lower-cased -/
def foldStrip (c : Bytes) : Bytes := asciiLower (stripBlank c)

/-- first index of byte `c` (memchr) -/
def findByte (c : UInt8) : Bytes → Option Nat
  | [] => none
  | b :: r => if b == c then some 0 else (findByte c r).map (· + 1)

/-- first index of a byte satisfying `p` -/
def findIdx (p : UInt8 → Bool) : Bytes → Option Nat
  | [] => none
  | b :: r => if p b then some 0 else (findIdx p r).map (· + 1)

/-- first index at which `pat` occurs (memmem::find); `pat` non-empty in all uses -/
def findSub (pat : Bytes) : Bytes → Option Nat
  | [] => if pat.isEmpty then some 0 else none
  | b :: r => if pat.isPrefixOf (b :: r) then some 0 else (findSub pat r).map (· + 1)

/-- last index of byte `c` (rfind of an ASCII char) -/
def rfindByte (c : UInt8) (s : Bytes) : Option Nat :=
  match findByte c s.reverse with
  | none => none
  | some k => some (s.length - 1 - k)

def containsByte (c : UInt8) (s : Bytes) : Bool := s.any (· == c)

def countByte (c : UInt8) (s : Bytes) : Nat := (s.filter (· == c)).length

def replicateBytes (n : Nat) (s : Bytes) : Bytes := (List.replicate n s).flatten

-- hex helpers for the line protocol
def hexDigit (n : Nat) : Char :=
  if n < 10 then Char.ofNat (48 + n) else Char.ofNat (87 + n)

def toHex (s : Bytes) : String :=
  if s.isEmpty then "-" else
  String.ofList (s.foldr (fun b acc => hexDigit (b.toNat / 16) :: hexDigit (b.toNat % 16) :: acc) [])

def hexVal (c : Char) : Option Nat :=
  if '0' ≤ c ∧ c ≤ '9' then some (c.toNat - 48)
  else if 'a' ≤ c ∧ c ≤ 'f' then some (c.toNat - 87)
  else if 'A' ≤ c ∧ c ≤ 'F' then some (c.toNat - 55)
  else none

def ofHexChars : List Char → Option Bytes
  | [] => some []
  | a :: b :: r => do
    let x ← hexVal a
    let y ← hexVal b
    let rest ← ofHexChars r
    pure (UInt8.ofNat (x * 16 + y) :: rest)
  | _ => none

def ofHex (s : String) : Option Bytes :=
  if s == "-" then some [] else ofHexChars s.toList

end Pasfmt
