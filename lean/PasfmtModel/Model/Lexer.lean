/-
  Exact model of core/src/defaults/lexer.rs.

  Every sub-lexer receives the bytes starting at the token's first byte (`tok`, never empty)
  and returns the token's total length in bytes and its kind.  The dispatch tables, the
  keyword table and the perfect-hash constants come from the translator (`Generated/`).
  Rust's `input.len()`-relative results (`consume_to_eof`, unterminated literals) are
  expressed relative to `tok` with `trim` = `count_unicode_whitespace(input.chars().rev())`
  computed once on the whole remaining input, exactly as the code does.
-/
import PasfmtModel.Model.Bytes
import PasfmtModel.Generated.Lang
import PasfmtModel.Generated.Keywords
import PasfmtModel.Generated.LexTables

namespace Pasfmt


abbrev RawKind := RawTokenType
abbrev Kind := TokenType

structure LexState where
  isFirst : Bool
  inAsm : Bool
  prevReal : Option RawKind
  deriving Repr, DecidableEq

def LexState.init : LexState := { isFirst := true, inAsm := false, prevReal := none }

def RawTokenType.isCommentOrDirective : RawKind → Bool
  | .rComment _ => true
  | .rCompilerDirective => true
  | .rConditionalDirective _ => true
  | _ => false

def TokenType.isCommentOrDirective : Kind → Bool
  | .tComment _ => true
  | .tCompilerDirective => true
  | .tConditionalDirective _ => true
  | _ => false

/-! ### keywords -/

def assoValue (b : UInt8) : Nat := keywordAssoValues.getD b.toNat 0

/-- `hash_keyword` -/
def hashKeyword (w : Bytes) : Nat :=
  let n := w.length
  n + (if n ≥ 3 then assoValue (w.getD 2 0) else 0)
    + (if n ≥ 2 then assoValue (w.getD 1 0) else 0)
    + (if n ≥ 1 then assoValue (w.getD 0 0) + assoValue (w.getD (n - 1) 0) else 0)

def maxWordLength : Nat := keywords.foldl (fun m e => max m e.1.length) 0

def lookupTableSize : Nat := keywordAssoValues.getD 0 0

/-- `make_keyword_lookup_table`; `none` = the Rust const evaluation would panic (collision / out of range) -/
def mkLookupTable : List (Bytes × RawKind) → Option (List (Option (Bytes × RawKind)))
  | [] => some (List.replicate lookupTableSize none)
  | e :: rest =>
    match mkLookupTable rest with
    | none => none
    | some t =>
      let h := hashKeyword e.1
      if h < t.length then
        match t.getD h none with
        | none => some (t.set h (some e))
        | some _ => none
      else none

def lookupTable : List (Option (Bytes × RawKind)) := (mkLookupTable keywords).getD []

/-- `get_word_token_type` -/
def wordKind (w : Bytes) : RawKind :=
  if w.length ≤ maxWordLength then
    match lookupTable.getD (hashKeyword w) none with
    | some (cand, k) => if eqIgnoreCase w cand then k else .rIdentifier
    | none => .rIdentifier
  else .rIdentifier

/-! ### identifiers -/

@[inline] def isIdentAscii (b : UInt8) : Bool := isAlnum b || b == 0x5F

/-- `find_identifier_end_generic` relative to a char boundary: ASCII identifier bytes and every
    non-ASCII character except U+3000 (E3 80 80). -/
def identLen : Bytes → Nat
  | [] => 0
  | 0xE3 :: 0x80 :: 0x80 :: _ => 0
  | b :: r => if isIdentAscii b || b ≥ 0x80 then identLen r + 1 else 0

/-- signed 8-bit value of a lane (`epi8`) -/
def laneSigned (b : UInt8) : Int := if b < 0x80 then (b.toNat : Int) else (b.toNat : Int) - 256

/-- `range_mask(x, lo..=hi)`: `cmpgt(hi+1, x) & cmpgt(x, lo-1)` on signed lanes -/
def laneRange (lo hi : UInt8) (x : UInt8) : Bool :=
  decide ((hi.toNat : Int) + 1 > laneSigned x) && decide (laneSigned x > (lo.toNat : Int) - 1)

/-- the `ident_mask` lane of `find_identifier_end_avx2` -/
def laneIdent (x : UInt8) : Bool :=
  x == 0x5F || (laneRange 0x41 0x5A x || (laneRange 0x61 0x7A x || laneRange 0x30 0x39 x))

/-- `find_identifier_end_avx2` relative to the current offset; `fuel` bounds the number of chunks -/
def identLenSimd : Nat → Bytes → Nat
  | 0, l => identLen l
  | fuel + 1, l =>
    if simdChunkBytes ≤ l.length ∧ 0 < simdChunkBytes then
      let chunk := l.take simdChunkBytes
      if chunk.any (fun b => b ≥ 0x80) then identLen l
      else
        let ones := countWhile laneIdent chunk   -- trailing_ones of the movemask
        if ones < simdChunkBytes then ones
        else simdChunkBytes + identLenSimd fuel (l.drop simdChunkBytes)
    else identLen l

/-! ### numbers -/

@[inline] def isDecimalByte (b : UInt8) : Bool := b == 0x5F || isDigit b
@[inline] def isHexByte (b : UInt8) : Bool :=
  b == 0x5F || isDigit b || (0x61 ≤ b && b ≤ 0x66) || (0x41 ≤ b && b ≤ 0x46)
@[inline] def isBinaryByte (b : UInt8) : Bool := b == 0x5F || b == 0x30 || b == 0x31

def countDecimal (l : Bytes) : Nat := countWhile isDecimalByte l
def countHex (l : Bytes) : Nat := countWhile isHexByte l
def countBinary (l : Bytes) : Nat := countWhile isBinaryByte l
def countFullDecimal (l : Bytes) : Nat :=
  match l with
  | 0x5F :: _ => 0
  | _ => countDecimal l

/-- `dec_number_literal`; `r` = bytes after the first digit; returns bytes consumed from `r` -/
def decNumberRest (r : Bytes) : Nat :=
  let n1 := countDecimal r
  let r1 := r.drop n1
  let n2 :=
    match r1 with
    | 0x2E :: r2 =>
      let f := countFullDecimal r2
      if f > 0 then 1 + f else 0
    | _ => 0
  let r3 := r1.drop n2
  let n3 :=
    match r3 with
    | b :: r4 =>
      if b == 0x65 || b == 0x45 then
        match r4 with
        | s :: r5 =>
          if s == 0x2B || s == 0x2D then 2 + countFullDecimal r5 else 1 + countFullDecimal r4
        | [] => 1
      else 0
    | [] => 0
  n1 + n2 + n3

/-- `asm_number_literal`; `first` = the first digit, `r` the rest -/
def asmNumberRest (first : UInt8) (r : Bytes) : Nat × NumberLiteralKind :=
  let n := countHex r
  match r.drop n with
  | b :: _ =>
    if b == 0x4F || b == 0x6F then (n + 1, .nOctal)
    else if b == 0x48 || b == 0x68 then (n + 1, .nHex)
    else
      let prev := if n == 0 then first else r.getD (n - 1) 0
      if prev == 0x42 || prev == 0x62 then (n, .nBinary) else (n, .nDecimal)
  | [] =>
    let prev := if n == 0 then first else r.getD (n - 1) 0
    if prev == 0x42 || prev == 0x62 then (n, .nBinary) else (n, .nDecimal)

/-! ### text literals -/

inductive ParseState where
  | cont (n : Nat)
  | stop (n : Nat)
  | unterminated (n : Nat)
  deriving Repr, DecidableEq

/-- `consume_pascal_str`: `n` = how far the offset moved -/
def consumePascalStr (l : Bytes) : ParseState :=
  match l with
  | 0x27 :: r =>
    if r.isEmpty then .unterminated 1
    else
      match findIdx (fun b => b == 0x27 || b == 0x0A || b == 0x0D) r with
      | some pos =>
        if r.getD pos 0 == 0x27 then .cont (1 + pos + 1) else .unterminated (1 + pos)
      | none => .unterminated (1 + r.length)
  | _ => .stop 0

/-- one `#…` escape starting at `#`: `.inl n` = `n` bytes consumed, `.inr n` = Unterminated after moving `n` -/
def consumeOneEscape (afterHash : Bytes) : Sum Nat Nat :=
  match afterHash with
  | b :: r =>
    if isDigit b || b == 0x5F then .inl (2 + countDecimal r)
    else if b == 0x24 then
      (match countHex r with
       | 0 => .inr 2
       | c => .inl (2 + c))
    else if b == 0x25 then
      (match countBinary r with
       | 0 => .inr 2
       | c => .inl (2 + c))
    else .inr 1
  | [] => .inr 1

/-- `consume_escaped_chars` (never returns Stop) -/
def consumeEscapedChars : Nat → Bytes → ParseState
  | 0, _ => .cont 0
  | fuel + 1, l =>
    match l with
    | 0x23 :: r =>
      match consumeOneEscape r with
      | .inl n =>
        (match consumeEscapedChars fuel (l.drop n) with
         | .cont m => .cont (n + m)
         | .stop m => .stop (n + m)
         | .unterminated m => .unterminated (n + m))
      | .inr n => .unterminated n
    | _ => .cont 0

/-- the alternating loop of `text_literal` -/
def textLiteralLoop : Nat → Bytes → Nat × TextLiteralKind
  | 0, _ => (0, .tSingleLine)
  | fuel + 1, l =>
    match consumeEscapedChars (l.length + 1) l with
    | .unterminated n => (n, .tUnterminated)
    | .stop n => (n, .tSingleLine)
    | .cont n =>
      let l' := l.drop n
      match consumePascalStr l' with
      | .unterminated m => (n + m, .tUnterminated)
      | .stop m => (n + m, .tSingleLine)
      | .cont m =>
        let (k, kind) := textLiteralLoop fuel (l'.drop m)
        (n + m + k, kind)

/-- `text_literal`; `l` starts at the first byte of the literal (`'` or `#`) -/
def textLiteral (l : Bytes) : Nat × TextLiteralKind :=
  let qc := countWhile (· == 0x27) l
  let afterQ := l.drop qc
  if qc ≥ 3 && qc % 2 == 1 && (match afterQ with | b :: _ => b == 0x0D || b == 0x0A | [] => false) then
    match findSub (l.take qc) afterQ with
    | some pos => (qc + pos + qc, .tMultiLine)
    | none => (l.length, .tUnterminated)
  else textLiteralLoop (l.length + 1) l

/-- `asm_text_literal`; `r` = bytes after the opening `"`; returns bytes consumed from `r` -/
def asmTextLiteralRest : Bytes → Nat × TextLiteralKind
  | [] => (0, .tUnterminated)
  | 0x5C :: [] => (1, .tUnterminated)
  | 0x5C :: _ :: r => let (n, k) := asmTextLiteralRest r; (n + 2, k)
  | 0x22 :: _ => (1, .tAsm)
  | b :: r =>
    if b == 0x0A || b == 0x0D then (0, .tUnterminated)
    else let (n, k) := asmTextLiteralRest r; (n + 1, k)

/-! ### comments and directives -/

inductive BlockCommentKind where
  | parenStar
  | brace
  deriving DecidableEq, Repr

/-- `find_block_comment_end` relative to `l` -/
def findBlockCommentEnd (k : BlockCommentKind) (l : Bytes) : Option Nat :=
  match k with
  | .parenStar => (findSub [0x2A, 0x29] l).map (· + 2)
  | .brace => (findByte 0x7D l).map (· + 1)

@[inline] def isDirectiveNameByte (b : UInt8) : Bool := isAlnum b || b == 0x5F

/-- `conditional_directive_type` -/
def conditionalDirectiveType (l : Bytes) : Nat × Option ConditionalDirectiveKind :=
  let n := countWhile isDirectiveNameByte l
  let w := asciiLower (l.take n)
  let kind :=
    if w == "if".toUTF8.toList then some .dIf
    else if w == "ifdef".toUTF8.toList then some .dIfdef
    else if w == "ifndef".toUTF8.toList then some .dIfndef
    else if w == "ifopt".toUTF8.toList then some .dIfopt
    else if w == "elseif".toUTF8.toList then some .dElseif
    else if w == "else".toUTF8.toList then some .dElse
    else if w == "ifend".toUTF8.toList then some .dIfend
    else if w == "endif".toUTF8.toList then some .dEndif
    else none
  (n, kind)

/-- end of a line comment relative to `l` (the bytes after `//`) -/
def lineCommentEnd (l : Bytes) : Nat :=
  match findIdx (fun b => b == 0x0A || b == 0x0D) l with
  | some o => o
  | none => l.length

/-- end offset returned by `block_comment`/`block_comment_alt` relative to `l` (after the opener) -/
def blockCommentEndOrEof (k : BlockCommentKind) (trim : Nat) (l : Bytes) : Nat :=
  match findBlockCommentEnd k l with
  | some e => e
  | none => l.length - trim

/-- shift a scan result by the `n` bytes consumed before it -/
def shiftEnd (n : Nat) : Option (Option Nat) → Option (Option Nat)
  | none => none
  | some none => some none
  | some (some e) => some (some (n + e))

/-- `{$if …}` / `{$elseif …}`: the directives whose body is an expression that may nest comments -/
def isExprDirective : Option ConditionalDirectiveKind → Bool
  | some .dIf => true
  | some .dElseif => true
  | _ => false

/-- Result of the directive-expression scan: `none` = out of fuel (never happens with the fuel
    supplied by `compilerDirective`, see `DirEnd.total`, `dirEnd_iff` and `compilerDirective_ne_none` in `Proofs/LexSpecs2`), `some none` = Rust's `None`,
    `some (some n)` = end offset relative to `l`. -/
def findDirectiveExprEnd (trim : Nat) : Nat → BlockCommentKind → Bytes → Option (Option Nat)
  | 0, _, _ => none
  | fuel + 1, kind, l =>
    -- continue the loop after consuming `n` bytes
    let continueAt (n : Nat) : Option (Option Nat) :=
      shiftEnd n (findDirectiveExprEnd trim fuel kind (l.drop n))
    -- a nested `{$…}` / `(*$…*)` directive whose name starts at `r`, `skip` bytes into `l`
    let nested (skip : Nat) (k2 : BlockCommentKind) (r : Bytes) : Option (Option Nat) :=
      let nameLen := (conditionalDirectiveType r).1
      let r' := r.drop nameLen
      let inner : Option (Option Nat) :=
        if isExprDirective (conditionalDirectiveType r).2 then findDirectiveExprEnd trim fuel k2 r'
        else some (findBlockCommentEnd k2 r')
      match inner with
      | none => none
      | some none => some none
      | some (some e) => continueAt (skip + nameLen + e)
    match l with
    | [] => some none
    | b0 :: r0 =>
      if kind == .parenStar && b0 == 0x2A && r0.head? == some 0x29 then some (some 2)
      else if kind == .brace && b0 == 0x7D then some (some 1)
      else if b0 == 0x28 && r0.head? == some 0x2A && r0.tail.head? == some 0x24 then
        nested 3 .parenStar (r0.drop 2)
      else if b0 == 0x7B && r0.head? == some 0x24 then
        nested 2 .brace (r0.drop 1)
      else if b0 == 0x28 && r0.head? == some 0x2A then
        continueAt (2 + blockCommentEndOrEof .parenStar trim (r0.drop 1))
      else if b0 == 0x7B then
        continueAt (1 + blockCommentEndOrEof .brace trim r0)
      else if b0 == 0x27 then
        continueAt (textLiteral l).1
      else if b0 == 0x2F && r0.head? == some 0x2F then
        continueAt (2 + lineCommentEnd (r0.drop 1))
      else continueAt 1

/-- `parse_directive_expr`; `l` starts at the directive name (after `{$` / `(*$`). -/
def parseDirectiveExpr (trim : Nat) (fuel : Nat) (kind : BlockCommentKind) (l : Bytes) :
    Option ConditionalDirectiveKind × Option (Option Nat) :=
  let nameLen := (conditionalDirectiveType l).1
  let cdk := (conditionalDirectiveType l).2
  let r := l.drop nameLen
  if isExprDirective cdk then (cdk, shiftEnd nameLen (findDirectiveExprEnd trim fuel kind r))
  else (cdk, shiftEnd nameLen (some (findBlockCommentEnd kind r)))

/-- enough fuel for every call tree of `findDirectiveExprEnd` on `l` -/
def directiveFuel (l : Bytes) : Nat := 2 * l.length + 2

/-- `compiler_directive`; `l` = bytes after `{$`/`(*$`, `openLen` = 2 or 3, `tokLen` = length of
    the bytes from the token start to the end of input.  `none` = out of fuel. -/
def compilerDirective (trim : Nat) (kind : BlockCommentKind) (openLen tokLen : Nat) (l : Bytes) :
    Option (Nat × Option ConditionalDirectiveKind) :=
  match parseDirectiveExpr trim (directiveFuel l) kind l with
  | (_, none) => none
  | (tt, some (some e)) => some (openLen + e, tt)
  | (tt, some none) => some (tokLen - trim, tt)

def blockCommentKind (nlBefore nlInside : Bool) : CommentKind :=
  if nlInside then .cMultilineBlock else if nlBefore then .cIndividualBlock else .cInlineBlock

/-- `_block_comment`; `l` = bytes after the opener -/
def blockComment (trim : Nat) (kind : BlockCommentKind) (openLen tokLen : Nat) (nlBefore : Bool)
    (l : Bytes) : Nat × CommentKind :=
  match findBlockCommentEnd kind l with
  | some e => (openLen + e, blockCommentKind nlBefore (containsByte 0x0A (l.take e)))
  | none => (tokLen - trim, .cMultilineBlock)

/-- kind of a `{$…}` token: conditional directive or plain compiler directive -/
def dirKind : Option ConditionalDirectiveKind → RawKind
  | some c => .rConditionalDirective c
  | none => .rCompilerDirective

/-! ### dispatch -/

structure LexOut where
  len : Nat
  kind : RawKind
  inAsm : Bool

/-- run one sub-lexer. `b` = first byte, `r` = bytes after it, `nlBefore` = leading whitespace
    contains `\n` or this is the first token, `trim` as above.  `none` = out of fuel. -/
def runSub (st : LexState) (sub : SubLexer) (b : UInt8) (r : Bytes) (nlBefore : Bool)
    (trimF : Unit → Nat) (simd : Bool) : Option LexOut :=
  let keep (n : Nat) (k : RawKind) : Option LexOut := some { len := n, kind := k, inAsm := st.inAsm }
  let op (n : Nat) (o : OperatorKind) : Option LexOut := keep n (.rOp o)
  let idLen (l : Bytes) : Nat := if simd then identLenSimd (l.length + 1) l else identLen l
  -- `ampersand` and the number/identifier sub-lexers it forwards to
  let unicodeIdent (r : Bytes) : Nat :=
    let k := countWhile isCont r
    k + idLen (r.drop k)
  match sub with
  | .plus => op 1 .oPlus
  | .minus => op 1 .oMinus
  | .star => op 1 .oStar
  | .comma => op 1 .oComma
  | .semicolon => op 1 .oSemicolon
  | .equal => op 1 (.oEqual .eComp)
  | .caret => op 1 (.oCaret .caDeref)
  | .address_of => op 1 .oAddressOf
  | .l_brack => op 1 .oLBrack
  | .r_brack => op 1 .oRBrack
  | .r_paren => op 1 .oRParen
  | .colon => (match r with | 0x3D :: _ => op 2 .oAssign | _ => op 1 .oColon)
  | .l_angle =>
    (match r with
     | 0x3D :: _ => op 2 .oLessEqual
     | 0x3E :: _ => op 2 .oNotEqual
     | _ => op 1 (.oLessThan .chComp))
  | .r_angle => (match r with | 0x3D :: _ => op 2 .oGreaterEqual | _ => op 1 (.oGreaterThan .chComp))
  | .dot =>
    (match r with
     | 0x2E :: _ => op 2 .oDotDot
     | 0x29 :: _ => op 2 .oRBrack
     | _ => op 1 .oDot)
  | .slash =>
    (match r with
     | 0x2F :: r' =>
       keep (2 + lineCommentEnd r') (.rComment (if nlBefore then .cIndividualLine else .cInlineLine))
     | _ => op 1 .oSlash)
  | .l_paren =>
    (match r with
     | 0x2A :: 0x24 :: r' =>
       (compilerDirective (trimF ()) .parenStar 3 (r.length + 1) r').map fun (n, k) => { len := n, kind := dirKind k, inAsm := st.inAsm }
     | 0x2A :: r' =>
       let (n, k) := blockComment (trimF ()) .parenStar 2 (r.length + 1) nlBefore r'
       keep n (.rComment k)
     | 0x2E :: _ => op 2 .oLBrack
     | _ => op 1 .oLParen)
  | .l_brace =>
    (match r with
     | 0x24 :: r' =>
       (compilerDirective (trimF ()) .brace 2 (r.length + 1) r').map fun (n, k) => { len := n, kind := dirKind k, inAsm := st.inAsm }
     | _ =>
       let (n, k) := blockComment (trimF ()) .brace 1 (r.length + 1) nlBefore r
       keep n (.rComment k))
  | .text_literal => let (n, k) := textLiteral (b :: r); keep n (.rTextLiteral k)
  | .ampersand =>
    let a := countWhile (· == 0x26) r
    (match r.drop a with
     | c :: r' =>
       if c == 0x24 then keep (1 + a + 1 + countHex r') (.rNumberLiteral .nHex)
       else if c == 0x25 then keep (1 + a + 1 + countBinary r') (.rNumberLiteral .nBinary)
       else if isDigit c then keep (1 + a + 1 + decNumberRest r') (.rNumberLiteral .nDecimal)
       else if isAlpha c || c == 0x5F then keep (1 + a + 1 + idLen r') .rIdentifier
       else if c ≥ 0x80 && !(List.isPrefixOf [0xE3, 0x80, 0x80] (c :: r')) then keep (1 + a + 1 + unicodeIdent r') .rIdentifier
       else keep (1 + a) .rUnknown
     | [] => keep (1 + a) .rUnknown)
  | .binary_number_literal => keep (1 + countBinary r) (.rNumberLiteral .nBinary)
  | .hex_number_literal => keep (1 + countHex r) (.rNumberLiteral .nHex)
  | .dec_number_literal => keep (1 + decNumberRest r) (.rNumberLiteral .nDecimal)
  | .identifier => keep (1 + idLen r) .rIdentifier
  | .unicode_identifier => keep (1 + unicodeIdent r) .rIdentifier
  | .identifier_or_keyword =>
    let n := 1 + idLen r
    let k : RawKind :=
      if st.prevReal == some (.rOp .oDot) then .rIdentifier else wordKind ((b :: r).take n)
    some { len := n, kind := k, inAsm := k == .rKeyword .kAsm }
  | .asm_label => keep (1 + countWhile (fun x => asmIdentCharSet.getD x.toNat false) r) .rIdentifier
  | .asm_identifier =>
    let n := 1 + idLen r
    let w := (b :: r).take n
    if eqIgnoreCase w "end".toUTF8.toList then some { len := n, kind := .rKeyword .kEnd, inAsm := false }
    else if eqIgnoreCase w "asm".toUTF8.toList then keep n (.rKeyword .kAsm)
    else keep n .rIdentifier
  | .asm_text_literal => let (n, k) := asmTextLiteralRest r; keep (1 + n) (.rTextLiteral k)
  | .asm_number_literal => let (n, k) := asmNumberRest b r; keep (1 + n) (.rNumberLiteral k)
  | .unknown => keep 1 .rUnknown

structure RawTok where
  ws : Bytes
  content : Bytes
  kind : RawKind
  deriving Repr, DecidableEq

/-- `whitespace_and_token`: `(wsLen, endExclusive, kind, st')`, `none` at end of input
    (outer option: `none` = out of fuel in the directive scanner). -/
def lexOne (simd : Bool) (st : LexState) (inp : Bytes) : Option (Option (Nat × Nat × RawKind × LexState)) :=
  let ws := countLeadingWs inp
  match inp.drop ws with
  | [] => some none
  | b :: r =>
    let map := if st.inAsm then asmLexerMap else lexerMap
    let sub := map.getD b.toNat .unknown
    let nlBefore := containsByte 0x0A (inp.take ws) || st.isFirst
    match runSub st sub b r nlBefore (fun _ => countTrailingWs inp) simd with
    | none => none
    | some o =>
      let st' : LexState :=
        { isFirst := false, inAsm := o.inAsm,
          prevReal := if o.kind.isCommentOrDirective then st.prevReal else some o.kind }
      some (some (ws, ws + o.len, o.kind, st'))

/-- `e ≤ l.length`, in `O(e)` -/
def leLength : Nat → Bytes → Bool
  | 0, _ => true
  | _ + 1, [] => false
  | n + 1, _ :: r => leLength n r

/-- `lex` + `lex_complete`.  `none` = the real lexer would panic or fail to make progress
    (slice out of range, `assert!(remaining.is_empty())`), or the model ran out of fuel.
    `Proofs/LexTotal.lean` proves this never happens. -/
def lexFuel (simd : Bool) : Nat → LexState → Bytes → Option (List RawTok)
  | 0, _, _ => none
  | fuel + 1, st, inp =>
    match lexOne simd st inp with
    | none => none
    | some none =>
      -- `eof`: the rest is whitespace only
      some [{ ws := inp, content := [], kind := .rEof }]
    | some (some (ws, e, kind, st')) =>
      if ws < e ∧ leLength e inp then
        match lexFuel simd fuel st' (inp.drop e) with
        | none => none
        | some toks => some ({ ws := inp.take ws, content := (inp.take e).drop ws, kind := kind } :: toks)
      else none

def lexWith (simd : Bool) (inp : Bytes) : Option (List RawTok) := lexFuel simd (inp.length + 1) LexState.init inp

/-- the lexer with the scalar identifier routine (defines the semantics) -/
def lex (inp : Bytes) : Option (List RawTok) := lexWith false inp

end Pasfmt
