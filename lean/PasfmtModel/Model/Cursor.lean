/-
  Exact model of cursor tracking in defaults/reconstructor.rs:
  `process_cursors`, `relocate_cursors`, `offset_for_token`, `ws_len`, `nonbreaking_ws_len`,
  `col_for_token_end_pre_fmt`, `col_for_token_end_post_fmt`.
  Every `usize` subtraction is checked (`none` = the debug build panics, the release build wraps);
  `as u16` casts truncate.
-/
import PasfmtModel.Model.Recon

namespace Pasfmt

inductive TokPos where
  | content (offset : Nat)
  | multiline (reverseCol : Nat) (newlinesAfter : Nat)
  | whitespace (col : Nat) (newlinesAfter : Nat)
  deriving Repr, DecidableEq

structure ICursor where
  tokIdx : Nat
  pos : TokPos
  deriving Repr, DecidableEq

@[inline] def asU16 (n : Nat) : Nat := n % 65536
@[inline] def asU32 (n : Nat) : Nat := n % 4294967296

def checkedSub (a b : Nat) : Option Nat := if b ≤ a then some (a - b) else none

def RawTok.strLen (t : RawTok) : Nat := t.ws.length + t.content.length

/-- `col_for_token_end_pre_fmt(tokens, idx)` walking backwards from `idx`; the argument is the list of the tokens
    `idx, idx-1, …, 0` -/
def colEndPre : List RawTok → Nat
  | [] => 0
  | t :: r =>
    let s := t.ws ++ t.content
    match rfindByte 0x0A s with
    | some pos => s.length - (pos + 1)
    | none => s.length + colEndPre r

def isMultilineRawKind : RawKind → Bool
  | .rTextLiteral .tMultiLine => true
  | .rComment .cMultilineBlock => true
  | _ => false

/-- position of one cursor: walk the tokens until the remaining offset fits; `seen` = tokens before
    the current one, most recent first -/
def processCursorGo (idx : Nat) (rem : Nat) (seen : List RawTok) : List RawTok → Option ICursor
  | [] => none
  | t :: rest =>
    if rem ≤ t.strLen then
      if t.ws.length ≤ rem then
        let tokPos := rem - t.ws.length
        if isMultilineRawKind t.kind then
          let after := t.content.drop tokPos
          let reverseCol := match findByte 0x0A after with | some p => p | none => after.length
          some { tokIdx := idx, pos := .multiline (asU16 reverseCol) (asU16 (countByte 0x0A after)) }
        else some { tokIdx := idx, pos := .content (asU32 tokPos) }
      else
        let before := t.ws.take rem
        let after := t.ws.drop rem
        let col := match rfindByte 0x0A before with
          | some p => before.length - 1 - p
          | none => before.length + colEndPre seen
        some { tokIdx := idx, pos := .whitespace (asU16 col) (asU16 (countByte 0x0A after)) }
    else processCursorGo (idx + 1) (rem - t.strLen) (t :: seen) rest

/-- `process_cursors` for one cursor -/
def processCursor (raw : List RawTok) (c : Nat) : ICursor :=
  match processCursorGo 0 c [] raw with
  | some ic => ic
  | none => { tokIdx := raw.length, pos := .content 0 }

structure NonBreakingWs where
  len : Nat
  breakFound : Bool

def nonbreakingWsLen (S : Settings) (t : FTok) : NonBreakingWs :=
  if t.fmt.ignored then
    match rfindByte 0x0A t.tok.ws with
    | some p => { len := t.tok.ws.length - (p + 1), breakFound := true }
    | none => { len := t.tok.ws.length, breakFound := false }
  else
    { len := t.fmt.sp + t.fmt.cont * S.contStr.length + t.fmt.ind * S.indStr.length,
      breakFound := t.fmt.nl > 0 }

def wsLen (S : Settings) (t : FTok) : Nat :=
  if t.fmt.ignored then t.tok.ws.length
  else (nonbreakingWsLen S t).len + t.fmt.nl * S.nlStr.length

/-- `offset_for_token` -/
def offsetForToken (S : Settings) : FT → Nat → Nat
  | [], _ => 0
  | t :: r, idx =>
    match idx with
    | 0 => wsLen S t
    | k + 1 => wsLen S t + t.tok.content.length + offsetForToken S r k

/-- `col_for_token_end_post_fmt`; the argument is the list of the tokens `idx, idx-1, …, 0`.  The subtraction
    `col -= pos + 1` cannot underflow (`pos < content.len()`) and is not checked here. -/
def colEndPost (S : Settings) : List FTok → Nat
  | [] => 0
  | t :: r =>
    let c := t.tok.content
    match rfindByte 0x0A c with
    | some pos => c.length - (pos + 1)
    | none =>
      let ws := nonbreakingWsLen S t
      if ws.breakFound then c.length + ws.len else c.length + ws.len + colEndPost S r

/-- length of the last `k` `\n`-separated pieces of `s`, each plus one (`rsplit('\n').take(k)`) -/
def lastPiecesLen (s : Bytes) (k : Nat) : Nat :=
  let pieces := (s.splitOn 0x0A).reverse
  ((pieces.take k).map (fun p => p.length + 1)).sum

/-- `relocate_cursors` for one cursor.  `none` = an unsigned subtraction underflows. -/
def relocate (S : Settings) (ft : FT) (ic : ICursor) : Option Nat :=
  let (t?, pos) : Option FTok × TokPos :=
    match ft[ic.tokIdx]? with
    | some t => (some t, ic.pos)
    | none =>
      match ft.getLast? with
      | some t => (some t, .content (asU32 t.tok.content.length))
      | none => (none, ic.pos)
  match t? with
  | none => some 0
  | some t =>
    let newOff := offsetForToken S ft ic.tokIdx
    match pos with
    | .content offset => some (asU32 (asU32 newOff + min offset (asU32 t.tok.content.length)))
    | .multiline reverseCol nlAfter =>
      let fromEnd := lastPiecesLen t.tok.content nlAfter + reverseCol
      (checkedSub (newOff + t.tok.content.length) fromEnd).map asU32
    | .whitespace col nlAfter =>
      let linesBack := min nlAfter t.fmt.nl
      if linesBack > 0 then
        let linesBack := if t.fmt.nl ≤ nlAfter && t.fmt.nl > 1 then linesBack - 1 else linesBack
        (checkedSub (newOff + S.nlStr.length * (t.fmt.nl - linesBack)) (wsLen S t)).map asU32
      else
        let colEnd := colEndPost S ((ft.take (ic.tokIdx + 1)).reverse)
        match checkedSub colEnd t.tok.content.length with
        | none => none
        | some colStart =>
          match checkedSub colStart (nonbreakingWsLen S t).len with
          | none => none
          | some colWsStart =>
            let clamped := max colWsStart (min col colStart)
            (checkedSub newOff (colStart - clamped)).map asU32

/-- `Formatter::format` with cursors: the reported offsets -/
def trackCursors (S : Settings) (raw : List RawTok) (ft : FT) (cursors : List Nat) : List (Option Nat) :=
  cursors.map fun c => relocate S ft (processCursor raw c)

end Pasfmt
