/-
  The whole wrapper stage with the search inside: the passes of `wrapStage` (Model/WrapStage.lean), with the solutions
  taken from the model of the search (Model/Search.lean), which is stateful (the child-line cache lives as long as the
  stage).  `wrapStageFull` is written out on its own - it does not call `wrapStage` - because it threads the search
  state and also returns the solutions it applied.
-/
import PasfmtModel.Model.Search

namespace Pasfmt

/-- apply the solutions the search finds for a list of top-level lines, in order; also returns them -/
def applyLinesS (phase : Nat) (lines : List Line) : List Nat → SearchState → FT → List (Nat × Nat × Sol) →
    Option (FT × SearchState × List (Nat × Nat × Sol))
  | [], st, ft, acc => some (ft, st, acc)
  | i :: rest, st, ft, acc =>
    match searchSolve st ft i with
    | (none, st') => applyLinesS phase lines rest st' ft acc
    | (some s, st') =>
      match applySol lines ft s i with
      | none => none
      | some ft1 => applyLinesS phase lines rest st' ft1 (acc ++ [(phase, i, s)])

/-- `OptimisingLineFormatter::format`, search included: final tokens and the solutions applied, in order -/
def wrapStageFull (cfg : Config) (lines : List Line) (ft : FT) : Option (FT × List (Nat × Nat × Sol)) :=
  let st0 := searchInit cfg lines ft
  match applyLinesS 0 lines (firstPassLines lines) st0 ft [] with
  | none => none
  | some (ft1, st1, sols1) =>
    if !cfg.fmtMls then some (zeroLineStartSpaces ft1, sols1)
    else
      match mlsPass1 cfg.settings lines lines.zipIdx ft1 [] with
      | none => none
      | some (ft2, toReflow) =>
        match applyLinesS 1 lines (sortDedup toReflow) st1 ft2 sols1 with
        | none => none
        | some (ft3, _, sols2) =>
          match mlsPass2 cfg.settings lines ft3 with
          | none => none
          | some ft4 => some (zeroLineStartSpaces ft4, sols2)

end Pasfmt
