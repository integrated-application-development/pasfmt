/-
  Executable side of two theorems about the closed model: the decidable premises of the layout-independence theorem
  (`C06.C06_format_full_checked`: `layoutPremisesB`) and of the canonical-counters theorem
  (`C08.C08_format_full_checked`: `canonPremisesB`).  The driver evaluates the reduced forms: `layoutPremisesB'` on every
  pair of the relayout stream `full2` (`C06.layoutPremises_iff`) and `canonPremisesB'` on every case of the `full` stream
  (`C08.C08_premises_reduced`).  Definitions only; the theorems are in Proofs/LayoutStage.lean, LayoutFull.lean,
  and CanonStage.lean.
-/
import PasfmtModel.Model.PipelineFull
import PasfmtModel.Model.Contracts

namespace Pasfmt

/-- the blank-line class of a line-break counter: what `reconstruct_solution` keeps at the first token of a line -/
def nlc (n : Nat) : Nat := min (max n 1) 2

mutual
/-- the tokens whose counters `applySol` overwrites -/
def solTokens (lines : List Line) : Sol → Nat → List Nat
  | .mk _ _ decs, lineIdx =>
    match lines[lineIdx]? with
    | none => []
    | some l => decsTokens lines l.tokens 0 decs

def decsTokens (lines : List Line) (toks : List Nat) (i : Nat) : List (Dec × List (Nat × Sol)) → List Nat
  | [] => []
  | (_, children) :: rest =>
    (match toks[i]? with | some t => [t] | none => []) ++ childrenTokens lines children ++ decsTokens lines toks (i + 1) rest

def childrenTokens (lines : List Line) : List (Nat × Sol) → List Nat
  | [] => []
  | (li, s) :: rest => solTokens lines s li ++ childrenTokens lines rest
end

/-- every token index below `n` is written by the eof rule / ignored (`W0`) or by a first-phase solution -/
def allWritten (lines : List Line) (W0 : Nat → Bool) (n : Nat) (sols : List (Nat × Nat × Sol)) : Bool :=
  (List.range n).all fun j => W0 j || sols.any fun x => x.1 == 0 && (solTokens lines x.2.2 x.2.1).contains j

/-- token `j` as `FormattedTokens::new_from_tokens` sees it -/
def preTok (kinds : List Kind) (marks : List Bool) (j : Nat) (t : RawTok) : FTok :=
  { tok := { ws := t.ws, content := t.content, kind := (kinds[j]?).getD t.kind.toTokenType },
    fmt := FmtData.ofWs t.ws (marks.getD j false) }

/-- the oracles `formatTokensFull` builds around a parse -/
def preO (alnum : Bytes → Bool) (po : ParserOut) : Oracles :=
  { parser := fun _ => po, wrap := fun _ _ ft => ft, alnum := alnum }

/-- the positions whose counters are final before the wrapper stage: verbatim tokens and the end-of-file token
    written by the end-of-file rule -/
def writtenBefore (lines : List Line) (ft : FT) (j : Nat) : Bool :=
  match ft[j]? with
  | some t => t.fmt.ignored ||
      (lines.any (fun l => l.ltype == .lEof) && (j + 1 == ft.length && t.tok.kind == .tEof))
  | none => false

/-- decidable form of `GapEqW` (Proofs/SpacingLayout.lean): what `TokenSpacing` can tell apart of two layouts:
    whether a gap is empty matters only between a literal or unknown token and a token that can keep its spacing
    (`keepsCur`), and in front of the end-of-file token -/
def gapEqWB : Bool → FT → FT → Bool
  | _, [], [] => true
  | po, t1 :: r1, t2 :: r2 =>
    (t1.tok.kind == t2.tok.kind) && (!po || !keepsCur t1.tok.kind || gapEmpty t1 == gapEmpty t2) &&
    (!(t1.tok.kind == .tEof) || min t1.fmt.sp 1 == min t2.fmt.sp 1) && gapEqWB (isOtherKind t1.tok.kind) r1 r2
  | _, _, _ => false


/-- `gapEqWB` without the clause for the end-of-file token (used by the status report only) -/
def gapEqWB0 : Bool → FT → FT → Bool
  | _, [], [] => true
  | po, t1 :: r1, t2 :: r2 =>
    (t1.tok.kind == t2.tok.kind) && (!po || !keepsCur t1.tok.kind || gapEmpty t1 == gapEmpty t2) && gapEqWB0 (isOtherKind t1.tok.kind) r1 r2
  | _, _, _ => false

/-- position `j` is "free": the token follows a line comment that shares its line with code and its own spacing rule
    can keep the input's spaces (`TokenSpacing` gives it none; the wrapper must break before it and never reads them);
    as a proposition: `FreeK` of Proofs/SearchMustBreak.lean (`freeK_of_freeAtB`) -/
def freeAtB (ft : FT) (j : Nat) : Bool :=
  decide (j ≥ 1) && ((ft[j - 1]?).map (·.tok.kind) == some (.tComment .cInlineLine)) &&
    (match ft[j]? with | some t => keepsCur t.tok.kind | none => false)

/-- every free token of `ft1` (the state before the wrapper stage) starts a line in `ftz` (the state after it) -/
def freeBrokenB (ft1 ftz : FT) : Bool :=
  ftz.zipIdx.all fun p => !freeAtB ft1 p.2 || decide (p.1.fmt.nl > 0)

/-- position `j` of two layouts: identical bytes in front of a verbatim token; a blank line in front of the token in
    both layouts or in neither -/
def sameGapB (marks : List Bool) (j : Nat) (a b : RawTok) : Bool :=
  (!(marks.getD j false) || a.ws == b.ws) &&
  (nlc (FmtData.ofWs a.ws false).nl == nlc (FmtData.ofWs b.ws false).nl)

def sameGapsGo (marks : List Bool) : Nat → List RawTok → List RawTok → Bool
  | _, [], _ => true
  | _, _, [] => true
  | j, a :: r, b :: r' => sameGapB marks j a b && sameGapsGo marks (j + 1) r r'

/-- the decidable form of `SameLayout` (Proofs/LayoutFull.lean): same scanned types and texts; `sameGapB` at every
    position; and `gapEqWB` on the two token states -/
def sameLayoutB (kinds : List Kind) (marks : List Bool) (raw1 raw2 : List RawTok) : Bool :=
  (raw1.map (fun t => (t.kind, t.content)) == raw2.map (fun t => (t.kind, t.content))) &&
  sameGapsGo marks 0 raw1 raw2 &&
  gapEqWB false (raw1.zipIdx.map (fun p => preTok kinds marks p.2 p.1)) (raw2.zipIdx.map (fun p => preTok kinds marks p.2 p.1))

/-- which premise of the layout theorem fails first for the pair (`hold` = all hold) -/
def layoutStatus (cfg : Config) (alnum : Bytes → Bool) (s1 s2 : Bytes) : String :=
  match lex s1, lex s2 with
  | some raw1, some raw2 =>
    match parseAndConsolidate raw1 with
    | none => "noparse"
    | some po =>
      let pw := preWrap (preO alnum po) raw1
      if !(raw1.map (fun t => (t.kind, t.content)) == raw2.map (fun t => (t.kind, t.content))) then "tokens"
      else if !(maskFlags false (raw1.map fun t => (t.kind, wsHasBreak t.ws)) ==
          maskFlags false (raw2.map fun t => (t.kind, wsHasBreak t.ws))) then "asmflags"
      else if !sameGapsGo pw.1 0 raw1 raw2 then "blanklines-or-verbatim"
      else if !gapEqWB0 false (raw1.zipIdx.map (fun p => preTok po.kinds pw.1 p.2 p.1))
          (raw2.zipIdx.map (fun p => preTok po.kinds pw.1 p.2 p.1)) then "gap-after-literal"
      else if !sameLayoutB po.kinds pw.1 raw1 raw2 then "gap-before-eof"
      else
        match wrapStageFull cfg pw.2.1 pw.2.2 with
        | none => "nostage"
        | some (ftz, sols) =>
          if !allWritten pw.2.1 (writtenBefore pw.2.1 pw.2.2) pw.2.2.length sols then "unwritten"
          else if !freeBrokenB pw.2.2 ftz then "continued-after-line-comment"
          else "hold"
  | _, _ => "nolex"

/-- all premises of the layout theorem hold for the pair -/
def layoutPremisesB (cfg : Config) (alnum : Bytes → Bool) (s1 s2 : Bytes) : Bool :=
  match lex s1, lex s2 with
  | some raw1, some raw2 =>
    match parseAndConsolidate raw1 with
    | none => false
    | some po =>
      let pw := preWrap (preO alnum po) raw1
      (maskFlags false (raw1.map fun t => (t.kind, wsHasBreak t.ws)) ==
          maskFlags false (raw2.map fun t => (t.kind, wsHasBreak t.ws))) &&
      sameLayoutB po.kinds pw.1 raw1 raw2 &&
      (match wrapStageFull cfg pw.2.1 pw.2.2 with
        | none => false
        | some (ftz, sols) =>
          allWritten pw.2.1 (writtenBefore pw.2.1 pw.2.2) pw.2.2.length sols && freeBrokenB pw.2.2 ftz)
  | _, _ => false

/-! ### canonical counters after the wrapper stage (C08) -/

/-- what applying a solution establishes: at most two line breaks, and no indentation without a line break -/
def canonWB (f : FmtData) : Bool := decide (f.nl ≤ 2) && (f.nl != 0 || (f.ind == 0 && f.cont == 0))

/-- the state before the wrapper stage is fit for the canonical-counters theorem: every token that is not kept
    verbatim has at most one space before it, and the tokens whose counters are final already (the end-of-file token
    written by the end-of-file rule) have canonical ones -/
def preStageOkB (lines : List Line) (ft : FT) : Bool :=
  ft.zipIdx.all fun p => p.1.fmt.ignored || (decide (p.1.fmt.sp ≤ 1) && (!(writtenBefore lines ft p.2) || canonWB p.1.fmt))

/-- all premises of the canonical-counters theorem for the closed model hold on input `s` -/
def canonPremisesB (cfg : Config) (alnum : Bytes → Bool) (s : Bytes) : Bool :=
  match lex s with
  | none => false
  | some raw =>
    match parseAndConsolidate raw with
    | none => false
    | some po =>
      let pw := preWrap (preO alnum po) raw
      preStageOkB pw.2.1 pw.2.2 &&
      (match wrapStageFull cfg pw.2.1 pw.2.2 with
        | none => false
        | some (_, sols) => allWritten pw.2.1 (writtenBefore pw.2.1 pw.2.2) pw.2.2.length sols)

/-! ### the layout premises without the checked "free tokens are broken" (proved: Proofs/SearchMustBreak.lean) -/

/-- no free token (`freeAtB`) is among the tokens whose counters are final before the wrapper stage (`writtenBefore`:
    verbatim tokens and the end-of-file token written by the end-of-file rule) -/
def freeNotBeforeB (lines : List Line) (ft : FT) : Bool :=
  (List.range ft.length).all fun j => !(freeAtB ft j && writtenBefore lines ft j)

/-- `freeBrokenB` restricted to the tokens the search never writes (`writtenBefore`: verbatim tokens and the end-of-file
    token written by the end-of-file rule): each of them that is free starts a line in `ftz`.  Implied by
    `freeNotBeforeB` (there are none) and by `freeBrokenB` -/
def freeBeforeBrokenB (lines : List Line) (ft ftz : FT) : Bool :=
  ftz.zipIdx.all fun p => !(freeAtB ft p.2 && writtenBefore lines ft p.2) || decide (p.1.fmt.nl > 0)

/-- `layoutPremisesB` with `freeBeforeBrokenB` (which only looks at tokens no solution of the search writes) in place
    of the premise `freeBrokenB` (a statement about what the search decided) -/
def layoutPremisesB' (cfg : Config) (alnum : Bytes → Bool) (s1 s2 : Bytes) : Bool :=
  match lex s1, lex s2 with
  | some raw1, some raw2 =>
    match parseAndConsolidate raw1 with
    | none => false
    | some po =>
      let pw := preWrap (preO alnum po) raw1
      (maskFlags false (raw1.map fun t => (t.kind, wsHasBreak t.ws)) ==
          maskFlags false (raw2.map fun t => (t.kind, wsHasBreak t.ws))) &&
      sameLayoutB po.kinds pw.1 raw1 raw2 &&
      (match wrapStageFull cfg pw.2.1 pw.2.2 with
        | none => false
        | some (ftz, sols) =>
          allWritten pw.2.1 (writtenBefore pw.2.1 pw.2.2) pw.2.2.length sols && freeBeforeBrokenB pw.2.1 pw.2.2 ftz)
  | _, _ => false

/-! ### the C08 premises without the checked "at most one space" at non-free positions (proved: Proofs/CanonStage.lean) -/

/-- `preStageOkB` asking for "at most one space before" only at the free positions (`freeAtB`); at every other
    position it is a theorem about `TokenSpacing` (Proofs/CanonStage.lean) -/
def preStageOkB' (lines : List Line) (ft : FT) : Bool :=
  ft.zipIdx.all fun p => p.1.fmt.ignored ||
    ((!(freeAtB ft p.2) || decide (p.1.fmt.sp ≤ 1)) && (!(writtenBefore lines ft p.2) || canonWB p.1.fmt))

/-- `canonPremisesB` with `preStageOkB'` in place of `preStageOkB` -/
def canonPremisesB' (cfg : Config) (alnum : Bytes → Bool) (s : Bytes) : Bool :=
  match lex s with
  | none => false
  | some raw =>
    match parseAndConsolidate raw with
    | none => false
    | some po =>
      let pw := preWrap (preO alnum po) raw
      preStageOkB' pw.2.1 pw.2.2 &&
      (match wrapStageFull cfg pw.2.1 pw.2.2 with
        | none => false
        | some (_, sols) => allWritten pw.2.1 (writtenBefore pw.2.1 pw.2.2) pw.2.2.length sols)

end Pasfmt
