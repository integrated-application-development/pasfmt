/-
  The text a list of scanned tokens stands for: every token's blanks followed by its text.  The scanner is lossless
  with respect to it (`lex_lossless`, Proofs/LexTotal.lean); the pipeline theorems compare the output with it.
-/
import PasfmtModel.Model.Lexer

namespace Pasfmt

def RawTok.text (t : RawTok) : Bytes := t.ws ++ t.content

def flatText (toks : List RawTok) : Bytes := toks.flatMap RawTok.text

theorem flatText_length (r : List RawTok) :
    (flatText r).length = (r.map (fun t => t.ws.length + t.content.length)).sum := by
  induction r with
  | nil => rfl
  | cons a b ih =>
    simp only [flatText, List.map_cons, List.sum_cons, List.flatMap_cons, List.length_append, RawTok.text] at ih ⊢
    omega

end Pasfmt
