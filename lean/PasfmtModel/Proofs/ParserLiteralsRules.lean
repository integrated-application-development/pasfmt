/-
  The parser model neither retypes nor makes a text literal: the invariant and its rules.

  `parse_file` mutates token types (`set_token_type`): words are consolidated, `=`, `^`, `in`, `const`/`var` get their
  kind.  Every write is guarded by a test of the type the token has at that moment, no guard admits a text literal, and
  the type written is a constant that is not one.  So the same tokens are typed text literal before and after
  (`SameLit`).  Here: what it means for a computation of the model's state monad to keep that (`Kinds σ`, with
  a snapshot `σ` of what a guard knows; `Frame`: the snapshot stays valid), how `>>=`, `if`, `get` pass it on, and what the
  primitives do.  That every function of the model is built that way: `Proofs/ParserFlows.lean`; the results about
  `parse_file`: `Proofs/ParserLiterals.lean`.
-/
import PasfmtModel.Proofs.ParserMonad

namespace Pasfmt.ParserLit

open PFull
open Parents (bind_eq_some get_bind liftOpt_eq_some nextToken_eq withLevels Reads some_inj prim_eq_some)

/-- the same tokens are typed text literal in `K` and in `K'`, with the same literal kind -/
def SameLit (K K' : Array RawKind) : Prop :=
  ∀ (i : Nat) (k : TextLiteralKind), K[i]? = some (.rTextLiteral k) ↔ K'[i]? = some (.rTextLiteral k)

theorem SameLit.refl (K : Array RawKind) : SameLit K K := fun _ _ => Iff.rfl

theorem SameLit.trans {a b c : Array RawKind} (h1 : SameLit a b) (h2 : SameLit b c) : SameLit a c :=
  fun i k => (h1 i k).trans (h2 i k)

theorem SameLit.of_eq {a b : Array RawKind} (h : b = a) : SameLit a b := by rw [h]; exact SameLit.refl a

/-- the type is not a text literal; for a type given by its constructor this holds by `rfl` -/
def NotLit (c : Option RawKind) : Prop := isTextLiteral c = false

theorem NotLit.ne {c : Option RawKind} (h : NotLit c) (k : TextLiteralKind) : c ≠ some (.rTextLiteral k) := by
  intro hc
  rw [hc] at h
  cases h

theorem NotLit.of_eq {c : Option RawKind} {x : RawKind} (h : c = some x) (hx : NotLit (some x)) : NotLit c := h ▸ hx

theorem NotLit.of_test {c : Option RawKind} {p : Option RawKind → Bool} (h : p c = true)
    (hp : ∀ k, p (some (.rTextLiteral k)) = false) : NotLit c := by
  cases c with
  | none => rfl
  | some x =>
    cases x
    case rTextLiteral k => rw [hp] at h; cases h
    all_goals rfl

theorem sameLit_set (K : Array RawKind) (i : Nat) (x : RawKind) (h : NotLit K[i]?) (hx : NotLit (some x)) :
    SameLit K (K.setIfInBounds i x) := by
  intro j k
  rw [Array.getElem?_setIfInBounds]
  split
  · rename_i hij
    subst hij
    constructor
    · intro hj
      exact absurd hj (h.ne k)
    · intro hj
      split at hj
      · exact absurd hj (hx.ne k)
      · cases hj
  · exact Iff.rfl

def KindsAt {α : Type} (s : PS) (x : PM α) : Prop := ∀ a s', x s = some (a, s') → SameLit s.kinds s'.kinds

/-- the states agree on what the current token's type depends on -/
def SameK (s s1 : PS) : Prop := s1.kinds = s.kinds ∧ s1.passArr = s.passArr ∧ s1.m.passIdx = s.m.passIdx

theorem SameK.refl (s : PS) : SameK s s := ⟨rfl, rfl, rfl⟩

theorem SameK.trans {a b c : PS} (h1 : SameK a b) (h2 : SameK b c) : SameK a c :=
  ⟨h2.1.trans h1.1, h2.2.1.trans h1.2.1, h2.2.2.trans h1.2.2⟩

theorem SameK.cur {s s1 : PS} (h : SameK s s1) : s1.getCurrentTokenType = s.getCurrentTokenType := by
  obtain ⟨hk, ha, hp⟩ := h
  simp [PS.getCurrentTokenType, PS.getTokenType, PS.getTokenIndex, hk, ha, hp]

/-- `x` leaves the text-literal types as they are, from every state (`σ = none`), or from every state that agrees with
    the snapshot `σ = some s` (taken by `get`): what a guard knows when it writes a type -/
def Kinds {α : Type} (σ : Option PS) (x : PM α) : Prop := ∀ s1, (∀ s, σ = some s → SameK s s1) → KindsAt s1 x

/-- `x` changes neither the token types nor the current position -/
def Frame {α : Type} (x : PM α) : Prop := ∀ s a s', x s = some (a, s') → SameK s s'

section
variable {α β : Type} {σ : Option PS} {x : PM α}

theorem Kinds.run (h : Kinds none x) {s : PS} {a : α} {s' : PS} (hx : x s = some (a, s')) : SameLit s.kinds s'.kinds :=
  h s (fun _ e => nomatch e) a s' hx

/-- a fact proved without a snapshot serves under any -/
theorem Kinds.of_none (h : Kinds none x) : Kinds σ x := fun s1 _ => h s1 (fun _ e => nomatch e)

theorem Frame.kinds (h : Frame x) : Kinds σ x := fun s _ a s' hx => SameLit.of_eq (h s a s' hx).1

theorem KindsAt.bind {s : PS} {f : α → PM β}
    (hx : KindsAt s x) (hf : ∀ a s1, x s = some (a, s1) → KindsAt s1 (f a)) : KindsAt s (x >>= f) := by
  intro b s' h
  obtain ⟨a, s1, h1, h2⟩ := bind_eq_some h
  exact (hx a s1 h1).trans (hf a s1 h1 b s' h2)

/-- `x` may write, so the snapshot is lost -/
theorem Kinds.bind {f : α → PM β} (hx : Kinds σ x) (hf : ∀ a, Kinds none (f a)) : Kinds σ (x >>= f) :=
  fun s1 hs => KindsAt.bind (hx s1 hs) (fun a s2 _ => (hf a).of_none s2 (fun _ e => nomatch (e : none = some _)))

/-- `x` leaves the snapshot valid -/
theorem Kinds.bind_frame {f : α → PM β} (hx : Frame x) (hf : ∀ a, Kinds σ (f a)) : Kinds σ (x >>= f) :=
  fun s1 hs => KindsAt.bind (hx.kinds s1 hs) (fun a s2 h1 => hf a s2 (fun s e => (hs s e).trans (hx s1 a s2 h1)))

theorem Kinds.ite {c : Prop} [Decidable c] {y : PM α} (hx : c → Kinds σ x) (hy : ¬c → Kinds σ y) :
    Kinds σ (if c then x else y) := by
  split
  · exact hx ‹_›
  · exact hy ‹_›

theorem Kinds.get_bind {f : PS → PM α} (h : ∀ s, Kinds (some s) (f s)) : Kinds σ (get >>= f) := by
  intro s _ a s' hx
  rw [Parents.get_bind] at hx
  exact h s s (fun _ e => Option.some.inj e ▸ SameK.refl s) a s' hx

theorem Kinds.liftOpt_bind {o : Option β} {f : β → PM α} (h : ∀ a, o = some a → Kinds σ (f a)) :
    Kinds σ (liftOpt o >>= f) := by
  intro s1 hs b s' hx
  obtain ⟨a, s2, h1, h2⟩ := bind_eq_some hx
  obtain ⟨ho, rfl⟩ := liftOpt_eq_some h1
  exact h a ho s2 hs b s' h2

end

theorem Frame.reader {α : Type} {x : PM α} (h : ∀ s a s', x s = some (a, s') → s' = s) : Frame x := by
  intro s a s' hx
  rw [h s a s' hx]
  exact SameK.refl _

theorem Frame.modify (f : PS → PS) (h : ∀ s, SameK s (f s)) : Frame (modify f : PM Unit) := by
  intro s a s' hx
  obtain ⟨-, rfl⟩ := some_inj hx
  exact h s

theorem Frame.bind {α β : Type} {x : PM α} {f : α → PM β} (hx : Frame x) (hf : ∀ a, Frame (f a)) : Frame (x >>= f) := by
  intro s b s' h
  obtain ⟨a, s1, h1, h2⟩ := bind_eq_some h
  exact (hx s a s1 h1).trans (hf a s1 b s' h2)

theorem prim_kinds (op : POp) (s : PS) (a : Unit) (s' : PS) (h : prim op s = some (a, s')) :
    s'.kinds = s.kinds ∧ s'.passArr = s.passArr := by
  obtain ⟨mt', _, rfl⟩ := prim_eq_some h
  exact ⟨rfl, rfl⟩

theorem kinds_prim {σ : Option PS} (op : POp) : Kinds σ (prim op) :=
  fun s _ a s' h => SameLit.of_eq (prim_kinds op s a s' h).1

theorem kinds_nextToken {σ : Option PS} : Kinds σ nextToken := by
  intro s _ u s' h
  obtain ⟨a, b, c, e⟩ := nextToken_eq s
  rw [e] at h
  exact (kinds_prim .next).run (s := withLevels s a b c) h

theorem frame_setLogicalLineType (t : LogicalLineType) : Frame (setLogicalLineType t) := by
  intro s a s' h
  obtain ⟨hk, ha⟩ := prim_kinds _ s a s' h
  exact ⟨hk, ha, step_setType_passIdx (Parents.prim_spec _ s a s' h).1⟩

theorem frame_pushCtx (c : ParserContext) : Frame (pushCtx c) := Frame.modify _ (fun _ => ⟨rfl, rfl, rfl⟩)
theorem frame_popCtx : Frame popCtx := Frame.modify _ (fun _ => ⟨rfl, rfl, rfl⟩)
theorem frame_updateStatuses (i : Nat) : Frame (updateStatuses i) := Frame.modify _ (fun _ => ⟨rfl, rfl, rfl⟩)

theorem frame_cur : Frame cur := Frame.reader Reads.same
theorem frame_prevTT : Frame prevTT := Frame.reader Reads.same

theorem getTokenType_zero (s : PS) (i : Nat) (h : s.getTokenIndex 0 = some i) : s.kinds[i]? = s.getCurrentTokenType := by
  unfold PS.getCurrentTokenType PS.getTokenType
  rw [h]

theorem getTokenTypeForIndex_eq {s : PS} {index ti : Nat} (h : s.passArr[index]? = some ti) :
    s.kinds[ti]? = s.getTokenTypeForIndex index := by
  unfold PS.getTokenTypeForIndex
  rw [h]

theorem Kinds.setKind {s : PS} (i : Nat) (k : RawKind) (hn : NotLit s.kinds[i]?) (hk : NotLit (some k)) :
    Kinds (some s) (setKind i k) := by
  intro s1 hs a s' h
  obtain ⟨-, rfl⟩ := some_inj h
  exact sameLit_set _ _ _ (by rw [(hs s rfl).1]; exact hn) hk

theorem Kinds.setCurrentTokenType {s : PS} (k : RawKind) (hc : NotLit s.getCurrentTokenType) (hk : NotLit (some k)) :
    Kinds (some s) (setCurrentTokenType k) := by
  intro s1 hs a s' h
  have e : PFull.setCurrentTokenType k s1
      = (match s1.getTokenIndex 0 with | none => Pure.pure () | some i => PFull.setKind i k) s1 := rfl
  rw [e] at h
  cases hi : s1.getTokenIndex 0 with
  | none =>
    rw [hi] at h
    obtain ⟨-, rfl⟩ := some_inj h
    exact SameLit.refl _
  | some i =>
    rw [hi] at h
    obtain ⟨-, rfl⟩ := some_inj h
    exact sameLit_set _ _ _ (by rw [getTokenType_zero s1 i hi, (hs s rfl).cur]; exact hc) hk

/-- `Kinds none` as a class.  Nothing looks a fact up through it: the facts about the functions of the model come from
    `Parents.Built` (`Proofs/ParserFlows.lean`); its one instance, for `andM`, is below (and once more in namespace `ParserLitConv`). -/
class IsK {α : Type} (x : PM α) : Prop where
  out : Kinds none x

/-- `Frame` facts, found by instance resolution (the rule for `>>=` that keeps the snapshot asks for one) -/
class IsFrame {α : Type} (x : PM α) : Prop where
  out : Frame x

instance {α : Type} (x : PM α) [Reads x] : IsFrame x := ⟨Frame.reader Reads.same⟩
instance {α β : Type} (x : PM α) (f : α → PM β) [IsFrame x] [∀ a, IsFrame (f a)] : IsFrame (x >>= f) :=
  ⟨Frame.bind IsFrame.out (fun _ => IsFrame.out)⟩
instance {α : Type} (c : Prop) [Decidable c] (x y : PM α) [IsFrame x] [IsFrame y] : IsFrame (if c then x else y) :=
  ⟨by split <;> exact IsFrame.out⟩

instance (t : LogicalLineType) : IsFrame (setLogicalLineType t) := ⟨frame_setLogicalLineType t⟩
instance (c : ParserContext) : IsFrame (pushCtx c) := ⟨frame_pushCtx c⟩
instance : IsFrame popCtx := ⟨frame_popCtx⟩
instance (i : Nat) : IsFrame (updateStatuses i) := ⟨frame_updateStatuses i⟩
instance : IsFrame cur := ⟨frame_cur⟩
instance : IsFrame prevTT := ⟨frame_prevTT⟩

macro "frame_leaf" : tactic => `(tactic| first | (with_reducible assumption) | (with_reducible exact IsFrame.out))

/-- closes "the token written is not a text literal" from a guard in the context: its type is known (`match`, `==`),
    or a test that rejects text literals has succeeded; the last two: the type was bound earlier and is compared with a
    constant (`parseStatement`), and the same for a token addressed by its pass index (`fixNextEqGo`) -/
macro "notlit_side" : tactic =>
  `(tactic| first
    | (refine NotLit.of_eq ‹_› ?_; exact rfl)
    | (refine NotLit.of_eq (eq_of_beq ‹_›) ?_; exact rfl)
    | (refine NotLit.of_test ‹_› ?_; exact fun _ => rfl)
    | (refine NotLit.of_eq ‹_› (NotLit.of_test ‹_› ?_); exact fun _ => rfl)
    | (refine NotLit.of_eq ‹_› (NotLit.of_eq (congrArg some (eq_of_beq ‹_›)) ?_); exact rfl)
    | (refine NotLit.of_eq ((getTokenTypeForIndex_eq ‹_›).trans ‹_›) (NotLit.of_eq (congrArg some (eq_of_beq ‹_›)) ?_)
       exact rfl))

/-- `Frame` goals: instance resolution, past a `match` by `split` -/
macro "frame_go" : tactic =>
  `(tactic| repeat' (first | frame_leaf | (with_reducible refine Frame.bind ?_ (fun _ => ?_)) | split))

instance : IsFrame isDirectiveAfterPrevToken := ⟨by unfold isDirectiveAfterPrevToken; frame_go⟩

instance (b : Bool) (m : PM Bool) [IsFrame m] : IsFrame (PFull.andM b m) := ⟨by unfold PFull.andM; exact IsFrame.out⟩

theorem kgood_andM (b : Bool) (m : PM Bool) (h : Kinds none m) : Kinds none (PFull.andM b m) :=
  Kinds.ite (fun _ => h) (fun _ => (Frame.reader Reads.same).kinds)
instance (b : Bool) (m : PM Bool) [IsK m] : IsK (PFull.andM b m) := ⟨kgood_andM b m IsK.out⟩

end Pasfmt.ParserLit
