/-
  The trailing blanks of a text (`countTrailingWs`, scanned backwards) are a sequence of blank units like the leading
  ones (`trailingWs_units`).  So they start at a byte that is no continuation byte, and they never reach a token's
  first byte: a sequence of units that starts inside the leading blanks falls in step with them (`BlankUnits.resync`),
  and the byte at which the forward scan `countLeadingWs` stopped starts no unit.
  Needed for `lex_total`: an unterminated comment (`tokLen - trim`) is never empty.
-/
import PasfmtModel.Proofs.Blank
import PasfmtModel.Proofs.Utf8

namespace Pasfmt

/-- what the backward scan takes off is a sequence of blank units (read forwards) -/
theorem clwr_units (l : Bytes) :
    countLeadingWsRev l ≤ l.length ∧ BlankUnits (l.take (countLeadingWsRev l)).reverse := by
  fun_induction countLeadingWsRev l with
  | case1 => exact ⟨Nat.le_refl _, .nil⟩
  | case2 r ih => exact ⟨by simp only [List.length_cons]; omega, by simpa using ih.2.append (.wide _ .nil)⟩
  | case3 b r _ hb ih => exact ⟨by simp only [List.length_cons]; omega, by simpa using ih.2.append (.blank b _ hb .nil)⟩
  | case4 => exact ⟨Nat.zero_le _, .nil⟩

theorem trailingWs_units (s : Bytes) :
    countTrailingWs s ≤ s.length ∧ BlankUnits (s.drop (s.length - countTrailingWs s)) := by
  have := clwr_units s.reverse
  rwa [List.take_reverse, List.reverse_reverse, List.length_reverse] at this

theorem trailing_notCont (s : Bytes) : NotContAt s (s.length - countTrailingWs s) := by
  intro b hb
  have h := (trailingWs_units s).2
  rw [List.drop_eq_getElem_cons (List.getElem?_eq_some_iff.1 hb).1, (List.getElem?_eq_some_iff.1 hb).2] at h
  rcases h.cons_inv with ⟨h, _⟩ | ⟨rfl, _⟩
  · simp only [isCont, Bool.and_eq_false_iff, decide_eq_false_iff_not, UInt8.le_iff_toNat_le, UInt8.toNat_ofNat] at h ⊢
    omega
  · decide

theorem countTrailingWs_lt (inp : Bytes) (b : UInt8) (r : Bytes)
    (h : inp.drop (countLeadingWs inp) = b :: r) : countTrailingWs inp ≤ r.length := by
  have hlen := congrArg List.length h
  simp only [List.length_drop, List.length_cons] at hlen
  apply Nat.le_of_not_lt
  intro hlt
  obtain ⟨hle, hu⟩ := trailingWs_units inp
  -- the blank units at the end of `inp` would start inside the leading ones and include `b`
  have hk : inp.length - countTrailingWs inp ≤ countLeadingWs inp := by omega
  have e : inp.drop (inp.length - countTrailingWs inp) =
      (inp.take (countLeadingWs inp)).drop (inp.length - countTrailingWs inp) ++ b :: r := by
    rw [← h, ← List.drop_append_of_le_length (by simp only [List.length_take]; omega), List.take_append_drop]
  rw [e] at hu
  have hb := (blankUnits_leadingWs inp).resync _ _ hu
  rcases drop_countLeadingWs inp with hnil | ⟨b', r', hbr, hnb, hne⟩
  · rw [h] at hnil; cases hnil
  · rw [h] at hbr hne; cases hbr
    rcases hb.cons_inv with ⟨hb, _⟩ | ⟨rfl, t', rfl, _⟩
    · exact hnb hb
    · exact hne ⟨t', rfl⟩

end Pasfmt
