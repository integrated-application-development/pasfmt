/-
  Keyword recognition.  The hash is perfect on the keyword list (`keywords_perfect`), so the table of the Rust code can be built
  and then holds exactly the keyword list; since hash and comparison ignore ASCII case, `wordKind` is a
  lookup of the lower-cased word in that list (`wordKind_eq_spec`).
-/
import PasfmtModel.Model.Lexer
import PasfmtModel.Proofs.AsciiCase

namespace Pasfmt

/-- declarative meaning of keyword recognition: the first table entry spelled like the
    lower-cased word, otherwise an identifier -/
def keywordSpec (w : Bytes) : RawKind :=
  match keywords.find? (fun e => e.1 == asciiLower w) with
  | some e => e.2
  | none => .rIdentifier

/-! ### the perfect-hash table -/

/-- the hash is perfect on `ks`: every hash lies inside the table and differs from the hashes of the later entries -/
def perfectHash : List (Bytes × RawKind) → Bool
  | [] => true
  | e :: rest =>
    hashKeyword e.1 < lookupTableSize && rest.all (hashKeyword ·.1 != hashKeyword e.1) && perfectHash rest

/-- where the hash is perfect the table can be built, and its slot `i` holds exactly the entry whose hash is `i` -/
theorem mkLookupTable_of_perfect {ks : List (Bytes × RawKind)} (hp : perfectHash ks = true) :
    ∃ t, mkLookupTable ks = some t ∧ t.length = lookupTableSize ∧
      ∀ i e, t.getD i none = some e ↔ e ∈ ks ∧ hashKeyword e.1 = i := by
  induction ks with
  | nil =>
    refine ⟨_, rfl, List.length_replicate, fun i e => ?_⟩
    simp only [List.getD_eq_getElem?_getD, List.getElem?_replicate, List.not_mem_nil, false_and, iff_false]
    split <;> nofun
  | cons a rest ih =>
    simp only [perfectHash, Bool.and_eq_true, decide_eq_true_eq, List.all_eq_true, bne_iff_ne] at hp
    obtain ⟨⟨hlt, hne⟩, hrest⟩ := hp
    obtain ⟨t0, ht0, hlen, hslot⟩ := ih hrest
    -- an entry in the slot of `a` would be a later entry with the hash of `a`
    have hfree : t0.getD (hashKeyword a.1) none = none := by
      cases h : t0.getD (hashKeyword a.1) none with
      | none => rfl
      | some e => exact absurd ((hslot _ e).1 h).2 (hne e ((hslot _ e).1 h).1)
    refine ⟨t0.set (hashKeyword a.1) (some a), ?_, by rw [List.length_set, hlen], fun i e => ?_⟩
    · rw [mkLookupTable, ht0]
      simp only [hlen, hlt, if_true, hfree]
    · rw [List.getD_eq_getElem?_getD, List.getElem?_set, List.mem_cons]
      split
      · rename_i hi
        subst hi
        simp only [hlen, hlt, if_true, Option.getD_some, Option.some.injEq]
        refine ⟨fun h => h ▸ ⟨Or.inl rfl, rfl⟩, fun ⟨h, hh⟩ => h.elim Eq.symm fun he => ?_⟩
        rw [(hslot _ e).2 ⟨he, hh⟩] at hfree; cases hfree
      · rename_i hi
        rw [← List.getD_eq_getElem?_getD, hslot]
        exact ⟨fun h => ⟨Or.inr h.1, h.2⟩, fun h => ⟨h.1.resolve_left fun he => hi (he ▸ h.2), h.2⟩⟩

/-- `make_keyword_lookup_table` succeeds on `KEYWORDS`: the hash is perfect on them -/
theorem keywords_perfect : perfectHash keywords = true := by decide +kernel

/-- slot `i` of the table holds the keyword whose hash is `i` -/
theorem lookupTable_slot (i : Nat) (e : Bytes × RawKind) :
    lookupTable.getD i none = some e ↔ e ∈ keywords ∧ hashKeyword e.1 = i := by
  obtain ⟨t, ht, _, h⟩ := mkLookupTable_of_perfect keywords_perfect
  rw [lookupTable, ht]
  exact h i e

theorem keywords_lower_short :
    keywords.all (fun e => asciiLower e.1 == e.1 && decide (e.1.length ≤ maxWordLength)) = true := by
  decide +kernel

/-! ### the hash ignores ASCII case -/

theorem assoValue_lower (b : UInt8) : assoValue (toLowerByte b) = assoValue b :=
  toLowerByte_ind (by decide +kernel) (fun _ _ e => by rw [e]) b

theorem hashKeyword_lower (w : Bytes) : hashKeyword (asciiLower w) = hashKeyword w := by
  unfold hashKeyword
  simp only [asciiLower_length, getD_map_lower, assoValue_lower]

/-! ### `get_word_token_type` -/

theorem wordKind_of_mem {e : Bytes × RawKind} (he : e ∈ keywords) {w : Bytes} (hw : asciiLower w = e.1) :
    wordKind w = e.2 := by
  have hls := List.all_eq_true.1 keywords_lower_short e he
  simp only [Bool.and_eq_true, beq_iff_eq, decide_eq_true_eq] at hls
  have hlen : w.length ≤ maxWordLength := by rw [← asciiLower_length w, hw]; exact hls.2
  have hic : eqIgnoreCase w e.1 = true := by rw [eqIgnoreCase, hls.1, hw]; exact beq_self_eq_true _
  rw [wordKind, if_pos hlen, ← hashKeyword_lower, hw, (lookupTable_slot _ e).2 ⟨he, rfl⟩]
  simp only [hic, if_true]

theorem wordKind_cases (w : Bytes) :
    wordKind w = .rIdentifier ∨ ∃ e ∈ keywords, asciiLower w = e.1 ∧ wordKind w = e.2 := by
  unfold wordKind
  split
  · split
    · rename_i cand k heq
      split
      · rename_i hic
        have hk := ((lookupTable_slot _ _).1 heq).1
        have hls := List.all_eq_true.1 keywords_lower_short _ hk
        simp only [Bool.and_eq_true, beq_iff_eq, decide_eq_true_eq] at hls
        rw [eqIgnoreCase, hls.1, beq_iff_eq] at hic
        exact Or.inr ⟨_, hk, hic, rfl⟩
      · exact Or.inl rfl
    · exact Or.inl rfl
  · exact Or.inl rfl

/-- `get_word_token_type` finds exactly the table entry spelled like the lower-cased word -/
theorem wordKind_eq_spec (w : Bytes) : wordKind w = keywordSpec w := by
  unfold keywordSpec
  cases hfind : keywords.find? (fun e => e.1 == asciiLower w) with
  | some e =>
    have hkey : (e.1 == asciiLower w) = true := List.find?_some (p := fun e : Bytes × RawKind => e.1 == asciiLower w) hfind
    exact wordKind_of_mem (List.mem_of_find?_eq_some hfind) (beq_iff_eq.1 hkey).symm
  | none =>
    rcases wordKind_cases w with h | ⟨e, he, hw, _⟩
    · exact h
    · exact absurd (beq_iff_eq.2 hw.symm) (List.find?_eq_none.1 hfind e he)

/-- keyword lookup sees a word only through its lower-case form -/
theorem wordKind_congr {w v : Bytes} (h : asciiLower w = asciiLower v) : wordKind w = wordKind v := by
  rw [wordKind_eq_spec, wordKind_eq_spec, keywordSpec, keywordSpec, h]

theorem keywords_kinds : keywords.all (fun e =>
    match e.2 with | .rKeyword _ | .rIdentifierOrKeyword _ => true | _ => false) = true := by
  decide +kernel

theorem wordKind_shape (w : Bytes) :
    wordKind w = .rIdentifier ∨ (∃ k, wordKind w = .rKeyword k) ∨ ∃ k, wordKind w = .rIdentifierOrKeyword k := by
  rcases wordKind_cases w with h | ⟨e, he, _, h⟩
  · exact Or.inl h
  · have hk := List.all_eq_true.1 keywords_kinds e he
    rw [h]
    split at hk
    · rename_i k hk2; exact Or.inr (Or.inl ⟨k, hk2⟩)
    · rename_i k hk2; exact Or.inr (Or.inr ⟨k, hk2⟩)
    · cases hk

theorem wordKind_ne_eof (w : Bytes) : wordKind w ≠ .rEof := by
  rcases wordKind_shape w with h | ⟨k, h⟩ | ⟨k, h⟩ <;> rw [h] <;> nofun

/-! ### evaluating the scanner on concrete inputs

  `wordKind` consults the perfect-hash table, which an evaluation in the kernel has to build anew
  every time.  `lexK` is `lex` with the word looked up by `keywordSpec` instead; a test vector is
  rewritten to it (`lex_eq_lexK`) before it is evaluated. -/

def lexOneK (simd : Bool) (st : LexState) (inp : Bytes) : Option (Option (Nat × Nat × RawKind × LexState)) :=
  let ws := countLeadingWs inp
  match inp.drop ws with
  | b :: r =>
    if (if st.inAsm then asmLexerMap else lexerMap).getD b.toNat .unknown = .identifier_or_keyword then
      let n := 1 + (if simd then identLenSimd (r.length + 1) r else identLen r)
      let k : RawKind :=
        if st.prevReal == some (.rOp .oDot) then .rIdentifier else keywordSpec ((b :: r).take n)
      let st' : LexState :=
        { isFirst := false, inAsm := k == .rKeyword .kAsm,
          prevReal := if k.isCommentOrDirective then st.prevReal else some k }
      some (some (ws, ws + n, k, st'))
    else lexOne simd st inp
  | [] => lexOne simd st inp

theorem lexOneK_eq (simd : Bool) (st : LexState) (inp : Bytes) : lexOneK simd st inp = lexOne simd st inp := by
  unfold lexOneK
  cases hd : inp.drop (countLeadingWs inp) with
  | nil => simp only [hd]
  | cons b r =>
    by_cases hs : (if st.inAsm then asmLexerMap else lexerMap).getD b.toNat .unknown = .identifier_or_keyword
    · unfold lexOne
      simp only [hd, hs, if_true, runSub, wordKind_eq_spec]
    · simp only [hd, hs, if_false]

/-- the outer loop of `lex` over any step function; `lexFuel simd` is its instance for `lexOne simd` -/
def lexFuelBy (step : LexState → Bytes → Option (Option (Nat × Nat × RawKind × LexState))) :
    Nat → LexState → Bytes → Option (List RawTok)
  | 0, _, _ => none
  | fuel + 1, st, inp =>
    match step st inp with
    | none => none
    | some none => some [{ ws := inp, content := [], kind := .rEof }]
    | some (some (ws, e, kind, st')) =>
      if ws < e ∧ leLength e inp then
        match lexFuelBy step fuel st' (inp.drop e) with
        | none => none
        | some toks => some ({ ws := inp.take ws, content := (inp.take e).drop ws, kind := kind } :: toks)
      else none

theorem lexFuel_eq_by (simd : Bool) (fuel : Nat) (st : LexState) (inp : Bytes) :
    lexFuel simd fuel st inp = lexFuelBy (lexOne simd) fuel st inp := by
  induction fuel generalizing st inp with
  | zero => rfl
  | succ fuel ih =>
    unfold lexFuel lexFuelBy
    simp only [ih]
    rfl

/-- `lex`, with keywords looked up in the keyword list -/
def lexK (inp : Bytes) : Option (List RawTok) := lexFuelBy (lexOneK false) (inp.length + 1) LexState.init inp

theorem lex_eq_lexK (inp : Bytes) : lex inp = lexK inp := by
  rw [lexK, funext fun st => funext (lexOneK_eq false st)]
  exact lexFuel_eq_by false _ _ inp

end Pasfmt
