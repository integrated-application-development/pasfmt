/-
  Two facts about the control flow of the parser model (`Model/ParserBase.lean`, `ParserLeaf.lean`, `ParserFull.lean`),
  as an invariant over its state monad, proved function by function (Hoare style: `Good E V x` = the computation `x`
  keeps the invariant `CInv E`, provided the parent references in `V` are meaningful):

  * the parent references handed to the line builder are always meaningful: a parent reference is taken from the
    current line and the current token (`get_line_parent_of_current_token`), that token is consumed onto that line at
    once (`next_token`), before the reference is used; lines never lose tokens, line positions never change;
  * no function makes a line typed `Eof` (only the last lines of `parse` do): the parameter `E` of the invariant.

  This file: what a primitive of the line builder does to the invariant (from `step_moves` in `Proofs/Machine.lean`), how
  `>>=`, `if`, `get` pass it on, and the primitives of the control flow.  That every function of the model is built from
  these under their side conditions: `Proofs/ParserFlows.lean`; `parse` and `parse_file`: `Proofs/ParserParentsMutual.lean`.
-/
import PasfmtModel.Proofs.ParserParents
import PasfmtModel.Proofs.ParserMonad

namespace Pasfmt.Parents

open PFull

theorem PV.grows {ls ls' : List PLine} {p : LineParent} (h : PV ls p) (hg : Grows ls ls') : PV ls' p := by
  obtain ⟨pl, h1, h2⟩ := h
  obtain ⟨l', a, b⟩ := hg _ pl h1
  exact ⟨l', a, b _ h2⟩

/-- lines typed `Eof` occur only at the positions `S` -/
def EofOnlyAt (ls : List PLine) (S : Nat → Prop) : Prop :=
  ∀ (j : Nat) (l : PLine), ls[j]? = some l → l.ltype = .lEof → S j

theorem _root_.Pasfmt.LMoves.linv {pass : List Nat} {i : Nat} {q : Option LineParent} {S : Nat → Prop} {a b : List PLine} {p p' : Nat}
    {sk : List Nat} (h : LMoves pass i q S a p sk b p') (hl : LInv a) (hq : ∀ r, q = some r → PV a r) : LInv b := by
  intro l' hl' r hpar
  obtain ⟨j, hj⟩ := List.getElem?_of_mem hl'
  refine PV.grows ?_ h.grows
  -- the reference is the one the line had, or `q`
  rcases (h.line j l' hj).2.1 with e | e
  · cases ha : a[j]? with
    | none => rw [ha, hpar] at e; cases e
    | some l => rw [ha, hpar] at e; exact hl l (List.mem_of_getElem? ha) r e.symm
  · exact hq r (e ▸ hpar)

theorem _root_.Pasfmt.LMoves.eof {pass : List Nat} {i : Nat} {q : Option LineParent} {S S' : Nat → Prop} {a b : List PLine} {p p' : Nat}
    {sk : List Nat} (h : LMoves pass i q S a p sk b p') (hS : ∀ j, S j → S' j) (he : EofOnlyAt a S') : EofOnlyAt b S' := by
  intro j l' hj ht
  rcases (h.line j l' hj).2.2 ht with e | e
  · cases ha : a[j]? with
    | none => rw [ha] at e; cases e
    | some l => rw [ha] at e; exact he j l ha e
  · exact hS j e

/-- `set_logical_line_type(Eof)` makes at most the current line an `Eof` line -/
theorem step_setEof (kinds : List RawKind) (pass : List Nat) (s s' : MState) (S : Nat → Prop)
    (hstep : s.step kinds pass (.setType .lEof) = some s') (h : EofOnlyAt s.lines S) :
    EofOnlyAt s'.lines (fun j => S j ∨ some j = s.cur.head?) := by
  obtain ⟨top, _, hcur, hm, _⟩ := step_moves _ _ _ _ _ hstep
  exact hm.eof (fun _ hj => Or.inr (by rw [hcur, hj.2]; rfl)) (fun j l hj ht => Or.inl (h j l hj ht))

def PVs (s : PS) (p : LineParent) : Prop := PV s.m.lines p

/-- the parent reference of a context level (if it has one) is one of `V` -/
def lvlIn (V : List LineParent) : ParserContextLevel → Prop
  | .parent p _ => p ∈ V
  | .level _ => True

/-- what is required of lines typed `Eof`: nothing (`none`), or that they occur at the positions `S` only -/
abbrev EofSpec := Option (Nat → Prop)

/-- invariant of the parser state: the parent references of all lines and of all open contexts are meaningful;
    `E` switches on a second invariant about lines typed `Eof` -/
structure CInv (E : EofSpec) (s : PS) : Prop where
  lines : LInv s.m.lines
  ctx : ∀ c ∈ s.contexts, ∀ p d, c.1.level = .parent p d → PVs s p
  arr : s.passArr = s.pass.toArray
  /-- with `E = some S`: lines typed `Eof` occur at the positions `S` only (`S` is empty until the last lines of `parse`) -/
  noEof : ∀ S, E = some S → EofOnlyAt s.m.lines S

def Ext (s s' : PS) : Prop := Grows s.m.lines s'.m.lines

/-- `x` keeps the invariant and only lets lines grow, provided the parent references in `V` are meaningful -/
def Good {α : Type} (E : EofSpec) (V : List LineParent) (x : PM α) : Prop :=
  ∀ s a s', CInv E s → (∀ p ∈ V, PVs s p) → x s = some (a, s') → CInv E s' ∧ Ext s s'

/-- `p` is what `get_line_parent_of_current_token` answers in state `s` -/
def Pending (s : PS) (p : LineParent) : Prop :=
  s.m.cur.head? = some p.lineIndex ∧ s.pass[s.m.passIdx]? = some p.tokenIndex

/-- as `Good`, for a computation that starts by consuming the current token, which makes `p` meaningful -/
def GoodP {α : Type} (E : EofSpec) (p : LineParent) (V : List LineParent) (x : PM α) : Prop :=
  ∀ s a s', CInv E s → (∀ q ∈ V, PVs s q) → Pending s p → x s = some (a, s') → CInv E s' ∧ Ext s s' ∧ PVs s' p

theorem PVs.ext {s s' : PS} {p : LineParent} (h : PVs s p) (he : Ext s s') : PVs s' p := PV.grows h he

theorem Good.pure {α : Type} (E : EofSpec) (V : List LineParent) (a : α) : Good E V (pure a : PM α) := by
  intro s a' s' hi _ h
  simp only [Pure.pure, StateT.pure] at h
  cases h
  exact ⟨hi, Grows.refl _⟩

theorem Good.panic {α : Type} (E : EofSpec) (V : List LineParent) : Good E V (panic_ : PM α) := by
  intro s a' s' _ _ h
  simp [panic_] at h

theorem Good.bind {α β : Type} {E : EofSpec} {V : List LineParent} {x : PM α} {f : α → PM β}
    (hx : Good E V x) (hf : ∀ a, Good E V (f a)) : Good E V (x >>= f) := by
  intro s b s' hi hv h
  obtain ⟨a, s1, h1, h2⟩ := bind_eq_some h
  obtain ⟨i1, e1⟩ := hx s a s1 hi hv h1
  obtain ⟨i2, e2⟩ := hf a s1 b s' i1 (fun p hp => (hv p hp).ext e1) h2
  exact ⟨i2, e1.trans e2⟩

/-- the rule of `Good` for `if`, stated for its own sake: `Flows.good` has the branches under their conditions and proves
    its case directly -/
theorem Good.ite {α : Type} {E : EofSpec} {V : List LineParent} {c : Prop} [Decidable c] {x y : PM α}
    (hx : Good E V x) (hy : Good E V y) : Good E V (if c then x else y) := by
  split
  · exact hx
  · exact hy

theorem Good.reader {α : Type} (E : EofSpec) (V : List LineParent) {x : PM α} (h : ∀ s a s', x s = some (a, s') → s' = s) :
    Good E V x := by
  intro s a s' hi _ hx
  rw [h s a s' hx]
  exact ⟨hi, Grows.refl _⟩

theorem Good.get (E : EofSpec) (V : List LineParent) : Good E V (get : PM PS) :=
  Good.reader E V Reads.same

theorem Good.modify (E : EofSpec) (V : List LineParent) (f : PS → PS) (h : ∀ s, CInv E s → (∀ p ∈ V, PVs s p) → CInv E (f s) ∧ Ext s (f s)) :
    Good E V (modify f : PM Unit) := by
  intro s a s' hi hv hx
  obtain ⟨-, rfl⟩ := some_inj hx
  exact h s hi hv

theorem Good.mono {α : Type} {E : EofSpec} {V V' : List LineParent} {x : PM α} (h : Good E V x) (hs : ∀ p ∈ V, p ∈ V') : Good E V' x :=
  fun s a s' hi hv hx => h s a s' hi (fun p hp => hv p (hs p hp)) hx

/-- the rule for `andM`, stated for its own sake (`Flows` has it as a rule of its own) -/
theorem good_andM (E : EofSpec) (V : List LineParent) (b : Bool) (m : PM Bool) (h : Good E V m) : Good E V (PFull.andM b m) :=
  Good.ite h (Good.pure E V false)

theorem prim_good_at (E : EofSpec) (op : POp) (s : PS) (a : Unit) (s' : PS) (hi : CInv E s)
    (hp : ∀ p, opParent op = some p → PVs s p) (hE : E.isSome = true → op ≠ .setType .lEof)
    (h : prim op s = some (a, s')) : CInv E s' ∧ Ext s s' := by
  obtain ⟨hstep, hc, hpass, harr⟩ := prim_spec op s a s' h
  obtain ⟨_, _, _, he, _⟩ := step_moves _ _ _ _ _ hstep
  have hg := he.grows
  refine ⟨⟨he.linv hi.lines hp, ?_, by rw [harr, hpass, hi.arr],
    fun S hS => he.eof (fun _ h => absurd h.1 (hE (by rw [hS]; rfl))) (hi.noEof S hS)⟩, hg⟩
  intro c hcm p d hlv
  rw [hc] at hcm
  exact (hi.ctx c hcm p d hlv).ext hg

theorem good_prim (E : EofSpec) (V : List LineParent) (op : POp) (hp : ∀ p, opParent op = some p → p ∈ V)
    (hE : E.isSome = true → op ≠ .setType .lEof) : Good E V (prim op) :=
  fun s a s' hi hv h => prim_good_at E op s a s' hi (fun p hpp => hv p (hp p hpp)) hE h

theorem good_prim0 (E : EofSpec) (V : List LineParent) (op : POp) (hp : opParent op = none)
    (hE : E.isSome = true → op ≠ .setType .lEof) : Good E V (prim op) :=
  good_prim E V op (by intro p h; rw [hp] at h; cases h) hE

theorem good_nextToken (E : EofSpec) (V : List LineParent) : Good E V nextToken := by
  intro s u s' hi hv h
  obtain ⟨a, b, c, e⟩ := nextToken_eq s
  rw [e] at h
  exact good_prim0 E V .next rfl (fun _ => by decide) (withLevels s a b c) u s' ⟨hi.lines, hi.ctx, hi.arr, hi.noEof⟩ hv h

theorem goodP_nextToken (E : EofSpec) (p : LineParent) (V : List LineParent) : GoodP E p V nextToken := by
  intro s u s' hi hv hp h
  obtain ⟨h1, h2⟩ := good_nextToken E V s u s' hi hv h
  refine ⟨h1, h2, ?_⟩
  obtain ⟨a, b, c, e⟩ := nextToken_eq s
  rw [e] at h
  obtain ⟨hstep, _⟩ := prim_spec .next _ u s' h
  have hrefs : RefsValid s.m := traced_refs s.mt
  obtain ⟨hcur, htok⟩ := hp
  have htop : p.lineIndex < s.m.lines.length := by
    apply hrefs.cur
    cases hc : s.m.cur with
    | nil => rw [hc] at hcur; simp at hcur
    | cons t r => rw [hc] at hcur; simp at hcur; simp [hcur]
  exact step_next_current _ _ _ _ p.lineIndex p.tokenIndex hcur htop htok hstep

theorem Good.getLP {α : Type} {E : EofSpec} {V : List LineParent} {rest : LineParent → PM α} (h : ∀ p, GoodP E p V (rest p)) :
    Good E V (getLineParentOfCurrentToken >>= rest) := by
  intro s b s' hi hv hx
  obtain ⟨p, s1, h1, h2⟩ := bind_eq_some hx
  have : s1 = s ∧ Pending s p := by
    unfold getLineParentOfCurrentToken at h1
    rw [get_bind] at h1
    obtain ⟨li, s2, e1, h1b⟩ := bind_eq_some h1
    obtain ⟨hli, rfl⟩ := liftOpt_eq_some e1
    obtain ⟨ti, s3, e2, h1c⟩ := bind_eq_some h1b
    obtain ⟨hti, rfl⟩ := liftOpt_eq_some e2
    obtain ⟨rfl, rfl⟩ := some_inj h1c
    refine ⟨rfl, hli, ?_⟩
    unfold PS.getCurrentTokenIndex at hti
    rw [hi.arr] at hti
    simpa using hti
  obtain ⟨rfl, hp⟩ := this
  obtain ⟨a1, a2, _⟩ := h p s1 b s' hi hv hp h2
  exact ⟨a1, a2⟩

theorem GoodP.bind {α β : Type} {E : EofSpec} {p : LineParent} {V : List LineParent} {x : PM α} {f : α → PM β}
    (hx : GoodP E p V x) (hf : ∀ a, Good E (p :: V) (f a)) : GoodP E p V (x >>= f) := by
  intro s b s' hi hv hp h
  obtain ⟨a, s1, h1, h2⟩ := bind_eq_some h
  obtain ⟨i1, e1, v1⟩ := hx s a s1 hi hv hp h1
  obtain ⟨i2, e2⟩ := hf a s1 b s' i1 (by
    intro q hq
    rcases List.mem_cons.1 hq with rfl | hq'
    · exact v1
    · exact (hv q hq').ext e1) h2
  exact ⟨i2, e1.trans e2, v1.ext e2⟩

/-- `GoodP.bind` for `next_token`, stated for its own sake (`Flows` has `next_token` as a leaf) -/
theorem GoodP.next {α : Type} {E : EofSpec} {p : LineParent} {V : List LineParent} {rest : Unit → PM α}
    (h : ∀ u, Good E (p :: V) (rest u)) : GoodP E p V (nextToken >>= rest) :=
  GoodP.bind (goodP_nextToken E p V) h

theorem good_pushCtx (E : EofSpec) (V : List LineParent) (c : ParserContext) (hc : lvlIn V c.level) : Good E V (pushCtx c) := by
  apply Good.modify
  intro s hi hv
  refine ⟨⟨hi.lines, ?_, hi.arr, hi.noEof⟩, Grows.refl _⟩
  intro c' hc' p d hl
  rcases List.mem_cons.1 hc' with rfl | h1
  · simp only at hl
    rw [hl] at hc
    exact hv p hc
  · exact hi.ctx c' h1 p d hl

theorem good_popCtx (E : EofSpec) (V : List LineParent) : Good E V popCtx := by
  apply Good.modify
  intro s hi hv
  refine ⟨⟨hi.lines, ?_, hi.arr, hi.noEof⟩, Grows.refl _⟩
  intro c' hc' p d hl
  exact hi.ctx c' (List.mem_of_mem_tail hc') p d hl

theorem markEnded_mem (n : Nat) (l : List (ParserContext × Bool)) :
    ∀ c ∈ markEnded n l, ∃ c' ∈ l, c.1 = c'.1 := by
  induction n generalizing l with
  | zero => intro c hc; exact ⟨c, by simpa [markEnded] using hc, rfl⟩
  | succ k ih =>
    cases l with
    | nil => intro c hc; simp [markEnded] at hc
    | cons x r =>
      obtain ⟨c0, b0⟩ := x
      intro c hc
      simp only [markEnded, List.mem_cons] at hc
      rcases hc with rfl | h1
      · exact ⟨(c0, b0), by simp, rfl⟩
      · obtain ⟨c', a, b⟩ := ih r c h1
        exact ⟨c', by simp [a], b⟩

theorem good_updateStatuses (E : EofSpec) (V : List LineParent) (i : Nat) : Good E V (updateStatuses i) := by
  apply Good.modify
  intro s hi hv
  refine ⟨⟨hi.lines, ?_, hi.arr, hi.noEof⟩, Grows.refl _⟩
  intro c hc p d hl
  obtain ⟨c', a, b⟩ := markEnded_mem _ _ c hc
  exact hi.ctx c' a p d (by rw [← b]; exact hl)

theorem good_setKind (E : EofSpec) (V : List LineParent) (i : Nat) (k : RawKind) : Good E V (setKind i k) := by
  apply Good.modify
  intro s hi hv
  exact ⟨⟨hi.lines, hi.ctx, hi.arr, hi.noEof⟩, Grows.refl _⟩

/-- the fact about one reader, stated for its own sake like those in `Proofs/ParserParentsMutual.lean` -/
theorem good_prevTT (E : EofSpec) (V : List LineParent) : Good E V prevTT := Good.reader E V Reads.same

/-- `good_prim0` for `set_logical_line_type`, stated for its own sake (`Flows` has the rule for `prim`) -/
theorem good_setLogicalLineType (E : EofSpec) (V : List LineParent) (t : LogicalLineType)
    (ht : E.isSome = true → t ≠ .lEof) : Good E V (setLogicalLineType t) := by
  unfold setLogicalLineType
  exact good_prim0 E V _ rfl (fun he h => ht he (by cases h; rfl))

theorem good_setCurrentTokenType (E : EofSpec) (V : List LineParent) (k : RawKind) : Good E V (setCurrentTokenType k) :=
  Good.bind (Good.get E V) fun s => by
    split
    · exact Good.pure E V ()
    · exact good_setKind E V _ k

theorem getContextLevelGo_parent (cs : List (ParserContext × Bool)) (sum : Int) (p : LineParent)
    (h : (PS.getContextLevelGo cs sum).1 = some p) : ∃ c ∈ cs, ∃ d, c.1.level = .parent p d := by
  induction cs generalizing sum with
  | nil => simp [PS.getContextLevelGo] at h
  | cons x r ih =>
    obtain ⟨c, b⟩ := x
    unfold PS.getContextLevelGo at h
    split at h
    · rename_i q d hq
      simp only [Option.some.injEq] at h
      subst h
      exact ⟨(c, b), by simp, d, hq⟩
    · obtain ⟨c', a1, a2⟩ := ih _ h
      exact ⟨c', by simp [a1], a2⟩

theorem good_finishTail (E : EofSpec) (V : List LineParent) :
    Good E V (get >>= fun s => match s.getContextLevel with | (parent, contextLevel) => prim (.finish parent contextLevel)) := by
  intro s a s' hi hv h
  rw [get_bind] at h
  have hpar : ∀ p, (s.getContextLevel).1 = some p → PVs s p := by
    intro p hp
    unfold PS.getContextLevel at hp
    obtain ⟨c, hc, d, hd⟩ := getContextLevelGo_parent s.contexts 0 p (by
      revert hp
      generalize PS.getContextLevelGo s.contexts 0 = r
      obtain ⟨r1, r2⟩ := r
      intro hp; exact hp)
    exact hi.ctx c hc p d hd
  revert h hpar
  generalize s.getContextLevel = r
  obtain ⟨parent, lvl⟩ := r
  intro h hpar
  exact prim_good_at E _ s a s' hi (by intro p hp; exact hpar p hp) (fun _ => by intro h; cases h) h

end Pasfmt.Parents
