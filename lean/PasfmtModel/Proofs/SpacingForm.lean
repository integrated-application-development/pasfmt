/-
  `TokenSpacing` in closed form.  The loop threads no value: the first half of a rule does not read the next token's
  spaces and the second half does not read the token's own, so the final spaces before a token are a function
  (`spAt`) of its input spaces and of the kinds around it (`spacingResult_eq`).  That function writes 0 or 1, or leaves
  the input alone, or clamps it to at most one, and the kinds say which (`spAt_cases`).  Layout invariance, the fixpoint
  and "at most one space" are each one fact about `spAt`, lifted by a structural induction over `spTail`.
-/
import PasfmtModel.Model.Rules
import PasfmtModel.Model.LayoutCheck

namespace Pasfmt

/-! ### every value the spacing rule writes is 0, 1 or `min(original, 1)` -/

def OptLe1 : Option Nat → Prop
  | none => True
  | some x => x ≤ 1

/-- the shape of `space_operator`: both halves are constants; the first is 0, 1 or "leave alone" (only for the
    operators of `keepsCur`), the second 0 or 1 -/
theorem spaceOperator_shape (op : OperatorKind) (p pr nx : Option Kind) :
    ∃ b a, spaceOperator op p pr nx = (b, some a) ∧ OptLe1 b ∧ a ≤ 1 ∧ (b = none → keepsCur (.tOp op) = true) := by
  unfold spaceOperator plusMinusSpacing openBracketSpacing spacesBeforeFn
  repeat' split
  all_goals exact ⟨_, _, rfl, by simp [OptLe1], by omega, by simp [keepsCur]⟩

theorem spacesBeforeFn_shape (p : Option Kind) : ∃ v, spacesBeforeFn p 1 = some v ∧ v ≤ 1 := by
  unfold spacesBeforeFn; repeat' split
  all_goals exact ⟨_, rfl, by omega⟩

theorem spacesAfterFn_shape (nx : Option Kind) : ∃ v, spacesAfterFn nx 1 = some v ∧ v ≤ 1 := by
  unfold spacesAfterFn; split <;> exact ⟨_, rfl, by omega⟩

theorem spacingRule_shape (k : Kind) (p pr nx : Option Kind) :
    (isOtherKind k = true ∧ ∀ c n, spacingRule k p pr nx c n = (some (min c 1), n.map (min · 1))) ∨
    ∃ b a, (∀ c n, spacingRule k p pr nx c n = (b, a)) ∧ OptLe1 b ∧ OptLe1 a ∧
      (b = none → keepsCur k = true ∧ k ≠ .tEof) ∧ (a = none → k = .tComment .cInlineLine) := by
  cases k with
  | tOp op =>
    obtain ⟨b, a, h, hb, ha, hk⟩ := spaceOperator_shape op p pr nx
    exact .inr ⟨b, some a, fun _ _ => h, hb, ha, fun e => ⟨hk e, nofun⟩, nofun⟩
  | tIdentifier => exact .inr ⟨none, some 1, fun _ _ => rfl, trivial, Nat.le_refl _, fun _ => ⟨rfl, nofun⟩, nofun⟩
  | tTextLiteral _ | tNumberLiteral _ | tEof | tUnknown => exact .inl ⟨rfl, fun _ _ => rfl⟩
  | tComment c =>
    obtain ⟨b, hb, hb1⟩ := spacesBeforeFn_shape p
    obtain ⟨a, ha, ha1⟩ := spacesAfterFn_shape nx
    cases c
    case cInlineLine => exact .inr ⟨some 1, none, fun _ _ => rfl, Nat.le_refl _, trivial, nofun, fun _ => rfl⟩
    all_goals exact .inr ⟨some b, some a, fun _ _ => by rw [← hb, ← ha]; rfl, hb1, ha1, nofun, nofun⟩
  | tCompilerDirective | tConditionalDirective _ | tKeyword _ =>
    obtain ⟨b, hb, hb1⟩ := spacesBeforeFn_shape p
    obtain ⟨a, ha, ha1⟩ := spacesAfterFn_shape nx
    exact .inr ⟨some b, some a, fun _ _ => by rw [← hb, ← ha]; rfl, hb1, ha1, nofun, nofun⟩

theorem spacingRule_le_one (k : Kind) (prev prevReal next : Option Kind) (cur : Nat) (nextSp : Option Nat) :
    OptLe1 (spacingRule k prev prevReal next cur nextSp).1 ∧
    OptLe1 (spacingRule k prev prevReal next cur nextSp).2 := by
  rcases spacingRule_shape k prev prevReal next with ⟨_, h⟩ | ⟨b, a, h, hb, ha, _⟩
  · rw [h]; exact ⟨Nat.min_le_right _ _, by cases nextSp <;> simp [OptLe1]; omega⟩
  · rw [h]; exact ⟨hb, ha⟩

/-! ### the closed form -/

/-- the last kind that is not a comment or directive, after a token of kind `k` (`pr`: the one before `k`) -/
def realAfter (k : Kind) (pr : Option Kind) : Option Kind := if k.isCommentOrDirective then pr else some k

/-- the final spaces before a token of kind `k'` whose input value is `a`, behind a token of kind `k`
    (`p`, `pr`: the kind before `k` and the real kind before `k`; `nx`: the kind after `k'`):
    what the rule of `k` hands on, then what the rule of `k'` makes of it -/
def spAt (p pr : Option Kind) (k k' : Kind) (nx : Option Kind) (a : Nat) : Nat :=
  let c := nextCur (spacingRule k p pr (some k') 0 (some a)).2 k' a
  (spacingRule k' (some k) (realAfter k pr) nx c none).1.getD c

/-- `spacingGo` without the threaded value -/
def spTail (p pr : Option Kind) (k : Kind) : List (Kind × Nat) → List Nat
  | [] => []
  | (k', a') :: rest => spAt p pr k k' (rest.head?.map (·.1)) a' :: spTail (some k) (realAfter k pr) k' rest

theorem spacingRule_fst_indep (k : Kind) (p pr nx : Option Kind) (c : Nat) (n : Option Nat) :
    (spacingRule k p pr nx c n).1 = (spacingRule k p pr nx c none).1 := by
  unfold spacingRule; split <;> rfl

theorem spacingRule_snd_indep (k : Kind) (p pr nx : Option Kind) (c : Nat) (n : Option Nat) :
    (spacingRule k p pr nx c n).2 = (spacingRule k p pr nx 0 n).2 := by
  unfold spacingRule; split <;> rfl

theorem spacingGo_eq (p pr : Option Kind) (c : Nat) (k : Kind) (a : Nat) (rest : List (Kind × Nat)) :
    spacingGo p pr c ((k, a) :: rest) =
      (spacingRule k p pr (rest.head?.map (·.1)) c none).1.getD c :: spTail p pr k rest := by
  induction rest generalizing p pr c k a with
  | nil => rw [spacingGo.eq_def]; rfl
  | cons y rest ih =>
    obtain ⟨k', a'⟩ := y
    rw [spacingGo.eq_def]
    simp only [List.head?_cons, Option.map_some]
    rw [ih, spacingRule_fst_indep, spacingRule_snd_indep]
    rfl

theorem spacingResult_eq (k : Kind) (a : Nat) (rest : List (Kind × Nat)) :
    spacingResult ((k, a) :: rest) = 0 :: spTail none none k rest := by
  unfold spacingResult
  simp only [spacingGo_eq]

/-! ### the two halves of a rule -/

theorem keepsCur_false_not_other (k : Kind) (h : keepsCur k = false) : isOtherKind k = false := by
  cases k <;> simp_all [keepsCur, isOtherKind]

theorem keepsCur_of_other {k : Kind} (h : isOtherKind k = true) : keepsCur k = true := by
  cases hk : keepsCur k with
  | true => rfl
  | false => rw [keepsCur_false_not_other k hk] at h; cases h

/-- what a rule does to its own token: writes 0 or 1, leaves it alone, or clamps it -/
theorem own_cases (k : Kind) (p pr nx : Option Kind) :
    (∃ v, v ≤ 1 ∧ ∀ c n, (spacingRule k p pr nx c n).1 = some v) ∨
    (keepsCur k = true ∧ k ≠ .tEof ∧ ∀ c n, (spacingRule k p pr nx c n).1 = none) ∨
    (isOtherKind k = true ∧ ∀ c n, (spacingRule k p pr nx c n).1 = some (min c 1)) := by
  rcases spacingRule_shape k p pr nx with ⟨ho, h⟩ | ⟨b, a, h, hb, _, hk, _⟩
  · exact .inr (.inr ⟨ho, fun c n => by rw [h]⟩)
  · cases b with
    | some v => exact .inl ⟨v, hb, fun c n => by rw [h]⟩
    | none => exact .inr (.inl ⟨(hk rfl).1, (hk rfl).2, fun c n => by rw [h]⟩)

/-- what a rule hands to the next token: 0 or 1, nothing, or the clamped value -/
theorem hand_cases (k : Kind) (p pr : Option Kind) (k' : Kind) :
    (∃ v, v ≤ 1 ∧ ∀ c a, nextCur (spacingRule k p pr (some k') c (some a)).2 k' a = v) ∨
    ((k = .tComment .cInlineLine ∨ k' = .tEof) ∧ ∀ c a, nextCur (spacingRule k p pr (some k') c (some a)).2 k' a = a) ∨
    (isOtherKind k = true ∧ ∀ c a, nextCur (spacingRule k p pr (some k') c (some a)).2 k' a = min a 1) := by
  by_cases he : k' = .tEof
  · exact .inr (.inl ⟨.inr he, fun c a => by rw [he]; cases (spacingRule k p pr _ c _).2 <;> rfl⟩)
  have he' : (k' == .tEof) = false := by simpa using he
  rcases spacingRule_shape k p pr (some k') with ⟨ho, h⟩ | ⟨b, a, h, _, ha, _, hil⟩
  · exact .inr (.inr ⟨ho, fun c a => by simp [h, nextCur, he']⟩)
  · cases a with
    | some v => exact .inl ⟨v, ha, fun c a => by simp [h, nextCur, he']⟩
    | none => exact .inr (.inl ⟨.inl (hil rfl), fun c a => by rw [h]; rfl⟩)

/-- **what `TokenSpacing` does at one position**: it writes 0 or 1; or (only at a token that can keep its spacing
    behind a line comment that shares its line with code) it leaves the input alone; or (only at such a token behind a
    literal or that comment, and at the end-of-file token) it clamps the input to at most one -/
theorem spAt_cases (p pr : Option Kind) (k k' : Kind) (nx : Option Kind) :
    (∃ v, v ≤ 1 ∧ ∀ a, spAt p pr k k' nx a = v) ∨
    ((k = .tComment .cInlineLine ∧ keepsCur k' = true) ∧ ∀ a, spAt p pr k k' nx a = a) ∨
    ((((k = .tComment .cInlineLine ∨ isOtherKind k = true) ∧ keepsCur k' = true) ∨ k' = .tEof) ∧
      ∀ a, spAt p pr k k' nx a = min a 1) := by
  unfold spAt
  rcases own_cases k' (some k) (realAfter k pr) nx with ⟨v, hv, ho⟩ | ⟨hk, hne, ho⟩ | ⟨hk, ho⟩
  · exact .inl ⟨v, hv, fun a => by simp only [ho]; rfl⟩
  · rcases hand_cases k p pr k' with ⟨v, hv, hh⟩ | ⟨hc, hh⟩ | ⟨hc, hh⟩
    · exact .inl ⟨v, hv, fun a => by simp only [ho, hh]; rfl⟩
    · exact .inr (.inl ⟨⟨hc.resolve_right hne, hk⟩, fun a => by simp only [ho, hh]; rfl⟩)
    · exact .inr (.inr ⟨.inl ⟨.inr hc, hk⟩, fun a => by simp only [ho, hh]; rfl⟩)
  · have hk' := keepsCur_of_other hk
    rcases hand_cases k p pr k' with ⟨v, hv, hh⟩ | ⟨hc, hh⟩ | ⟨hc, hh⟩
    · exact .inl ⟨min v 1, Nat.min_le_right _ _, fun a => by simp only [ho, hh]; rfl⟩
    · exact .inr (.inr ⟨hc.elim (fun h => .inl ⟨.inl h, hk'⟩) .inr, fun a => by simp only [ho, hh]; rfl⟩)
    · exact .inr (.inr ⟨.inl ⟨.inr hc, hk'⟩, fun a => by simp only [ho, hh, Option.getD_some]; omega⟩)

/-! ### the facts about one position -/

theorem spAt_idem (p pr : Option Kind) (k k' : Kind) (nx : Option Kind) (a : Nat) :
    spAt p pr k k' nx (spAt p pr k k' nx a) = spAt p pr k k' nx a := by
  rcases spAt_cases p pr k k' nx with ⟨v, _, h⟩ | ⟨_, h⟩ | ⟨_, h⟩ <;> simp only [h]
  omega

theorem spAt_le (p pr : Option Kind) (k k' : Kind) (nx : Option Kind) (a : Nat) :
    spAt p pr k k' nx a ≤ 1 ∨ (k = .tComment .cInlineLine ∧ keepsCur k' = true) := by
  rcases spAt_cases p pr k k' nx with ⟨v, hv, h⟩ | ⟨hf, _⟩ | ⟨_, h⟩
  · exact .inl (by rw [h]; exact hv)
  · exact .inr hf
  · exact .inl (by rw [h]; omega)

theorem spAt_congr (p pr : Option Kind) (k k' : Kind) (nx : Option Kind) (a b : Nat)
    (hab : ((isOtherKind k = true ∧ keepsCur k' = true) ∨ k' = .tEof) → min a 1 = min b 1) :
    (k = .tComment .cInlineLine ∧ keepsCur k' = true) ∨ spAt p pr k k' nx a = spAt p pr k k' nx b := by
  rcases spAt_cases p pr k k' nx with ⟨v, _, h⟩ | ⟨hf, _⟩ | ⟨hc, h⟩
  · exact .inr (by rw [h, h])
  · exact .inl hf
  · rcases hc with ⟨hil | ho, hk⟩ | he
    · exact .inl ⟨hil, hk⟩
    · exact .inr (by rw [h, h]; exact hab (.inl ⟨ho, hk⟩))
    · exact .inr (by rw [h, h]; exact hab (.inr he))

/-- the items with their spaces replaced by the given values -/
def respace : List (Kind × Nat) → List Nat → List (Kind × Nat)
  | (k, _) :: r, v :: vs => (k, v) :: respace r vs
  | _, _ => []

theorem spTail_idem (p pr : Option Kind) (k : Kind) (rest : List (Kind × Nat)) :
    spTail p pr k (respace rest (spTail p pr k rest)) = spTail p pr k rest := by
  induction rest generalizing p pr k with
  | nil => rfl
  | cons y rest ih =>
    obtain ⟨k', a'⟩ := y
    have hh : (respace rest (spTail (some k) (realAfter k pr) k' rest)).head?.map (·.1) = rest.head?.map (·.1) := by
      cases rest with
      | nil => rfl
      | cons z _ => rfl
    simp only [spTail, respace, hh, spAt_idem, ih]

theorem spTail_length (p pr : Option Kind) (k : Kind) (rest : List (Kind × Nat)) :
    (spTail p pr k rest).length = rest.length := by
  induction rest generalizing p pr k with
  | nil => rfl
  | cons y rest ih => simp [spTail, ih]

/-! ### the spacing items of a token list, and its free positions -/

theorem map_eq_getElem? {α β γ : Type} {f : α → γ} {g : β → γ} {l : List α} {l' : List β}
    (h : l.map f = l'.map g) (j : Nat) : (l[j]?).map f = (l'[j]?).map g := by
  simpa using congrArg (·[j]?) h

theorem spacingResult_length (l : List (Kind × Nat)) : (spacingResult l).length = l.length := by
  cases l with
  | nil => rfl
  | cons x rest => rw [spacingResult_eq]; simp [spTail_length]

theorem spacingItemsGo_kinds (po : Bool) (ft : FT) : (spacingItemsGo po ft).map (·.1) = ft.map (·.tok.kind) := by
  induction ft generalizing po with
  | nil => rfl
  | cons t r ih => simp [spacingItemsGo, ih]

theorem spacingItemsGo_length (po : Bool) (ft : FT) : (spacingItemsGo po ft).length = ft.length := by
  simpa using congrArg List.length (spacingItemsGo_kinds po ft)

theorem spacingResult_getD (ft : FT) (j : Nat) (hj : j < ft.length) (d : Nat) :
    ∃ v, (spacingResult (spacingItems ft))[j]? = some v ∧ (spacingResult (spacingItems ft)).getD j d = v := by
  have hlen : j < (spacingResult (spacingItems ft)).length := by
    rw [spacingResult_length]; unfold spacingItems; rw [spacingItemsGo_length]; exact hj
  exact ⟨_, List.getElem?_eq_getElem hlen, by rw [List.getD_eq_getElem?_getD, List.getElem?_eq_getElem hlen]; rfl⟩

theorem freeAtB_iff {ft : FT} {j : Nat} : freeAtB ft j = true ↔
    j ≥ 1 ∧ (ft[j - 1]?).map (·.tok.kind) = some (.tComment .cInlineLine) ∧
      ∃ t, ft[j]? = some t ∧ keepsCur t.tok.kind = true := by
  unfold freeAtB
  cases ft[j]? <;> simp [and_assoc]

/-- a free position of the spacing items (behind an inline line comment, a kind that can keep its spacing) is a free
    position of the token list -/
theorem freeAtB_of_items (ft : FT) (j : Nat) (hj : j ≥ 1)
    (hprev : ((spacingItems ft)[j - 1]?).map (·.1) = some (.tComment .cInlineLine))
    (hk : ((spacingItems ft)[j]?).map (fun p => keepsCur p.1) = some true) : freeAtB ft j = true := by
  have hkinds := spacingItemsGo_kinds false ft
  unfold spacingItems at hprev hk
  rw [map_eq_getElem? hkinds (j - 1)] at hprev
  have h2 : ((ft[j]?).map (·.tok.kind)).map keepsCur = some true := by
    rw [← map_eq_getElem? hkinds j, Option.map_map]; exact hk
  refine freeAtB_iff.2 ⟨hj, hprev, ?_⟩
  cases ht : ft[j]? with
  | none => rw [ht] at h2; cases h2
  | some t => rw [ht] at h2; exact ⟨t, rfl, Option.some.inj h2⟩

theorem freeAtB_congr (ft ft' : FT) (h : ft.map (fun t => t.tok.kind) = ft'.map (fun t => t.tok.kind)) (j : Nat) :
    freeAtB ft j = freeAtB ft' j := by
  unfold freeAtB
  rw [map_eq_getElem? h (j - 1)]
  have hj := map_eq_getElem? h j
  cases h1 : ft[j]? <;> cases h2 : ft'[j]? <;> rw [h1, h2] at hj <;> simp at hj ⊢
  simp only [hj]

end Pasfmt
