/-
  Whatever a primitive of the line builder does to the lines and the position in the pass is a sequence
  of a few kinds of moves (`LMoves`, `step_moves`), so an invariant of the moves holds in every reachable
  state (`reach_run`: `RefsValid`, `Covered`, `TInv`), and what they make of the line at a position has a closed form
  (`LMoves.line`).
-/
import PasfmtModel.Model.Parser
import PasfmtModel.Proofs.ListFacts

namespace Pasfmt

abbrev TL := List (List Nat)

def toksOf (lines : List PLine) : TL := lines.map (·.tokens)

theorem modifyLine_length (ls : List PLine) (i : Nat) (f : PLine → PLine) : (modifyLine ls i f).length = ls.length := by
  unfold modifyLine; split <;> simp

theorem modifyLine_eq_set {ls : List PLine} {i : Nat} {l : PLine} (h : ls[i]? = some l) (f : PLine → PLine) :
    modifyLine ls i f = ls.set i (f l) := by
  unfold modifyLine; rw [h]

theorem getElem?_modifyLine (ls : List PLine) (i : Nat) (f : PLine → PLine) (j : Nat) :
    (modifyLine ls i f)[j]? = if i = j then ls[j]?.map f else ls[j]? := by
  unfold modifyLine
  split
  · rename_i l hl
    rw [List.getElem?_set]
    split
    · rename_i hij
      subst hij
      rw [if_pos (List.getElem?_eq_some_iff.1 hl).1, hl]; rfl
    · rfl
  · rename_i hn
    split
    · rename_i hij
      subst hij
      rw [hn]; rfl
    · rfl

def pushTok (tl : TL) (i : Nat) (tok : Nat) : TL :=
  match tl[i]? with
  | some l => tl.set i (l ++ [tok])
  | none => tl

def Below (pass : List Nat) (p : Nat) (t : Nat) : Prop := ∃ j, j < p ∧ pass[j]? = some t

/-- distinct tokens of the first `p` positions of the pass, each list in increasing order -/
structure TInv (pass : List Nat) (p : Nat) (tl : TL) : Prop where
  sorted : ∀ l ∈ tl, l.Pairwise (· < ·)
  below : ∀ t ∈ tl.flatten, Below pass p t
  nodup : tl.flatten.Nodup

theorem Below.mono {pass : List Nat} {p q t : Nat} (h : Below pass p t) (hpq : p ≤ q) : Below pass q t := by
  obtain ⟨j, hj, hp⟩ := h; exact ⟨j, by omega, hp⟩

theorem TInv.mono {pass : List Nat} {p q : Nat} {tl : TL} (h : TInv pass p tl) (hpq : p ≤ q) : TInv pass q tl :=
  ⟨h.sorted, fun t ht => (h.below t ht).mono hpq, h.nodup⟩

theorem TInv.append_empty {pass : List Nat} {p : Nat} {tl : TL} (h : TInv pass p tl) : TInv pass p (tl ++ [[]]) := by
  refine ⟨?_, ?_, ?_⟩
  · intro l hl
    rcases List.mem_append.1 hl with h1 | h1
    · exact h.sorted l h1
    · simp at h1; subst h1; exact List.Pairwise.nil
  · simpa using h.below
  · simpa using h.nodup

theorem below_lt {pass : List Nat} (hs : pass.Pairwise (· < ·)) {p t tok : Nat}
    (ht : Below pass p t) (hp : pass[p]? = some tok) : t < tok := by
  obtain ⟨j, hj, hjt⟩ := ht
  obtain ⟨hjl, rfl⟩ := List.getElem?_eq_some_iff.1 hjt
  obtain ⟨hpl, rfl⟩ := List.getElem?_eq_some_iff.1 hp
  exact List.pairwise_iff_getElem.1 hs j p hjl hpl hj

theorem pushTok_flatten_perm {tl : TL} {i : Nat} (tok : Nat) (hi : i < tl.length) :
    (pushTok tl i tok).flatten.Perm (tok :: tl.flatten) := by
  unfold pushTok
  rw [List.getElem?_eq_getElem hi]
  simp only
  rw [List.set_eq_take_append_cons_drop, if_pos hi]
  conv => rhs; rw [← List.take_append_drop i tl, List.drop_eq_getElem_cons hi]
  simp only [List.flatten_append, List.flatten_cons, List.append_assoc]
  exact ((List.perm_middle (a := tok)).append_left _).trans List.perm_middle

theorem pushTok_of_le {tl : TL} {i : Nat} (tok : Nat) (hi : tl.length ≤ i) : pushTok tl i tok = tl := by
  unfold pushTok
  rw [List.getElem?_eq_none hi]

/-- stated for its own sake, like `pushTok_length` below: `TInv.push` goes through `pushTok_flatten_perm` -/
theorem mem_flatten_pushTok {tl : TL} {i tok x : Nat} (h : x ∈ (pushTok tl i tok).flatten) :
    x ∈ tl.flatten ∨ x = tok := by
  rcases Nat.lt_or_ge i tl.length with hi | hi
  · exact (List.mem_cons.1 ((pushTok_flatten_perm tok hi).mem_iff.1 h)).symm
  · rw [pushTok_of_le tok hi] at h; exact .inl h

theorem TInv.push {pass : List Nat} (hs : pass.Pairwise (· < ·)) {p : Nat} {tl : TL} (h : TInv pass p tl)
    (i tok : Nat) (hp : pass[p]? = some tok) : TInv pass (p + 1) (pushTok tl i tok) := by
  rcases Nat.lt_or_ge i tl.length with hi | hi
  · have hnew : ∀ t ∈ tl.flatten, t < tok := fun t ht => below_lt hs (h.below t ht) hp
    have hperm := pushTok_flatten_perm tok hi
    refine ⟨?_, ?_, ?_⟩
    · intro m hm
      unfold pushTok at hm
      rw [List.getElem?_eq_getElem hi] at hm
      rcases List.mem_or_eq_of_mem_set hm with h1 | rfl
      · exact h.sorted m h1
      · rw [List.pairwise_append]
        refine ⟨h.sorted _ (List.getElem_mem hi), List.pairwise_singleton _ _, ?_⟩
        intro a ha b hb
        rw [List.mem_singleton.1 hb]
        exact hnew a (List.mem_flatten.2 ⟨_, List.getElem_mem hi, ha⟩)
    · intro t ht
      rcases List.mem_cons.1 (hperm.mem_iff.1 ht) with rfl | h1
      · exact ⟨p, by omega, hp⟩
      · exact (h.below t h1).mono (by omega)
    · rw [hperm.nodup_iff, List.nodup_cons]
      exact ⟨fun hmem => Nat.lt_irrefl _ (hnew tok hmem), h.nodup⟩
  · rw [pushTok_of_le tok hi]; exact h.mono (by omega)

theorem pushTok_length (tl : TL) (i tok : Nat) : (pushTok tl i tok).length = tl.length := by
  unfold pushTok; split <;> simp

theorem mem_flatten_toksOf {lines : List PLine} {t : Nat} : t ∈ (toksOf lines).flatten ↔ ∃ l ∈ lines, t ∈ l.tokens := by
  rw [toksOf, ← List.flatMap_def, List.mem_flatMap]

theorem toksOf_append (lines : List PLine) (l : PLine) : toksOf (lines ++ [l]) = toksOf lines ++ [l.tokens] := by
  simp [toksOf]

theorem toksOf_modifyLine_keep (lines : List PLine) (i : Nat) (f : PLine → PLine) (hf : ∀ l, (f l).tokens = l.tokens) :
    toksOf (modifyLine lines i f) = toksOf lines := by
  apply List.ext_getElem?
  intro j
  rw [toksOf, toksOf, List.getElem?_map, List.getElem?_map, getElem?_modifyLine]
  split
  · cases lines[j]? <;> simp [hf]
  · rfl

theorem toksOf_modifyLine_push (lines : List PLine) (i tok : Nat) :
    toksOf (modifyLine lines i (fun l => { l with tokens := l.tokens ++ [tok] })) = pushTok (toksOf lines) i tok := by
  unfold modifyLine toksOf pushTok
  rw [List.getElem?_map]
  cases h : lines[i]? with
  | none => simp
  | some l => simp [List.map_set]

theorem TInv.lines {pass : List Nat} {p : Nat} {ls : List PLine} (h : TInv pass p (toksOf ls)) :
    (∀ l ∈ ls, l.tokens.Pairwise (· < ·)) ∧ (∀ l ∈ ls, ∀ t ∈ l.tokens, t ∈ pass) ∧ (ls.flatMap (·.tokens)).Nodup := by
  refine ⟨fun l hl => h.sorted l.tokens (List.mem_map_of_mem hl), fun l hl t ht => ?_, ?_⟩
  · obtain ⟨j, _, hj⟩ := h.below t (mem_flatten_toksOf.2 ⟨l, hl, ht⟩)
    exact List.mem_of_getElem? hj
  · rw [List.flatMap_def]; exact h.nodup

def Parents.opParent : POp → Option LineParent
  | .pushLine p => some p
  | .finish p _ => p
  | _ => none

/-- a position that holds no line yet counts as holding this one (`LMoves.line`) -/
def blank : PLine := { parent := none, level := 0, tokens := [], ltype := .lUnknown }

/-- `l'` is what moves make of the line `l` at position `j`: it keeps the tokens that are there, its parent reference is
    the old one or `q`, and it is an `Eof` line only if it was one or `j` is in `S` -/
def Kept (q : Option LineParent) (S : Nat → Prop) (j : Nat) (l l' : PLine) : Prop :=
  (∀ t ∈ l.tokens, t ∈ l'.tokens) ∧ (l'.parent = l.parent ∨ l'.parent = q) ∧ (l'.ltype = .lEof → l.ltype = .lEof ∨ S j)

theorem Kept.refl (q : Option LineParent) (S : Nat → Prop) (j : Nat) (l : PLine) : Kept q S j l l :=
  ⟨fun _ ht => ht, Or.inl rfl, Or.inl⟩

theorem Kept.trans {q : Option LineParent} {S : Nat → Prop} {j : Nat} {a b c : PLine} (h1 : Kept q S j a b)
    (h2 : Kept q S j b c) : Kept q S j a c :=
  ⟨fun t ht => h2.1 t (h1.1 t ht), h2.2.1.elim (fun e => e ▸ h1.2.1) Or.inr,
    fun hc => (h2.2.2 hc).elim h1.2.2 Or.inr⟩

/-- What a primitive can do while `i` is the current line: put the token at the position on line `i`, step over a
    position behind the end of the pass, skip a position (listed), change a line but not its tokens, open an empty
    line (a changed line, and a new one against `blank`, are `Kept`).  `q`: the only parent reference written; `S`: where a
    line may become an `Eof` line. -/
inductive LMoves (pass : List Nat) (i : Nat) (q : Option LineParent) (S : Nat → Prop) :
    List PLine → Nat → List Nat → List PLine → Nat → Prop where
  | refl (ls : List PLine) (p : Nat) : LMoves pass i q S ls p [] ls p
  | take {p tok : Nat} (ls : List PLine) (h : pass[p]? = some tok) :
      LMoves pass i q S ls p [] (modifyLine ls i (fun l => { l with tokens := l.tokens ++ [tok] })) (p + 1)
  | pastEnd {p : Nat} (ls : List PLine) (h : pass[p]? = none) : LMoves pass i q S ls p [] ls (p + 1)
  | skip (ls : List PLine) (p : Nat) : LMoves pass i q S ls p [p] ls (p + 1)
  | edit (ls : List PLine) (p j : Nat) (f : PLine → PLine) (hf : ∀ l, Kept q S j l (f l)) (ht : ∀ l, (f l).tokens = l.tokens) :
      LMoves pass i q S ls p [] (modifyLine ls j f) p
  | newLine (ls : List PLine) (p : Nat) (x : PLine) (hx : Kept q S ls.length blank x) (ht : x.tokens = []) :
      LMoves pass i q S ls p [] (ls ++ [x]) p
  | trans {ls ls' ls'' : List PLine} {p p' p'' : Nat} {sk sk' : List Nat} (h1 : LMoves pass i q S ls p sk ls' p')
      (h2 : LMoves pass i q S ls' p' sk' ls'' p'') : LMoves pass i q S ls p (sk ++ sk') ls'' p''

theorem LMoves.le {pass : List Nat} {i : Nat} {q : Option LineParent} {S : Nat → Prop} {ls ls' : List PLine}
    {p p' : Nat} {sk : List Nat} (m : LMoves pass i q S ls p sk ls' p') : ls.length ≤ ls'.length ∧ p ≤ p' := by
  induction m with
  | refl => exact ⟨Nat.le_refl _, Nat.le_refl _⟩
  | pastEnd | skip => exact ⟨Nat.le_refl _, Nat.le_succ _⟩
  | take => rw [modifyLine_length]; exact ⟨Nat.le_refl _, Nat.le_succ _⟩
  | edit => rw [modifyLine_length]; exact ⟨Nat.le_refl _, Nat.le_refl _⟩
  | newLine => simp
  | trans _ _ ih1 ih2 => exact ⟨Nat.le_trans ih1.1 ih2.1, Nat.le_trans ih1.2 ih2.2⟩

theorem TInv.moves {pass : List Nat} (hs : pass.Pairwise (· < ·)) {i : Nat} {q : Option LineParent} {S : Nat → Prop}
    {ls ls' : List PLine} {p p' : Nat} {sk : List Nat} (m : LMoves pass i q S ls p sk ls' p')
    (h : TInv pass p (toksOf ls)) : TInv pass p' (toksOf ls') := by
  induction m with
  | refl => exact h
  | take _ hp => rw [toksOf_modifyLine_push]; exact h.push hs i _ hp
  | pastEnd | skip => exact h.mono (Nat.le_succ _)
  | edit _ _ _ _ _ ht => rw [toksOf_modifyLine_keep _ _ _ ht]; exact h
  | newLine _ _ _ _ ht => rw [toksOf_append, ht]; exact h.append_empty
  | trans _ _ ih1 ih2 => exact ih2 (ih1 h)

namespace Parents

/-- every line is still there, at the same position, with at least the same tokens -/
def Grows (ls ls' : List PLine) : Prop :=
  ∀ (i : Nat) (l : PLine), ls[i]? = some l → ∃ l' : PLine, ls'[i]? = some l' ∧ ∀ t ∈ l.tokens, t ∈ l'.tokens

theorem Grows.refl (ls : List PLine) : Grows ls ls := fun _ l h => ⟨l, h, fun _ ht => ht⟩

theorem Grows.trans {a b c : List PLine} (h1 : Grows a b) (h2 : Grows b c) : Grows a c := by
  intro i l hl
  obtain ⟨l1, a1, b1⟩ := h1 i l hl
  obtain ⟨l2, a2, b2⟩ := h2 i l1 a1
  exact ⟨l2, a2, fun t ht => b2 t (b1 t ht)⟩

end Parents

/-- **what moves make of every position**: the line at `j` afterwards is `Kept` from the line that was there, or from
    `blank`.  `grows`, `linv`, `eof` read it. -/
theorem LMoves.line {pass : List Nat} {i : Nat} {q : Option LineParent} {S : Nat → Prop} {a b : List PLine} {p p' : Nat}
    {sk : List Nat} (m : LMoves pass i q S a p sk b p') (j : Nat) (l' : PLine) (hj : b[j]? = some l') :
    Kept q S j (a[j]?.getD blank) l' := by
  have modify : ∀ {l' : PLine} {ls : List PLine} {k : Nat} {f : PLine → PLine}, (modifyLine ls k f)[j]? = some l' →
      (∀ l, Kept q S k l (f l)) → Kept q S j (ls[j]?.getD blank) l' := by
    intro l' ls k f h hf
    rw [getElem?_modifyLine] at h
    split at h
    · rename_i hk
      obtain ⟨l, hl, rfl⟩ := Option.map_eq_some_iff.1 h
      rw [hl]; exact hk ▸ hf l
    · rw [h]; exact .refl ..
  induction m generalizing l' with
  | refl | pastEnd | skip => rw [hj]; exact .refl ..
  | take => exact modify hj fun _ => ⟨fun _ ht => List.mem_append_left _ ht, Or.inl rfl, Or.inl⟩
  | edit _ _ _ _ hf => exact modify hj hf
  | newLine ls _ x hx _ =>
    rcases getElem?_snoc hj with h1 | ⟨rfl, rfl⟩
    · rw [h1]; exact .refl ..
    · rw [List.getElem?_eq_none (Nat.le_refl _)]; exact hx
  | @trans _ ls' _ _ _ _ _ _ m1 _ ih1 ih2 =>
    have h2 := ih2 l' hj
    cases h1 : ls'[j]? with
    | some l1 => rw [h1] at h2; exact (ih1 l1 h1).trans h2
    | none =>
      rw [h1] at h2
      rwa [List.getElem?_eq_none (Nat.le_trans m1.le.1 (List.getElem?_eq_none_iff.1 h1))]

theorem LMoves.grows {pass : List Nat} {i : Nat} {q : Option LineParent} {S : Nat → Prop} {a b : List PLine} {p p' : Nat}
    {sk : List Nat} (h : LMoves pass i q S a p sk b p') : Parents.Grows a b := by
  intro j l hl
  have hj : j < b.length := Nat.lt_of_lt_of_le (List.getElem?_eq_some_iff.1 hl).1 h.le.1
  exact ⟨b[j], List.getElem?_eq_getElem hj, (hl ▸ h.line j _ (List.getElem?_eq_getElem hj)).1⟩

theorem absorbInline_moves (q : Option LineParent) (S : Nat → Prop) (kinds : List RawKind) (pass : List Nat) (fuel : Nat)
    (lines : List PLine) (ln p : Nat) :
    LMoves pass ln q S lines p [] (absorbInline kinds pass fuel lines ln p).1 (absorbInline kinds pass fuel lines ln p).2 := by
  induction fuel generalizing lines p with
  | zero => exact .refl _ _
  | succ n ih =>
    unfold absorbInline
    split
    · rename_i tok htok
      split
      · exact (LMoves.take _ htok).trans (ih _ _)
      · exact .refl _ _
    · exact .refl _ _

/-- stated for its own sake: the position part of `absorbInline_moves` -/
theorem absorbInline_mono (kinds : List RawKind) (pass : List Nat) (fuel : Nat) (lines : List PLine) (ln p : Nat) :
    p ≤ (absorbInline kinds pass fuel lines ln p).2 :=
  (absorbInline_moves none (fun _ => False) kinds pass fuel lines ln p).le.2

theorem foldl_level_moves (pass : List Nat) (i : Nat) (q : Option LineParent) (S : Nat → Prop) (c : Prop) [Decidable c]
    (lines : List PLine) (us : List Nat) (level p : Nat) :
    LMoves pass i q S lines p []
      (if c then us.foldl (fun ls u => modifyLine ls u (fun l => { l with level := level })) lines else lines) p := by
  split
  · induction us generalizing lines with
    | nil => exact .refl _ _
    | cons u r ih =>
      rw [List.foldl_cons]
      exact (LMoves.edit _ _ u (fun l => { l with level := level }) (fun _ => ⟨fun _ ht => ht, Or.inl rfl, Or.inl⟩)
        (fun _ => rfl)).trans (ih _)
  · exact .refl _ _

structure RefsValid (s : MState) : Prop where
  cur : ∀ c ∈ s.cur, c < s.lines.length
  last : s.lastFinished < s.lines.length

theorem RefsValid.of_le {s s' : MState} (hv : RefsValid s) (hle : s.lines.length ≤ s'.lines.length)
    (hcur : ∀ c ∈ s'.cur, c ∈ s.cur ∨ c = s.lastFinished) (hlast : s'.lastFinished = s.lastFinished) :
    RefsValid s' := by
  refine ⟨fun c hc => ?_, by have := hv.last; omega⟩
  rcases hcur c hc with h | rfl
  · have := hv.cur c h; omega
  · have := hv.last; omega

/-- Every primitive moves by `LMoves` on the current line and keeps the line references valid; it writes no parent
    reference but the one it carries, and only `set_logical_line_type(Eof)` makes an `Eof` line, of the current line. -/
theorem step_moves (kinds : List RawKind) (pass : List Nat) (s s' : MState) (op : POp)
    (hstep : s.step kinds pass op = some s') :
    ∃ top rest, s.cur = top :: rest ∧
      LMoves pass top (Parents.opParent op) (fun i => op = .setType .lEof ∧ i = top) s.lines s.passIdx (skippedBy s op)
        s'.lines s'.passIdx ∧
      (RefsValid s → RefsValid s') := by
  unfold MState.step at hstep
  split at hstep
  · simp at hstep
  · rename_i top curRest hcur
    refine ⟨top, curRest, hcur, ?_⟩
    have hrest : ∀ c ∈ curRest, c ∈ s.cur ∨ c = s.lastFinished := fun c hc => .inl (by rw [hcur]; simp [hc])
    cases op with
    | next =>
      cases hstep
      have h1 : LMoves pass top none (fun i => POp.next = .setType .lEof ∧ i = top) s.lines s.passIdx [] (match pass[s.passIdx]? with
          | some tok => modifyLine s.lines top (fun l => { l with tokens := l.tokens ++ [tok] })
          | none => s.lines) (s.passIdx + 1) := by
        split
        · exact .take _ ‹_›
        · exact .pastEnd _ ‹_›
      have hm := h1.trans (absorbInline_moves _ _ kinds pass (pass.length + 1) _ top (s.passIdx + 1))
      exact ⟨hm, fun hv => hv.of_le hm.le.1 (fun c hc => .inl hc) rfl⟩
    | skip =>
      cases hstep
      exact ⟨.skip _ _, fun hv => ⟨hv.cur, hv.last⟩⟩
    | finishEmpty =>
      simp only at hstep
      split at hstep
      · rename_i l hl
        split at hstep
        · cases hstep
          have e := (modifyLine_eq_set hl fun l => { l with ltype := .lUnknown }).symm
          have hm : LMoves pass top none (fun i => POp.finishEmpty = .setType .lEof ∧ i = top) s.lines s.passIdx []
              (s.lines.set top { l with ltype := .lUnknown }) s.passIdx := by
            rw [e]
            exact .edit _ _ _ _ (fun _ => ⟨fun _ ht => ht, Or.inl rfl, fun h => nomatch h⟩) (fun _ => rfl)
          exact ⟨hm, fun hv => hv.of_le hm.le.1 (fun c hc => .inl hc) rfl⟩
        · simp at hstep
      · simp at hstep
    | finish parent level =>
      simp only at hstep
      split at hstep
      · simp at hstep
      · split at hstep
        · simp at hstep
        · cases hstep
          have hm : LMoves pass top parent (fun i => POp.finish parent level = .setType .lEof ∧ i = top) s.lines s.passIdx []
              (modifyLine (if (!s.curUnfinished) = true then
                  List.foldl (fun ls u => modifyLine ls u fun l => { l with level := level })
                    (absorbInline kinds pass (pass.length + 1) s.lines top s.passIdx).1 s.unfinished
                else (absorbInline kinds pass (pass.length + 1) s.lines top s.passIdx).1) top
                fun l => { l with parent := parent, level := level })
              (absorbInline kinds pass (pass.length + 1) s.lines top s.passIdx).2 := by
            exact ((absorbInline_moves _ _ kinds pass (pass.length + 1) s.lines top s.passIdx).trans
              (foldl_level_moves _ _ _ _ _ _ _ _ _)).trans
              (.edit _ _ top (fun l => { l with parent := parent, level := level })
                (fun _ => ⟨fun _ ht => ht, Or.inr rfl, Or.inl⟩) (fun _ => rfl))
          have hle := hm.le.1
          refine ⟨hm.trans (.newLine _ _ _ ⟨fun _ h => (nomatch h), Or.inl rfl, fun h => nomatch h⟩ rfl), fun hv => ⟨fun c hc => ?_, ?_⟩⟩
          · simp only [List.length_append, List.length_singleton]
            rcases List.mem_cons.1 hc with rfl | hc'
            · omega
            · have := hv.cur c (by rw [hcur]; simp [hc']); omega
          · simp only [List.length_append, List.length_singleton]
            have := hv.cur top (by rw [hcur]; simp); omega
    | markUnfinished =>
      cases hstep
      exact ⟨.refl _ _, fun hv => ⟨hv.cur, hv.last⟩⟩
    | pushLine parent =>
      cases hstep
      refine ⟨.newLine _ _ _ ⟨fun _ h => (nomatch h), Or.inr rfl, fun h => nomatch h⟩ rfl, fun hv => ⟨fun c hc => ?_, by simp⟩⟩
      simp only [List.length_append, List.length_singleton]
      rcases List.mem_cons.1 hc with rfl | hc'
      · omega
      · have := hv.cur c hc'; omega
    | popLine | popLast =>
      simp only at hstep
      split at hstep
      · simp at hstep
      · cases hstep
        exact ⟨.refl _ _, fun hv => hv.of_le (Nat.le_refl _) hrest rfl⟩
    | pushLast =>
      cases hstep
      exact ⟨.refl _ _, fun hv => hv.of_le (Nat.le_refl _) (fun c hc => (List.mem_cons.1 hc).symm) rfl⟩
    | setType t =>
      cases hstep
      have hm : LMoves pass top none (fun i => POp.setType t = .setType .lEof ∧ i = top) s.lines s.passIdx []
          (modifyLine s.lines top fun l => { l with ltype := t }) s.passIdx :=
        .edit _ _ _ _ (fun _ => ⟨fun _ ht => ht, Or.inl rfl, fun h => Or.inr ⟨by rw [← h], rfl⟩⟩) (fun _ => rfl)
      exact ⟨hm, fun hv => hv.of_le hm.le.1 (fun c hc => .inl hc) rfl⟩

/-- `next_token` puts the token at the position on the current line, where it stays -/
theorem step_next_current (kinds : List RawKind) (pass : List Nat) (s s' : MState) (top tok : Nat)
    (hcur : s.cur.head? = some top) (htop : top < s.lines.length) (htok : pass[s.passIdx]? = some tok)
    (hstep : s.step kinds pass .next = some s') : ∃ pl, s'.lines[top]? = some pl ∧ tok ∈ pl.tokens := by
  unfold MState.step at hstep
  split at hstep
  · simp at hstep
  · rename_i top' curRest hc
    rw [hc] at hcur
    simp at hcur; subst hcur
    cases hstep
    simp only [htok]
    have hm := (absorbInline_moves none (fun _ => False) kinds pass (pass.length + 1)
      (modifyLine s.lines top' fun l => { l with tokens := l.tokens ++ [tok] }) top' (s.passIdx + 1)).grows
    obtain ⟨l', h1, h2⟩ := hm top' _ (by rw [getElem?_modifyLine, if_pos rfl, List.getElem?_eq_getElem htop]; rfl)
    exact ⟨l', h1, h2 tok (by simp)⟩

theorem step_setType_passIdx {kinds : List RawKind} {pass : List Nat} {s s' : MState} {t : LogicalLineType}
    (hstep : s.step kinds pass (.setType t) = some s') : s'.passIdx = s.passIdx := by
  unfold MState.step at hstep
  split at hstep
  · simp at hstep
  · cases hstep; rfl

theorem step_refs (kinds : List RawKind) (pass : List Nat) (s s' : MState) (op : POp) (hv : RefsValid s)
    (hstep : s.step kinds pass op = some s') : RefsValid s' :=
  let ⟨_, _, _, _, h⟩ := step_moves kinds pass s s' op hstep
  h hv

/-- what every accepted primitive keeps holds after every accepted trace (`sk`: the positions skipped so far) -/
theorem MState.run_induction {kinds : List RawKind} {pass : List Nat} {P : MState → List Nat → Prop}
    (hstep : ∀ s s' op sk, P s sk → s.step kinds pass op = some s' → P s' (sk ++ skippedBy s op)) :
    ∀ (ops : List POp) (s s' : MState) (sk : List Nat), P s sk → s.run kinds pass ops = some s' →
      P s' (sk ++ skippedRun kinds pass s ops)
  | [], s, s', sk, h, hrun => by
    obtain rfl : s = s' := by simpa [MState.run] using hrun
    simpa [skippedRun] using h
  | op :: r, s, s', sk, h, hrun => by
    unfold MState.run at hrun
    split at hrun
    · cases hrun
    · rename_i s1 hs1
      have := MState.run_induction hstep r s1 s' _ (hstep s s1 op sk h hs1) hrun
      unfold skippedRun
      rw [hs1, ← List.append_assoc]
      exact this

def Covered (pass : List Nat) (p : Nat) (tl : TL) (sk : List Nat) : Prop :=
  ∀ j tok, j < p → pass[j]? = some tok → tok ∈ tl.flatten ∨ j ∈ sk

/-- stated for its own sake: coverage is monotone in what was skipped -/
theorem Covered.more_skipped {pass : List Nat} {p : Nat} {tl : TL} {sk sk' : List Nat} (h : Covered pass p tl sk)
    (hs : ∀ x ∈ sk, x ∈ sk') : Covered pass p tl sk' := by
  intro j t hj ht
  rcases h j t hj ht with h1 | h1
  · left; exact h1
  · right; exact hs _ h1

theorem Covered.succ {pass : List Nat} {p : Nat} {tl tl' : TL} {sk sk' : List Nat} (h : Covered pass p tl sk)
    (htl : ∀ x ∈ tl.flatten, x ∈ tl'.flatten) (hsk : ∀ x ∈ sk, x ∈ sk')
    (hnew : ∀ tok, pass[p]? = some tok → tok ∈ tl'.flatten ∨ p ∈ sk') : Covered pass (p + 1) tl' sk' := by
  intro j t hj ht
  rcases Nat.lt_or_ge j p with hlt | hge
  · exact (h j t hlt ht).imp (htl t) (hsk j)
  · obtain rfl : j = p := by omega
    exact hnew t ht

theorem Covered.moves {pass : List Nat} {i : Nat} {q : Option LineParent} {S : Nat → Prop} {ls ls' : List PLine}
    {p p' : Nat} {sk sk0 : List Nat} (m : LMoves pass i q S ls p sk ls' p') (hi : i < ls.length)
    (h : Covered pass p (toksOf ls) sk0) : Covered pass p' (toksOf ls') (sk0 ++ sk) := by
  induction m generalizing sk0 with
  | refl => rw [List.append_nil]; exact h
  | @take p tok ls hp =>
    have hmem : ∀ x, x ∈ (pushTok (toksOf ls) i tok).flatten ↔ x = tok ∨ x ∈ (toksOf ls).flatten := fun x => by
      rw [(pushTok_flatten_perm tok (by simpa [toksOf] using hi)).mem_iff, List.mem_cons]
    rw [List.append_nil, toksOf_modifyLine_push]
    refine h.succ (fun x hx => (hmem x).2 (.inr hx)) (fun _ hx => hx) (fun t ht => .inl ((hmem t).2 (.inl ?_)))
    rw [hp] at ht; exact (Option.some.inj ht).symm
  | pastEnd ls hp =>
    rw [List.append_nil]
    exact h.succ (fun _ hx => hx) (fun _ hx => hx) (fun t ht => by rw [hp] at ht; cases ht)
  | skip ls p => exact h.succ (fun _ hx => hx) (fun x hx => by simp [hx]) (fun _ _ => .inr (by simp))
  | edit _ _ _ _ _ ht => rw [List.append_nil, toksOf_modifyLine_keep _ _ _ ht]; exact h
  | newLine _ _ _ _ ht => rw [List.append_nil, toksOf_append, ht]; intro j t hj ht'; simpa using h j t hj ht'
  | trans m1 _ ih1 ih2 =>
    rw [← List.append_assoc]
    exact ih2 (Nat.lt_of_lt_of_le hi m1.le.1) (ih1 hi h)

/-- what holds of every state the line builder reaches from `MState.init`; `sk`: the positions skipped on the way -/
structure Reach (pass : List Nat) (s : MState) (sk : List Nat) : Prop where
  refs : RefsValid s
  cover : Covered pass s.passIdx (toksOf s.lines) sk
  tinv : pass.Pairwise (· < ·) → TInv pass s.passIdx (toksOf s.lines)

theorem reach_run {kinds : List RawKind} {pass : List Nat} {ops : List POp} {s : MState}
    (hrun : MState.init.run kinds pass ops = some s) : Reach pass s (skippedRun kinds pass MState.init ops) := by
  refine List.nil_append (skippedRun ..) ▸ MState.run_induction (P := Reach pass) (fun s s' op sk h hstep => ?_) ops _ s [] ?_ hrun
  · obtain ⟨top, _, hcur, hm, hv⟩ := step_moves kinds pass s s' op hstep
    exact ⟨hv h.refs, h.cover.moves hm (h.refs.cur top (by rw [hcur]; simp)), fun hs => (h.tinv hs).moves hs hm⟩
  · exact ⟨⟨by intro c hc; simp [MState.init] at hc ⊢; omega, by simp [MState.init]⟩, fun j _ hj => absurd hj (Nat.not_lt_zero j),
      fun _ => ⟨by intro l hl; simp [MState.init, toksOf] at hl; subst hl; exact .nil, by simp [MState.init, toksOf],
        by simp [MState.init, toksOf]⟩⟩

end Pasfmt
