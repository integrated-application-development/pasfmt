/-
  Facts about the state monad `PM` of the parser model that do not depend on what is proved of it: what `>>=`, `get`,
  `liftOpt`, a primitive and `next_token` compute, and the computations that only read the state (`Reads`), which keep
  any invariant of the state.
-/
import PasfmtModel.Model.ParserFull
import PasfmtModel.Proofs.Machine

namespace Pasfmt.Parents

open PFull

theorem bind_eq_some {α β : Type} {x : PM α} {f : α → PM β} {s : PS} {b : β} {s' : PS}
    (h : (x >>= f) s = some (b, s')) : ∃ a s1, x s = some (a, s1) ∧ f a s1 = some (b, s') := by
  simp only [bind, StateT.bind] at h
  cases hx : x s with
  | none => rw [hx] at h; simp at h
  | some r =>
    obtain ⟨a, s1⟩ := r
    rw [hx] at h
    exact ⟨a, s1, rfl, h⟩

theorem get_bind {α : Type} (f : PS → PM α) (s : PS) : (get >>= f) s = f s s := rfl

/-- for a computation that answers `some (v, t)` by definition (`pure`, `get`, `modify` …): `h` is stated about the
    computation, the unifier unfolds it -/
theorem some_inj {α : Type} {v a : α} {t s' : PS} (h : (some (v, t) : Option (α × PS)) = some (a, s')) :
    a = v ∧ s' = t := by
  cases h; exact ⟨rfl, rfl⟩

theorem liftOpt_eq_some {α : Type} {o : Option α} {s : PS} {a : α} {s' : PS} (h : PFull.liftOpt o s = some (a, s')) :
    o = some a ∧ s' = s := by
  cases o with
  | none => simp [PFull.liftOpt, panic_] at h
  | some x => obtain ⟨rfl, rfl⟩ := some_inj h; exact ⟨rfl, rfl⟩

theorem Traced.step_eq_some {kinds0 : List RawKind} {pass : List Nat} {t t' : Traced kinds0 pass} {op : POp}
    (h : t.step op = some t') : t.m.step kinds0 pass op = some t'.m := by
  unfold Traced.step at h
  split at h
  · simp at h
  · rename_i m' hm'
    split at h
    · simp only [Option.some.injEq] at h
      subst h
      exact hm'
    · simp at h

theorem traced_refs {kinds0 : List RawKind} {pass : List Nat} (t : Traced kinds0 pass) : RefsValid t.m :=
  (reach_run t.ok).refs

theorem prim_eq_some {op : POp} {s : PS} {a : Unit} {s' : PS} (h : prim op s = some (a, s')) :
    ∃ mt', s.mt.step op = some mt' ∧ s' = { s with mt := mt' } := by
  unfold prim at h
  split at h
  · simp at h
  · rename_i mt' hmt
    simp only [Option.some.injEq, Prod.mk.injEq] at h
    exact ⟨mt', hmt, h.2.symm⟩

theorem prim_spec (op : POp) (s : PS) (a : Unit) (s' : PS) (h : prim op s = some (a, s')) :
    s.m.step s.kinds0 s.pass op = some s'.m ∧ s'.contexts = s.contexts ∧ s'.pass = s.pass ∧ s'.passArr = s.passArr := by
  obtain ⟨mt', hmt, rfl⟩ := prim_eq_some h
  exact ⟨Traced.step_eq_some hmt, rfl, rfl, rfl⟩

def withLevels (s : PS) (a b c : Nat) : PS := { s with parenLevel := a, brackLevel := b, genericLevel := c }

theorem nextToken_eq (s : PS) : ∃ a b c, nextToken s = prim .next (withLevels s a b c) := by
  unfold nextToken
  rw [get_bind]
  rcases s.getCurrentTokenType with _ | k
  · exact ⟨_, _, _, rfl⟩
  · cases k with
    | rOp o => cases o <;> exact ⟨_, _, _, rfl⟩
    | _ => exact ⟨_, _, _, rfl⟩

/-- `x` only reads the state, so it keeps every invariant of the state (`Good.reader`, `ParserLit.Frame.reader`); an
    instance for each reading function of the model -/
class Reads {α : Type} (x : PM α) : Prop where
  same : ∀ s a s', x s = some (a, s') → s' = s

instance {α : Type} : Reads (panic_ : PM α) := ⟨fun _ _ _ h => nomatch h⟩
instance {α : Type} (o : Option α) : Reads (liftOpt o) := ⟨fun _ _ _ h => (liftOpt_eq_some h).2⟩
instance {α β : Type} (x : PM α) (f : α → PM β) [Reads x] [∀ a, Reads (f a)] : Reads (x >>= f) :=
  ⟨fun s b s' h => by
    obtain ⟨a, s1, h1, h2⟩ := bind_eq_some h
    rw [Reads.same s1 b s' h2, Reads.same s a s1 h1]⟩

theorem reads_gets {α : Type} (g : PS → α) : Reads (fun s => some (g s, s)) :=
  ⟨fun s a s' h => by simp only [Option.some.injEq, Prod.mk.injEq] at h; exact h.2.symm⟩

instance {α : Type} (a : α) : Reads (pure a : PM α) := reads_gets _
instance : Reads (get : PM PS) := reads_gets _
instance : Reads cur := reads_gets _
instance : Reads prevTT := reads_gets _
instance : Reads nextTT := reads_gets _
instance : Reads curKw := reads_gets _
instance : Reads lastCtxType := reads_gets _

instance : Reads endingIdx := ⟨by
  intro s a s' h
  unfold endingIdx at h
  split at h
  · simp at h
  · simp only [Option.some.injEq, Prod.mk.injEq] at h; exact h.2.symm⟩

instance : Reads curLine := ⟨by
  intro s a s' h
  unfold curLine at h
  split at h
  · simp only [Option.some.injEq, Prod.mk.injEq] at h; exact h.2.symm
  · simp at h⟩

instance : Reads isAtStartOfLine := ⟨by unfold isAtStartOfLine; exact Reads.same⟩
instance : Reads curLineTokenTypes := ⟨by unfold curLineTokenTypes; exact Reads.same⟩
instance : Reads getLineParentOfCurrentToken := ⟨by unfold getLineParentOfCurrentToken; exact Reads.same⟩
instance : Reads isDirectiveBeforeNextToken := ⟨by unfold isDirectiveBeforeNextToken; exact Reads.same⟩

end Pasfmt.Parents
