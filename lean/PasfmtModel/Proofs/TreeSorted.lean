/-
  Every conditional-directive pass lists token positions in strictly increasing order, below the
  number of tokens: the hypothesis `pass.Pairwise (· < ·)` of the line-builder theorems
  (`Proofs/Machine.lean`) holds for every pass of every file.  The parsed tree lays its sections out one
  after the other in token order (`secIn`, `treeIn`); a pass keeps that layout and takes its tokens in
  that order.
-/
import PasfmtModel.Proofs.Tree

namespace Pasfmt

/-- a strictly increasing list inside `[a, b)` -/
def Within (a b : Nat) (l : List Nat) : Prop := l.Sublist (List.range' a (b - a))

theorem Within.nil (a b : Nat) : Within a b [] := List.nil_sublist _

theorem Within.append {a m b : Nat} {l1 l2 : List Nat} (h1 : Within a m l1) (h2 : Within m b l2) (hab : a ≤ m) (hmb : m ≤ b) :
    Within a b (l1 ++ l2) := by
  have := List.range'_append_1 (s := a) (m := m - a) (n := b - m)
  rw [Nat.add_sub_cancel' hab, show m - a + (b - m) = b - a by omega] at this
  rw [Within, ← this]; exact List.Sublist.append h1 h2

theorem within_range {a lo hi b : Nat} (h1 : a ≤ lo) (h2 : lo ≤ hi) (h3 : hi ≤ b) :
    Within a b ((List.range (hi - lo)).map (· + lo)) := by
  rw [show (List.range (hi - lo)).map (· + lo) = List.range' lo (hi - lo) by simp [List.range'_eq_map_range, Nat.add_comm]]
  simpa using ((Within.nil a lo).append (List.Sublist.refl _) h1 h2).append (Within.nil hi b) (Nat.le_trans h1 h2) h3

/-- sections laid out one after the other inside `[a, b)` -/
def seqWith (P : DSection → Nat → Nat → Prop) : List DSection → Nat → Nat → Prop
  | [], a, b => a ≤ b
  | s :: r, a, b => ∃ m, a ≤ m ∧ P s a m ∧ seqWith P r m b

mutual
/-- the positions of the section lie inside `[a, b)`: a flat section is empty or is `lo..hi` inside `[a, b)`, the
    branches of a nested section all lie inside; `treeIn`: the sections of the tree follow one another inside `[a, b)` -/
def secIn (fuel : Nat) : DSection → Nat → Nat → Prop
  | .flat _ lo hi, a, b => a ≤ b ∧ (lo = hi ∨ (a ≤ lo ∧ lo ≤ hi ∧ hi ≤ b))
  | .nested trees, a, b =>
    match fuel with
    | 0 => a ≤ b
    | fuel + 1 => a ≤ b ∧ ∀ t ∈ trees, treeIn fuel t a b

def treeIn (fuel : Nat) (t : DTree) (a b : Nat) : Prop :=
  match fuel with
  | 0 => a ≤ b
  | fuel + 1 => seqWith (secIn fuel) t a b
end

theorem seqWith_le {P : DSection → Nat → Nat → Prop} (hP : ∀ s a b, P s a b → a ≤ b) :
    ∀ (l : List DSection) (a b : Nat), seqWith P l a b → a ≤ b
  | [], a, b, h => h
  | s :: r, a, b, ⟨m, ham, _, hr⟩ => by
    have := seqWith_le hP r m b hr
    omega

theorem secIn_le (fuel : Nat) (s : DSection) (a b : Nat) (h : secIn fuel s a b) : a ≤ b := by
  cases s with
  | flat e lo hi => rw [secIn] at h; exact h.1
  | nested trees =>
    cases fuel with
    | zero => rw [secIn] at h; exact h
    | succ f => rw [secIn] at h; exact h.1

/-- stated for its own sake, beside `secIn_le` -/
theorem treeIn_le (fuel : Nat) (t : DTree) (a b : Nat) (h : treeIn fuel t a b) : a ≤ b := by
  cases fuel with
  | zero => rw [treeIn] at h; exact h
  | succ f => rw [treeIn] at h; exact seqWith_le (secIn_le f) t a b h

theorem seqWith_mono {P : DSection → Nat → Nat → Prop}
    (hP : ∀ s a b a' b', P s a b → a' ≤ a → b ≤ b' → P s a' b') :
    ∀ (l : List DSection) (a b a' b' : Nat), seqWith P l a b → a' ≤ a → b ≤ b' → seqWith P l a' b'
  | [], a, b, a', b', h, h1, h2 => by simp only [seqWith] at h ⊢; omega
  | s :: r, a, b, a', b', ⟨m, ham, hs, hr⟩, h1, h2 =>
    ⟨m, by omega, hP s a m a' m hs h1 (Nat.le_refl _), seqWith_mono hP r m b m b' hr (Nat.le_refl _) h2⟩

theorem layout_mono : ∀ f,
    (∀ s a b a' b', secIn f s a b → a' ≤ a → b ≤ b' → secIn f s a' b') ∧
    (∀ t a b a' b', treeIn f t a b → a' ≤ a → b ≤ b' → treeIn f t a' b') := by
  refine fuel_induction ?_ ?_ ?_ ?_ ?_
  · intro f e lo hi a b a' b' h h1 h2
    rw [secIn] at h ⊢; omega
  · intro trees a b a' b' h h1 h2
    rw [secIn] at h ⊢; omega
  · intro t a b a' b' h h1 h2
    rw [treeIn] at h ⊢; omega
  · intro f trees ih a b a' b' h h1 h2
    rw [secIn] at h ⊢
    exact ⟨by omega, fun t ht => ih t a b a' b' (h.2 t ht) h1 h2⟩
  · intro f t ih a b a' b' h h1 h2
    rw [treeIn] at h ⊢
    exact seqWith_mono ih t a b a' b' h h1 h2

theorem seqWith_snoc (f : Nat) :
    ∀ (l : List DSection) (s : DSection) (a m b b' : Nat),
      seqWith (secIn f) l a m → secIn f s m b → b ≤ b' → seqWith (secIn f) (l ++ [s]) a b'
  | [], s, a, m, b, b', h1, h2, h3 =>
    ⟨b', by have := secIn_le f s m b h2; simp only [seqWith] at h1; omega,
      (layout_mono f).1 s m b a b' h2 h1 h3, Nat.le_refl _⟩
  | x :: r, s, a, m, b, b', ⟨c, hac, hx, hr⟩, h2, h3 => ⟨c, hac, hx, seqWith_snoc f r s c m b b' hr h2 h3⟩

/-- the tokens a pass takes from a tree lie in order inside the tree's span, and the updated tree
    has the same layout -/
theorem pass_within : ∀ f,
    (∀ s a b, secIn f s a b → Within a b (sectionPass f s).2 ∧ secIn f (sectionPass f s).1 a b) ∧
    (∀ t a b, treeIn f t a b → Within a b (treePass f t).2 ∧ treeIn f (treePass f t).1 a b) := by
  refine fuel_induction ?_ ?_ ?_ ?_ ?_
  · intro f e lo hi a b h
    rw [sectionPass]
    rw [secIn] at h ⊢
    refine ⟨?_, h⟩
    rcases h.2 with rfl | ⟨h1, h2, h3⟩
    · simpa using Within.nil a b
    · exact within_range h1 h2 h3
  · intro trees a b h; exact ⟨Within.nil a b, h⟩
  · intro t a b h; exact ⟨Within.nil a b, h⟩
  · intro f trees ih a b h
    rcases sectionPass_nested f trees with ⟨-, heq⟩ | ⟨i, t, hi, heq, -⟩
    · rw [heq]; exact ⟨Within.nil a b, h⟩
    · rw [heq]
      rw [secIn] at h ⊢
      obtain ⟨hw, htree⟩ := ih t a b (h.2 t (List.mem_of_getElem? hi))
      refine ⟨hw, h.1, fun t' ht' => ?_⟩
      rcases List.mem_or_eq_of_mem_set ht' with h1 | rfl
      · exact h.2 t' h1
      · exact htree
  · intro f t ih a b h
    rw [treePass_succ]
    rw [treeIn] at h ⊢
    induction t generalizing a with
    | nil => exact ⟨Within.nil a b, h⟩
    | cons s r ihr =>
      obtain ⟨m, ham, hs, hr⟩ := h
      obtain ⟨hw1, hs1⟩ := ih s a m hs
      obtain ⟨hw2, hr2⟩ := ihr m hr
      exact ⟨Within.append hw1 hw2 ham (seqWith_le (secIn_le f) r m b hr), m, ham, hs1, hr2⟩

theorem passesGo_within (df : Nat) (n : Nat) (t : DTree) (a b : Nat) (h : treeIn df t a b) :
    ∀ p ∈ passesGo df n t, Within a b p := by
  fun_induction passesGo df n t with
  | case1 => simp
  | case2 n t t' pass hp =>
    have hw := ((pass_within df).2 t a b h).1
    rw [hp] at hw
    simpa using hw
  | case3 n t t' pass hp _ ih =>
    obtain ⟨hw, ht⟩ := (pass_within df).2 t a b h
    simp only [hp] at hw ht
    intro p hp
    rcases List.mem_cons.1 hp with rfl | hp'
    · exact hw
    · exact ih ht p hp'

theorem treeIn_of_seq (t : DTree) (a b : Nat) (h : ∀ f, seqWith (secIn f) t a b) : ∀ f, treeIn f t a b := by
  intro f
  cases f with
  | zero => rw [treeIn]; exact seqWith_le (secIn_le 0) t a b (h 0)
  | succ f => rw [treeIn]; exact h f

theorem secIn_nested_of (trees : List DTree) (a b : Nat) (hab : a ≤ b) (h : ∀ f, ∀ t ∈ trees, treeIn f t a b) :
    ∀ f, secIn f (.nested trees) a b := by
  intro f
  cases f with
  | zero => rw [secIn]; exact hab
  | succ f => rw [secIn]; exact ⟨hab, fun t ht => h f t ht⟩

/-- each parsing function consumes a prefix of its tokens (all of them at top level, where no directive ends the scan,
    once the fuel exceeds their number), and the sections it builds from tokens that start at position `i0` are laid
    out over the positions of that prefix -/
theorem parse_layout (g : Nat) :
    (∀ (topLevel : Bool) (acc : DTree) (toks : List (Nat × RawKind)) (i0 a : Nat),
      Consec toks i0 → (∀ f, seqWith (secIn f) acc.reverse a i0) →
      ∃ c, c ≤ toks.length ∧ (parseNext g topLevel acc toks).2.2 = toks.drop c ∧
        (topLevel = true → toks.length < g → c = toks.length) ∧
        ∀ f, seqWith (secIn f) (parseNext g topLevel acc toks).1 a (i0 + c)) ∧
    (∀ (toks : List (Nat × RawKind)) (i0 : Nat), Consec toks i0 →
      ∃ c, c ≤ toks.length ∧ (parseNested g toks).2 = toks.drop c ∧
        ∀ f, secIn f (parseNested g toks).1 i0 (i0 + c)) ∧
    (∀ (acc : List DTree) (cdk : Option ConditionalDirectiveKind) (toks : List (Nat × RawKind)) (i0 s : Nat),
      Consec toks i0 → s ≤ i0 → (∀ f, ∀ t ∈ acc, treeIn f t s i0) →
      ∃ c, c ≤ toks.length ∧ (parseNestedElse g acc cdk toks).2 = toks.drop c ∧
        ∀ f, secIn f (parseNestedElse g acc cdk toks).1 s (i0 + c)) := by
  induction g with
  | zero =>
    refine ⟨fun topLevel acc toks i0 a _ hacc => ⟨0, Nat.zero_le _, rfl, fun _ h => absurd h (Nat.not_lt_zero _), hacc⟩,
      fun toks i0 _ => ⟨0, Nat.zero_le _, rfl, secIn_nested_of [] i0 _ (Nat.le_refl _) (by simp)⟩,
      fun acc cdk toks i0 s _ hs hacc => ⟨0, Nat.zero_le _, rfl, secIn_nested_of _ s i0 hs ?_⟩⟩
    intro f t ht; exact hacc f t (List.mem_reverse.1 ht)
  | succ g ih =>
    obtain ⟨ihNext, ihNested, ihEls⟩ := ih
    -- the last clause first: the middle one is a case of it
    refine (fun hEls => ⟨?next, ?nested, hEls⟩ : _ → _) ?els
    case next =>
      intro topLevel acc toks i0 a hc hacc
      obtain ⟨k, lo, hi, hk, hfl, hend⟩ := parseNext_succ g topLevel acc toks i0 hc
      -- the flat section sits at `[i0, i0 + k)`; a directive behind it is position `i0 + k`
      have hflat : ∀ f b, i0 + k ≤ b → seqWith (secIn f) (DSection.flat false lo hi :: acc).reverse a b := by
        intro f b hb
        rw [List.reverse_cons]
        refine seqWith_snoc f _ _ a i0 (i0 + k) b (hacc f) ?_ hb
        rw [secIn]; omega
      rcases hend with ⟨hkl, heq⟩ | ⟨q, cd, hq, -, heq⟩
      · rw [heq]
        exact ⟨toks.length, Nat.le_refl _, (List.drop_length).symm, fun _ _ => rfl, fun f => hflat f _ (by omega)⟩
      · have hkl : k < toks.length := (List.getElem?_eq_some_iff.1 hq).1
        rw [heq]
        split
        · obtain ⟨cn, hcn, hrn, hsec⟩ := ihNested (toks.drop (k + 1)) (i0 + (k + 1)) (hc.drop _)
          rw [hrn, List.drop_drop]
          obtain ⟨c2, hc2, hr2, hall, hlay⟩ := ihNext topLevel
            ((parseNested g (toks.drop (k + 1))).1 :: .flat false lo hi :: acc) (toks.drop (k + 1 + cn))
            (i0 + (k + 1 + cn)) a (hc.drop _) (fun f => by
              rw [List.reverse_cons]
              exact seqWith_snoc f _ _ a _ _ _ (hflat f _ (by omega)) (hsec f) (by omega))
          simp only [List.length_drop] at hcn hc2 hall
          refine ⟨k + 1 + cn + c2, by omega, by rw [hr2, List.drop_drop], fun ht hg => ?_, fun f => ?_⟩
          · have := hall ht (by omega); omega
          rw [← Nat.add_assoc i0]; exact hlay f
        · split
          · obtain ⟨c2, hc2, hr2, hall, hlay⟩ := ihNext topLevel (.flat false lo hi :: acc) (toks.drop (k + 1))
              (i0 + (k + 1)) a (hc.drop _) (fun f => hflat f _ (by omega))
            simp only [List.length_drop] at hc2 hall
            refine ⟨k + 1 + c2, by omega, by rw [hr2, List.drop_drop], fun ht hg => ?_, fun f => ?_⟩
            · have := hall ht (by omega); omega
            · rw [← Nat.add_assoc i0]; exact hlay f
          · rename_i hnt
            exact ⟨k + 1, hkl, rfl, fun ht => absurd ht hnt, fun f => hflat f _ (by omega)⟩
    case nested =>
      intro toks i0 hc
      rw [parseNested_succ]
      exact hEls [] _ toks i0 i0 hc (Nat.le_refl _) (fun f t ht => by cases ht)
    case els =>
      intro acc cdk toks i0 s hc hs hacc
      rw [parseNestedElse_succ]
      split
      · obtain ⟨c1, hc1, hr1, -, hlay1⟩ := ihNext false [] toks i0 i0 hc (fun f => Nat.le_refl _)
        rw [hr1]
        obtain ⟨c2, hc2, hr2, hsec⟩ := ihEls ((parseNext g false [] toks).1 :: acc) (parseNext g false [] toks).2.1
          (toks.drop c1) (i0 + c1) s (hc.drop _) (by omega) (fun f t ht => by
            rcases List.mem_cons.1 ht with rfl | h'
            · exact (layout_mono f).2 _ i0 _ s _ (treeIn_of_seq _ _ _ hlay1 f) hs (Nat.le_refl _)
            · exact (layout_mono f).2 _ s i0 s _ (hacc f t h') (Nat.le_refl _) (by omega))
        simp only [List.length_drop] at hc2
        refine ⟨c1 + c2, by omega, by rw [hr2, List.drop_drop], fun f => ?_⟩
        rw [← Nat.add_assoc]; exact hsec f
      · exact ⟨0, Nat.zero_le _, rfl, secIn_nested_of _ s i0 hs
          (fun f t ht => hacc f t (List.mem_reverse.1 ht))⟩

/-- the statement of `parse_layout`, with the position behind the consumed prefix said through the length of what
    is left -/
structure ParseOK (g : Nat) : Prop where
  next : ∀ (topLevel : Bool) (acc : DTree) (toks : List (Nat × RawKind)) (i0 a : Nat),
    Consec toks i0 → (∀ f, seqWith (secIn f) acc.reverse a i0) →
    (parseNext g topLevel acc toks).2.2.length ≤ toks.length ∧
    Consec (parseNext g topLevel acc toks).2.2 (i0 + toks.length - (parseNext g topLevel acc toks).2.2.length) ∧
    ∀ f, seqWith (secIn f) (parseNext g topLevel acc toks).1 a (i0 + toks.length - (parseNext g topLevel acc toks).2.2.length)
  nested : ∀ (toks : List (Nat × RawKind)) (i0 : Nat), Consec toks i0 →
    (parseNested g toks).2.length ≤ toks.length ∧
    Consec (parseNested g toks).2 (i0 + toks.length - (parseNested g toks).2.length) ∧
    ∀ f, secIn f (parseNested g toks).1 i0 (i0 + toks.length - (parseNested g toks).2.length)
  els : ∀ (acc : List DTree) (cdk : Option ConditionalDirectiveKind) (toks : List (Nat × RawKind)) (i0 s : Nat),
    Consec toks i0 → s ≤ i0 → (∀ f, ∀ t ∈ acc, treeIn f t s i0) →
    (parseNestedElse g acc cdk toks).2.length ≤ toks.length ∧
    Consec (parseNestedElse g acc cdk toks).2 (i0 + toks.length - (parseNestedElse g acc cdk toks).2.length) ∧
    ∀ f, secIn f (parseNestedElse g acc cdk toks).1 s (i0 + toks.length - (parseNestedElse g acc cdk toks).2.length)

/-- `parse_layout` in the form of `ParseOK`, stated for its own sake: `passes_within` uses `parse_layout` -/
theorem parseOK (g : Nat) : ParseOK g := by
  obtain ⟨hN, hS, hE⟩ := parse_layout g
  have key : ∀ {toks rest : List (Nat × RawKind)} {i0 c : Nat}, Consec toks i0 → c ≤ toks.length → rest = toks.drop c →
      rest.length ≤ toks.length ∧ Consec rest (i0 + toks.length - rest.length) ∧
        i0 + toks.length - rest.length = i0 + c := by
    intro toks rest i0 c hc hle hr
    subst hr
    have e : i0 + toks.length - (toks.drop c).length = i0 + c := by simp only [List.length_drop]; omega
    exact ⟨by simp, e ▸ hc.drop c, e⟩
  refine ⟨fun tl acc toks i0 a hc hacc => ?_, fun toks i0 hc => ?_, fun acc cdk toks i0 s hc hs hacc => ?_⟩
  · obtain ⟨c, hle, hr, -, hl⟩ := hN tl acc toks i0 a hc hacc
    obtain ⟨h1, h2, e⟩ := key hc hle hr
    exact ⟨h1, h2, fun f => e ▸ hl f⟩
  · obtain ⟨c, hle, hr, hl⟩ := hS toks i0 hc
    obtain ⟨h1, h2, e⟩ := key hc hle hr
    exact ⟨h1, h2, fun f => e ▸ hl f⟩
  · obtain ⟨c, hle, hr, hl⟩ := hE acc cdk toks i0 s hc hs hacc
    obtain ⟨h1, h2, e⟩ := key hc hle hr
    exact ⟨h1, h2, fun f => e ▸ hl f⟩

/-- **Every pass is strictly increasing and stays below the number of tokens**: the parsed directive tree of a
    file lays its sections out in token order inside `[0, n)`. -/
theorem passes_within (kinds : List RawKind) : ∀ p ∈ passes kinds, Within 0 kinds.length p := by
  obtain ⟨toks, htree, hc, hlen, -⟩ := passes_tokens kinds
  obtain ⟨c, hle, -, -, hlay⟩ := (parse_layout (3 * kinds.length + 3)).1 true [] toks 0 0 hc (fun f => Nat.le_refl _)
  rw [htree]
  refine passesGo_within _ _ _ 0 kinds.length (treeIn_of_seq _ _ _ (fun f => ?_) _)
  exact seqWith_mono (layout_mono f).1 _ 0 _ 0 kinds.length (hlay f) (Nat.le_refl _) (by omega)

theorem passes_sorted (kinds : List RawKind) : ∀ p ∈ passes kinds, p.Pairwise (· < ·) :=
  fun p hp => List.Pairwise.sublist (passes_within kinds p hp) List.pairwise_lt_range'

theorem passes_in_range (kinds : List RawKind) : ∀ p ∈ passes kinds, ∀ i ∈ p, i < kinds.length :=
  fun p hp i hi => by simpa using (List.mem_range'_1.1 ((passes_within kinds p hp).subset hi)).2

end Pasfmt
