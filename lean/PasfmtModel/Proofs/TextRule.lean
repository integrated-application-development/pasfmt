/-
  The two rules that rewrite token text before the wrapper stage (`LowercaseKeywords`, `CommentFormatter`) are one
  guarded rewrite: the kind of a token selects at most one function on texts (`textRule`), and `applyRule` hands its
  result to the guarded setter.  What the guarded rewrite can do to a token is `applyRule_cases`; which function a
  kind selects is `contentRule_cases` / `textRule_cases`, the only case splits over the kinds besides the one that
  opens the model's `commentFormatTok` (`commentFormatTok_eq`).
-/
import PasfmtModel.Model.Rules
import PasfmtModel.Proofs.AsciiCase

namespace Pasfmt

/-- `LowercaseKeywords` on a text: `set_content` is called only if there is an upper-case letter -/
def lowerRule (c : Bytes) : Option Bytes := if c.any isUpper then some (asciiLower c) else none

/-- `LowercaseKeywords` on a text of kind `k` -/
def lowerText (k : Kind) (c : Bytes) : Option Bytes := if isKeywordKind k then lowerRule c else none

/-- `CommentFormatter` on a text of kind `k` -/
def commentText (U : Bytes → Bool) : Kind → Bytes → Option Bytes
  | .tCompilerDirective, c | .tConditionalDirective _, c => formatCompilerDirective c
  | .tComment .cInlineLine, c | .tComment .cIndividualLine, c => formatLineComment U c
  | _, _ => none

/-- what both rules together make of a text of kind `k`: `none` = `set_content` is not called -/
def textRule (U : Bytes → Bool) (k : Kind) (c : Bytes) : Option Bytes :=
  if isKeywordKind k then lowerRule c else commentText U k c

/-- a rule applied through the guarded setter -/
def applyRule (f : Bytes → Option Bytes) (t : FTok) : FTok :=
  match f t.tok.content with
  | some c => t.setContent c
  | none => t

/-- **what the guarded setter does**: nothing to an ignored token; otherwise it replaces the text and drops the
    leading whitespace -/
theorem setContent_cases (t : FTok) (c : Bytes) :
    (t.fmt.ignored = true ∧ t.setContent c = t) ∨
    (t.fmt.ignored = false ∧ t.setContent c = ⟨{ ws := [], content := c, kind := t.tok.kind }, t.fmt⟩) := by
  unfold FTok.setContent
  cases h : t.fmt.ignored
  · exact Or.inr ⟨rfl, by simp⟩
  · exact Or.inl ⟨rfl, by simp⟩

theorem setContent_ignored (t : FTok) (c : Bytes) (h : t.fmt.ignored = true) : t.setContent c = t := by
  rcases setContent_cases t c with ⟨_, e⟩ | ⟨hi, _⟩
  · exact e
  · rw [h] at hi; cases hi

/-- **what a guarded rewrite does to a token**: it leaves it alone, or - the token is not ignored and the rule
    answers `c` - it writes `c` and drops the leading whitespace; kind and formatting data are kept -/
theorem applyRule_cases (f : Bytes → Option Bytes) (t : FTok) :
    applyRule f t = t ∨
    (t.fmt.ignored = false ∧ ∃ c, f t.tok.content = some c ∧
      applyRule f t = ⟨{ ws := [], content := c, kind := t.tok.kind }, t.fmt⟩) := by
  unfold applyRule
  cases h : f t.tok.content with
  | none => exact Or.inl rfl
  | some c =>
    rcases setContent_cases t c with ⟨_, e⟩ | ⟨hi, e⟩
    · exact Or.inl e
    · exact Or.inr ⟨hi, c, rfl, e⟩

/-- a property of the token after a guarded rewrite, from the untouched token and the rewritten one -/
theorem applyRule_ind {f : Bytes → Option Bytes} {t : FTok} {P : FTok → Prop} (h0 : P t)
    (h1 : ∀ c, t.fmt.ignored = false → f t.tok.content = some c →
      P ⟨{ ws := [], content := c, kind := t.tok.kind }, t.fmt⟩) : P (applyRule f t) := by
  rcases applyRule_cases f t with e | ⟨hi, c, hc, e⟩ <;> rw [e]
  · exact h0
  · exact h1 c hi hc

theorem applyRule_kind (f : Bytes → Option Bytes) (t : FTok) : (applyRule f t).tok.kind = t.tok.kind :=
  applyRule_ind (P := fun u => u.tok.kind = t.tok.kind) rfl fun _ _ _ => rfl

theorem applyRule_fmt (f : Bytes → Option Bytes) (t : FTok) : (applyRule f t).fmt = t.fmt :=
  applyRule_ind (P := fun u => u.fmt = t.fmt) rfl fun _ _ _ => rfl

theorem applyRule_ignored (f : Bytes → Option Bytes) (t : FTok) (h : t.fmt.ignored = true) : applyRule f t = t := by
  rcases applyRule_cases f t with e | ⟨hi, _⟩
  · exact e
  · rw [h] at hi; cases hi

theorem applyRule_none {f : Bytes → Option Bytes} {t : FTok} (h : f t.tok.content = none) : applyRule f t = t := by
  unfold applyRule; rw [h]

/-- a rule selected by the kind whose results it leaves alone is a fixpoint after one application -/
theorem applyRule_idem (r : Kind → Bytes → Option Bytes) (hr : ∀ k c c', r k c = some c' → r k c' = none) (t : FTok) :
    applyRule (r (applyRule (r t.tok.kind) t).tok.kind) (applyRule (r t.tok.kind) t) = applyRule (r t.tok.kind) t := by
  rw [applyRule_kind]
  rcases applyRule_cases (r t.tok.kind) t with e | ⟨_, c, hc, e⟩ <;> rw [e]
  · exact e
  · exact applyRule_none (hr _ _ _ hc)

/-! ### which function a kind selects -/

theorem lowerRule_some {c c' : Bytes} : lowerRule c = some c' ↔ c.any isUpper = true ∧ c' = asciiLower c := by
  unfold lowerRule
  split <;> simp [*, eq_comm]

theorem lowerRule_idem {c c' : Bytes} (h : lowerRule c = some c') : lowerRule c' = none := by
  rw [(lowerRule_some.1 h).2]
  unfold lowerRule
  rw [asciiLower_no_upper]; rfl

theorem isKeywordKind_iff {k : Kind} : isKeywordKind k = true ↔ ∃ kw, k = .tKeyword kw := by
  cases k <;> simp [isKeywordKind]

theorem lowerText_some {k : Kind} {c c' : Bytes} (h : lowerText k c = some c') :
    (∃ kw, k = .tKeyword kw) ∧ c.any isUpper = true ∧ c' = asciiLower c := by
  unfold lowerText at h
  split at h
  · exact ⟨isKeywordKind_iff.1 ‹_›, lowerRule_some.1 h⟩
  · cases h

theorem commentText_cases {U : Bytes → Bool} {k : Kind} {c c' : Bytes} (h : commentText U k c = some c') :
    ((k = .tCompilerDirective ∨ ∃ d, k = .tConditionalDirective d) ∧ formatCompilerDirective c = some c') ∨
    ((k = .tComment .cInlineLine ∨ k = .tComment .cIndividualLine) ∧ formatLineComment U c = some c') := by
  unfold commentText at h
  split at h
  · exact .inl ⟨.inl rfl, h⟩
  · exact .inl ⟨.inr ⟨_, rfl⟩, h⟩
  · exact .inr ⟨.inl rfl, h⟩
  · exact .inr ⟨.inr rfl, h⟩
  · cases h

/-- a keyword with an upper-case letter is lower-cased, a directive goes to the directive rule, a line comment to the
    line-comment rule, nothing else has a rule -/
theorem textRule_cases {U : Bytes → Bool} {k : Kind} {c c' : Bytes} (h : textRule U k c = some c') :
    ((∃ kw, k = .tKeyword kw) ∧ c.any isUpper = true ∧ c' = asciiLower c) ∨
    ((k = .tCompilerDirective ∨ ∃ d, k = .tConditionalDirective d) ∧ formatCompilerDirective c = some c') ∨
    ((k = .tComment .cInlineLine ∨ k = .tComment .cIndividualLine) ∧ formatLineComment U c = some c') := by
  unfold textRule at h
  split at h
  · exact .inl ⟨isKeywordKind_iff.1 ‹_›, lowerRule_some.1 h⟩
  · exact .inr (commentText_cases h)

/-- a relation between a text and what the rules make of it, from the three rewrites -/
theorem textRule_rel {U : Bytes → Bool} {R : Bytes → Bytes → Prop} (hl : ∀ c, R c (asciiLower c))
    (hd : ∀ c c', formatCompilerDirective c = some c' → R c c')
    (hc : ∀ c c', formatLineComment U c = some c' → R c c') {k : Kind} {c c' : Bytes}
    (h : textRule U k c = some c') : R c c' := by
  rcases textRule_cases h with ⟨_, _, rfl⟩ | ⟨_, h⟩ | ⟨_, h⟩
  · exact hl c
  · exact hd c c' h
  · exact hc c c' h

/-! ### the two rules of the formatter -/

theorem lowercaseTok_eq (t : FTok) : lowercaseTok t = applyRule (lowerText t.tok.kind) t := by
  unfold lowercaseTok applyRule lowerText lowerRule
  cases hk : isKeywordKind t.tok.kind <;> cases hu : t.tok.content.any isUpper <;> simp

theorem commentFormatTok_eq (U : Bytes → Bool) (t : FTok) :
    commentFormatTok U t = applyRule (commentText U t.tok.kind) t := by
  unfold commentFormatTok applyRule
  fun_cases commentText U t.tok.kind t.tok.content <;> simp only [*] <;> rfl

/-- **the two text rules are one guarded rewrite**, selected by the kind of the token -/
theorem rulesTok_eq (U : Bytes → Bool) (t : FTok) :
    commentFormatTok U (lowercaseTok t) = applyRule (textRule U t.tok.kind) t := by
  rw [lowercaseTok_eq, commentFormatTok_eq, applyRule_kind]
  unfold textRule lowerText
  cases hk : isKeywordKind t.tok.kind <;> simp only [Bool.false_eq_true, if_false, if_true]
  · rfl
  · obtain ⟨kw, hk⟩ := isKeywordKind_iff.1 hk
    rw [hk]; exact applyRule_none rfl

end Pasfmt
