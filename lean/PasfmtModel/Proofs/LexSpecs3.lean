/-
  Specifications at the level of tokens: a word outside and inside `asm` blocks, and the assembler mode, which is a
  function of the mode before a token and the kind of the token.  (The `*_token_spec` theorems for the other sub-lexers
  are in `Props/C13.lean`.)
-/
import PasfmtModel.Proofs.LexSpecs2
import PasfmtModel.Proofs.LexTotal

namespace Pasfmt

theorem lexOne_word (simd : Bool) (st : LexState) (inp : Bytes) (b : UInt8) (r : Bytes)
    (hasm : st.inAsm = false) (hd : inp.drop (countLeadingWs inp) = b :: r) (hb : isAlpha b = true) :
    let k : RawKind := if st.prevReal == some (.rOp .oDot) then .rIdentifier
      else wordKind ((b :: r).take (1 + identLen r))
    lexOne simd st inp =
      some (some (countLeadingWs inp, countLeadingWs inp + (1 + identLen r), k,
        stepState st k (k == .rKeyword .kAsm))) := by
  exact lexOne_of_runSub .identifier_or_keyword hd (by rw [hasm]; exact dispatch_alpha false hb)
    (by simp only [runSub, idLen_eq])

/-! ## assembler mode -/

/-- the three letters `asm` / `end` in lower case -/
def asmWord : Bytes := [0x61, 0x73, 0x6D]
def endWord : Bytes := [0x65, 0x6E, 0x64]

theorem asmWord_eq : "asm".toUTF8.toList = asmWord := by decide +kernel
theorem endWord_eq : "end".toUTF8.toList = endWord := by decide +kernel

theorem keywords_asm_entry :
    keywords.find? (fun e => e.1 == asmWord) = some (asmWord, .rKeyword .kAsm) ∧
    keywords.all (fun e => e.2 != .rKeyword .kAsm || e.1 == asmWord) = true :=
  ⟨by decide +kernel, by decide +kernel⟩

theorem wordKind_asm_iff (w : Bytes) : wordKind w = .rKeyword .kAsm ↔ eqIgnoreCase w asmWord = true := by
  have hk := keywords_asm_entry
  rw [wordKind_eq_spec]
  unfold keywordSpec eqIgnoreCase
  have hl : asciiLower asmWord = asmWord := by decide
  rw [hl]
  constructor
  · intro h
    split at h
    · rename_i e he
      have hm := List.mem_of_find?_eq_some he
      have h1 := List.find?_some he
      have h2 := (List.all_eq_true.1 hk.2) e hm
      simp only [beq_iff_eq] at h1
      rw [h] at h2
      simp only [bne_self_eq_false, Bool.false_or, beq_iff_eq] at h2
      rw [← h1, h2]; simp
    · simp at h
  · intro h
    rw [beq_iff_eq.1 h, hk.1]

/-- **Assembler mode is entered exactly by a token of kind keyword `asm` and left exactly by a token
    of kind keyword `end`**: for every step of the scanner, the mode after the token is determined by
    the mode before it and the kind of the token. -/
theorem lexOne_mode (simd : Bool) (st : LexState) (inp : Bytes) (ws e : Nat) (k : RawKind) (st' : LexState)
    (h : lexOne simd st inp = some (some (ws, e, k, st'))) :
    st'.inAsm = (if st.inAsm then k != .rKeyword .kEnd else k == .rKeyword .kAsm) := by
  obtain ⟨b, r, o, _, _, ho, _, _, _, rfl, rfl⟩ := lexOne_inv h
  have hd := dispatch_cases st.inAsm b
  simp only [stepState]
  cases hasm : st.inAsm <;> rw [hasm] at ho hd <;> simp only [Bool.false_eq_true, if_false, if_true]
  · by_cases hs : dispatch false b = .identifier_or_keyword
    · rw [hs] at ho; exact ho.2.1
    · have := ho.mode_other hs (fun h => nomatch (hd.asmWord h).1)
      rw [this.1, hasm]
      simp [this.2 .kAsm]
  · by_cases hs : dispatch true b = .asm_identifier
    · rw [hs] at ho; rw [ho.1, hasm]; simp
    · have := ho.mode_other (fun h => nomatch (hd.word h).1) hs
      rw [this.1, hasm]
      simp [this.2 .kEnd]

/-- kind of a word in assembler mode: only `end` and `asm` (any letter case) are keywords -/
def asmWordKind (w : Bytes) : RawKind :=
  if eqIgnoreCase w endWord then .rKeyword .kEnd
  else if eqIgnoreCase w asmWord then .rKeyword .kAsm
  else .rIdentifier

theorem eqIgnoreCase_head (b c : UInt8) (t u : Bytes) (h : eqIgnoreCase (b :: t) (c :: u) = true) :
    toLowerByte b = toLowerByte c := by
  unfold eqIgnoreCase asciiLower at h
  simp only [List.map_cons, beq_iff_eq, List.cons.injEq] at h
  exact h.1

theorem lower_head_classes (b : UInt8) :
    (toLowerByte b = 0x65 → b = 0x65 ∨ b = 0x45) ∧ (toLowerByte b = 0x61 → b = 0x61 ∨ b = 0x41) :=
  toLowerByte_ind (by decide +kernel) (fun _ _ e => by rw [e]; exact ⟨Or.inl, Or.inl⟩) b

theorem lexOne_asmWord (simd : Bool) (st : LexState) (inp : Bytes) (b : UInt8) (r : Bytes)
    (hasm : st.inAsm = true) (hd : inp.drop (countLeadingWs inp) = b :: r) (hb : isAlpha b = true) :
    let w := (b :: r).take (1 + identLen r)
    lexOne simd st inp =
      some (some (countLeadingWs inp, countLeadingWs inp + (1 + identLen r), asmWordKind w,
        stepState st (asmWordKind w) (!eqIgnoreCase w endWord))) := by
  intro w
  have hw0 : (b :: r).take (1 + identLen r) = w := rfl
  clear_value w
  apply lexOne_of_runSub (if b = 0x61 ∨ b = 0x41 ∨ b = 0x65 ∨ b = 0x45 then .asm_identifier else .identifier) hd
    (by rw [hasm, dispatch_alpha true hb]; rfl)
  by_cases hc : b = 0x61 ∨ b = 0x41 ∨ b = 0x65 ∨ b = 0x45
  · simp only [hc, if_true, runSub, idLen_eq, endWord_eq, asmWord_eq, hw0]
    unfold asmWordKind
    by_cases h1 : eqIgnoreCase w endWord = true
    · simp only [h1, if_true]; rfl
    · simp only [h1, Bool.false_eq_true, if_false]
      by_cases h2 : eqIgnoreCase w asmWord = true
      · simp only [h2, if_true, hasm]; rfl
      · simp only [h2, Bool.false_eq_true, if_false, hasm]; rfl
  · simp only [hc, if_false, runSub, idLen_eq]
    have hw : w = b :: r.take (identLen r) := by
      rw [← hw0, Nat.add_comm, List.take_succ_cons]
    have h1 : eqIgnoreCase w endWord = false := by
      apply (Bool.not_eq_true _).mp
      intro h
      rw [hw] at h
      have := (lower_head_classes b).1 (eqIgnoreCase_head _ _ _ _ h)
      exact hc (Or.inr (Or.inr this))
    have h2 : eqIgnoreCase w asmWord = false := by
      apply (Bool.not_eq_true _).mp
      intro h
      rw [hw] at h
      have := (lower_head_classes b).2 (eqIgnoreCase_head _ _ _ _ h)
      rcases this with h | h
      · exact hc (Or.inl h)
      · exact hc (Or.inr (Or.inl h))
    unfold asmWordKind
    simp only [h1, h2, Bool.false_eq_true, if_false, hasm]
    rfl

/-- **The mode after a token, read off the text**: only a word (a letter and the identifier run after it) changes it -/
theorem lexOne_inAsm {simd : Bool} {st st' : LexState} {inp : Bytes} {ws e : Nat} {k : RawKind}
    (h : lexOne simd st inp = some (some (ws, e, k, st'))) :
    ∃ b r, inp.drop (countLeadingWs inp) = b :: r ∧
      st'.inAsm = if isAlpha b = true then
          (if st.inAsm then !eqIgnoreCase ((b :: r).take (1 + identLen r)) endWord
            else st.prevReal != some (.rOp .oDot) && eqIgnoreCase ((b :: r).take (1 + identLen r)) asmWord)
        else st.inAsm := by
  obtain ⟨b, r, o, hd, _, ho, _, _, _, _, rfl⟩ := lexOne_inv h
  refine ⟨b, r, hd, ?_⟩
  by_cases hb : isAlpha b = true
  · rw [if_pos hb]
    cases hasm : st.inAsm
    · rw [lexOne_word simd st inp b r hasm hd hb] at h
      rw [← (Prod.mk.inj (Prod.mk.inj (Prod.mk.inj (Option.some.inj (Option.some.inj h))).2).2).2]
      cases hp : st.prevReal == some (.rOp .oDot)
      · simp only [stepState, hp, Bool.false_eq_true, if_false, bne, Bool.not_false, Bool.true_and]
        rw [Bool.eq_iff_iff, beq_iff_eq, wordKind_asm_iff]
      · simp only [stepState, hp, if_true, bne, Bool.not_true, Bool.false_and]
        rfl
    · rw [lexOne_asmWord simd st inp b r hasm hd hb] at h
      rw [← (Prod.mk.inj (Prod.mk.inj (Prod.mk.inj (Option.some.inj (Option.some.inj h))).2).2).2]
      rfl
  · have hdc := dispatch_cases st.inAsm b
    rw [if_neg hb]
    exact (ho.mode_other (fun h => hb (hdc.word h).2) (fun h => hb (hdc.asmWord h).2)).1

theorem lexOne_enters_asm (simd : Bool) (st : LexState) (inp : Bytes) (ws e : Nat) (k : RawKind) (st' : LexState)
    (hasm : st.inAsm = false) (h : lexOne simd st inp = some (some (ws, e, k, st'))) :
    st'.inAsm = true ↔
      ∃ b r, inp.drop (countLeadingWs inp) = b :: r ∧ isAlpha b = true ∧ st.prevReal ≠ some (.rOp .oDot) ∧
        eqIgnoreCase ((b :: r).take (1 + identLen r)) asmWord = true := by
  obtain ⟨b, r, hd, hm⟩ := lexOne_inAsm h
  rw [hm, hasm]
  constructor
  · intro hh
    by_cases hb : isAlpha b = true
    · simp only [hb, if_true, Bool.false_eq_true, if_false, Bool.and_eq_true, bne_iff_ne] at hh
      exact ⟨b, r, hd, hb, hh⟩
    · simp [hb] at hh
  · rintro ⟨b', r', hd', hb, hp, hw⟩
    cases hd.symm.trans hd'
    simp [hb, hp, hw]

theorem lexOne_leaves_asm (simd : Bool) (st : LexState) (inp : Bytes) (ws e : Nat) (k : RawKind) (st' : LexState)
    (hasm : st.inAsm = true) (h : lexOne simd st inp = some (some (ws, e, k, st'))) :
    st'.inAsm = false ↔
      ∃ b r, inp.drop (countLeadingWs inp) = b :: r ∧ isAlpha b = true ∧
        eqIgnoreCase ((b :: r).take (1 + identLen r)) endWord = true := by
  obtain ⟨b, r, hd, hm⟩ := lexOne_inAsm h
  rw [hm, hasm]
  constructor
  · intro hh
    by_cases hb : isAlpha b = true
    · simp only [hb, if_true, Bool.not_eq_false'] at hh
      exact ⟨b, r, hd, hb, hh⟩
    · simp [hb] at hh
  · rintro ⟨b', r', hd', hb, hw⟩
    cases hd.symm.trans hd'
    simp [hb, hw]

end Pasfmt
