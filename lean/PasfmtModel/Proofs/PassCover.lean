/-
  Coverage of the conditional-directive passes: every token that is not a conditional directive is
  contained in some pass (`passes_cover`).  The argument: every pass marks the flat sections it
  visits as explored; while some flat section is unexplored the next pass explores at least one
  more (progress); the iteration stops only when all are explored; the number of passes still needed (`treeN`: a sum
  over the branches of a conditional, a maximum over the sections side by side) is within the number
  of passes the model allows; and the depth fuel of the model is adequate for the tree.
-/
import PasfmtModel.Proofs.TreeSorted

namespace Pasfmt

theorem set_split {α : Type} {l : List α} {i : Nat} {x : α} (h : l[i]? = some x) (y : α) :
    ∃ a b, l = a ++ x :: b ∧ l.set i y = a ++ y :: b := by
  obtain ⟨hi, rfl⟩ := List.getElem?_eq_some_iff.1 h
  exact ⟨l.take i, l.drop (i + 1), by simp, by rw [List.set_eq_take_append_cons_drop, if_pos hi]⟩

mutual
/-- the fuel suffices to look through the whole section -/
def secFits (fuel : Nat) : DSection → Bool
  | .flat _ _ _ => true
  | .nested trees =>
    match fuel with
    | 0 => false
    | fuel + 1 => trees.all (treeFits fuel)

def treeFits (fuel : Nat) (t : DTree) : Bool :=
  match fuel with
  | 0 => false
  | fuel + 1 => t.all (secFits fuel)
end

def maxL (l : List Nat) : Nat := l.foldr max 0

theorem maxL_le_iff (l : List Nat) (b : Nat) : maxL l ≤ b ↔ ∀ x ∈ l, x ≤ b := by
  induction l with
  | nil => simp [maxL]
  | cons a r ih =>
    show max a (maxL r) ≤ b ↔ _
    simp only [List.mem_cons, forall_eq_or_imp, ← ih]
    omega

mutual
/-- number of further passes needed to explore the section, as visible with the given fuel: a nested
    section explores one branch per pass (sum), the sections of a tree are explored side by side (max) -/
def secN (fuel : Nat) : DSection → Nat
  | .flat e _ _ => if e then 0 else 1
  | .nested trees =>
    match fuel with
    | 0 => 0
    | fuel + 1 => (trees.map (treeN fuel)).sum

def treeN (fuel : Nat) (t : DTree) : Nat :=
  match fuel with
  | 0 => 0
  | fuel + 1 => maxL (t.map (secN fuel))
end

mutual
/-- tokens of the unexplored flat sections visible with the given fuel -/
def secU (fuel : Nat) : DSection → List Nat
  | .flat e lo hi => if e then [] else (List.range (hi - lo)).map (· + lo)
  | .nested trees =>
    match fuel with
    | 0 => []
    | fuel + 1 => (trees.map (treeU fuel)).flatten

def treeU (fuel : Nat) (t : DTree) : List Nat :=
  match fuel with
  | 0 => []
  | fuel + 1 => (t.map (secU fuel)).flatten
end

theorem explored_iff : ∀ f,
    (∀ s, sectionExplored f s = true ↔ secN f s = 0) ∧ (∀ t, treeExplored f t = true ↔ treeN f t = 0) := by
  refine fuel_induction ?_ ?_ ?_ ?_ ?_
  · intro f e lo hi; cases e <;> simp [sectionExplored, secN]
  · intro trees; simp [sectionExplored, secN]
  · intro t; simp [treeExplored, treeN]
  · intro f trees ih
    simp only [sectionExplored, secN, List.all_eq_true, List.sum_eq_zero_iff_forall_eq_nat,
      List.forall_mem_map, ih]
  · intro f t ih
    simp only [treeExplored, treeN, List.all_eq_true, Nat.le_zero.symm, maxL_le_iff,
      List.forall_mem_map, ih]

theorem U_nil_of_N_zero : ∀ f,
    (∀ s, secN f s = 0 → secU f s = []) ∧ (∀ t, treeN f t = 0 → treeU f t = []) := by
  refine fuel_induction ?_ ?_ ?_ ?_ ?_
  · intro f e lo hi h; cases e <;> simp [secN, secU] at h ⊢
  · intro trees _; rw [secU]
  · intro t _; rw [treeU]
  · intro f trees ih h
    simp only [secN, List.sum_eq_zero_iff_forall_eq_nat, List.forall_mem_map] at h
    simp only [secU, List.flatten_eq_nil_iff, List.forall_mem_map]
    exact fun t ht => ih t (h t ht)
  · intro f t ih h
    simp only [treeN, Nat.le_zero.symm, maxL_le_iff, List.forall_mem_map] at h
    simp only [treeU, List.flatten_eq_nil_iff, List.forall_mem_map]
    exact fun s hs => ih s (Nat.le_zero.1 (h s hs))

theorem fits_le : ∀ f,
    (∀ s f', f ≤ f' → secFits f s = true →
      secFits f' s = true ∧ secN f' s = secN f s ∧ secU f' s = secU f s) ∧
    (∀ t f', f ≤ f' → treeFits f t = true →
      treeFits f' t = true ∧ treeN f' t = treeN f t ∧ treeU f' t = treeU f t) := by
  refine fuel_induction ?_ ?_ ?_ ?_ ?_
  · intro f e lo hi f' _ _; simp only [secFits, secN, secU, and_self]
  · intro trees f' _ h; simp [secFits] at h
  · intro t f' _ h; simp [treeFits] at h
  · intro f trees ih f' hle h
    obtain ⟨f', rfl⟩ : ∃ k, f' = k + 1 := ⟨f' - 1, by omega⟩
    simp only [secFits, List.all_eq_true] at h
    have ih' := fun t ht => ih t f' (by omega) (h t ht)
    refine ⟨?_, ?_, ?_⟩
    · simp only [secFits, List.all_eq_true]; exact fun t ht => (ih' t ht).1
    · simp only [secN]; congr 1; exact List.map_congr_left fun t ht => (ih' t ht).2.1
    · simp only [secU]; congr 1; exact List.map_congr_left fun t ht => (ih' t ht).2.2
  · intro f t ih f' hle h
    obtain ⟨f', rfl⟩ : ∃ k, f' = k + 1 := ⟨f' - 1, by omega⟩
    simp only [treeFits, List.all_eq_true] at h
    have ih' := fun s hs => ih s f' (by omega) (h s hs)
    refine ⟨?_, ?_, ?_⟩
    · simp only [treeFits, List.all_eq_true]; exact fun s hs => (ih' s hs).1
    · simp only [treeN]; congr 1; exact List.map_congr_left fun s hs => (ih' s hs).2.1
    · simp only [treeU]; congr 1; exact List.map_congr_left fun s hs => (ih' s hs).2.2

/-- stated for its own sake, beside `treeFits_le` -/
theorem secFits_le {f f' : Nat} (hle : f ≤ f') {s : DSection} (h : secFits f s = true) :
    secFits f' s = true ∧ secN f' s = secN f s ∧ secU f' s = secU f s :=
  (fits_le f).1 s f' hle h

theorem treeFits_le {f f' : Nat} (hle : f ≤ f') {t : DTree} (h : treeFits f t = true) :
    treeFits f' t = true ∧ treeN f' t = treeN f t ∧ treeU f' t = treeU f t :=
  (fits_le f).2 t f' hle h

/-- `Section::pass` looks at its branches with one unit of fuel more than it passes on -/
theorem unexplored_iff {f : Nat} {t : DTree} (h : treeFits f t = true) :
    treeExplored (f + 1) t = false ↔ 0 < treeN f t := by
  rw [← (treeFits_le (Nat.le_add_right f 1) h).2.1, Nat.pos_iff_ne_zero, Ne, ← (explored_iff (f + 1)).2 t,
    Bool.not_eq_true]

/-- two facts about sums, stated for their own sake: `pass_progress` needs them only for a list cut at one element
    and gets them from `omega` -/
theorem sum_map_le {α : Type} (l : List α) (g g' : α → Nat) (h : ∀ x ∈ l, g' x ≤ g x) :
    (l.map g').sum ≤ (l.map g).sum := by
  induction l with
  | nil => simp
  | cons a r ih =>
    simp only [List.map_cons, List.sum_cons]
    have := h a (by simp)
    have := ih (fun x hx => h x (by simp [hx]))
    omega

theorem sum_map_lt {α : Type} (l : List α) (g g' : α → Nat) (h : ∀ x ∈ l, g' x ≤ g x)
    (hs : ∀ x ∈ l, 0 < g x → g' x < g x) (hpos : 0 < (l.map g).sum) : (l.map g').sum < (l.map g).sum := by
  induction l with
  | nil => simp at hpos
  | cons a r ih =>
    simp only [List.map_cons, List.sum_cons] at hpos ⊢
    have h1 := h a (by simp)
    have h2 := sum_map_le r g g' (fun x hx => h x (by simp [hx]))
    by_cases ha : 0 < g a
    · have := hs a (by simp) ha; omega
    · have hr : 0 < (r.map g).sum := by omega
      have := ih (fun x hx => h x (by simp [hx])) (fun x hx => hs x (by simp [hx])) hr
      omega

/-- With adequate fuel, a pass takes every token of an unexplored flat section or leaves it unexplored,
    lowers the number of passes still needed by one (unless it is zero), and the fuel stays adequate.
    A nested section needs the sum of what its branches need, because a pass enters one branch (one
    that still needs a pass, if there is any); a tree needs the maximum over its sections, because a
    pass goes through all of them. -/
theorem pass_progress : ∀ f,
    (∀ s, secFits f s = true →
      (∀ x ∈ secU f s, x ∈ (sectionPass f s).2 ∨ x ∈ secU f (sectionPass f s).1) ∧
      secN f (sectionPass f s).1 ≤ secN f s - 1 ∧ secFits f (sectionPass f s).1 = true) ∧
    (∀ t, treeFits f t = true →
      (∀ x ∈ treeU f t, x ∈ (treePass f t).2 ∨ x ∈ treeU f (treePass f t).1) ∧
      treeN f (treePass f t).1 ≤ treeN f t - 1 ∧ treeFits f (treePass f t).1 = true) := by
  refine fuel_induction ?_ ?_ ?_ ?_ ?_
  · intro f e lo hi _
    rw [sectionPass]
    cases e <;> simp [secU, secN, secFits]
  · intro trees h; simp [secFits] at h
  · intro t h; simp [treeFits] at h
  · intro f trees ih h
    rcases sectionPass_nested f trees with ⟨rfl, heq⟩ | ⟨i, t, hi, heq, hpick⟩
    · rw [heq]; simp [secU, secN, secFits]
    · rw [heq]
      simp only [secFits, List.all_eq_true] at h
      have ht := h t (List.mem_of_getElem? hi)
      obtain ⟨hcov, hdec, hfit⟩ := ih t ht
      -- if any branch needs a pass, the chosen one does
      have hpos : 0 < (trees.map (treeN f)).sum → 0 < treeN f t := by
        intro hp
        obtain ⟨n, hn, hnpos⟩ := List.sum_pos_iff_exists_pos_nat.1 hp
        obtain ⟨t', ht', rfl⟩ := List.mem_map.1 hn
        exact (unexplored_iff ht).1 (hpick ⟨t', ht', (unexplored_iff (h t' ht')).2 hnpos⟩)
      obtain ⟨a, b, rfl, hset⟩ := set_split hi (treePass f t).1
      simp only [List.map_append, List.map_cons, List.sum_append, List.sum_cons] at hpos
      rw [hset]
      simp only [secU, secN, secFits, List.map_append, List.map_cons, List.flatten_append, List.flatten_cons,
        List.sum_append, List.sum_cons, List.mem_append, List.all_eq_true, List.mem_cons]
      refine ⟨?_, by omega, ?_⟩
      · rintro x (hx | hx | hx)
        · exact .inr (.inl hx)
        · exact (hcov x hx).imp_right fun h' => .inr (.inl h')
        · exact .inr (.inr (.inr hx))
      · rintro t' (ht' | rfl | ht')
        · exact h t' (by simp [ht'])
        · exact hfit
        · exact h t' (by simp [ht'])
  · intro f t ih h
    simp only [treeFits, List.all_eq_true] at h
    rw [treePass_succ]
    refine ⟨?_, ?_, ?_⟩
    · intro x hx
      simp only [treeU, List.mem_flatten, List.mem_map] at hx ⊢
      obtain ⟨l, ⟨s, hs, rfl⟩, hxl⟩ := hx
      rcases (ih s (h s hs)).1 x hxl with h1 | h1
      · exact Or.inl ⟨_, ⟨s, hs, rfl⟩, h1⟩
      · exact Or.inr ⟨_, ⟨_, ⟨s, hs, rfl⟩, rfl⟩, h1⟩
    · simp only [treeN, List.map_map, maxL_le_iff, List.forall_mem_map, Function.comp]
      intro s hs
      have := (ih s (h s hs)).2.1
      have := (maxL_le_iff _ _).1 (Nat.le_refl (maxL (t.map (secN f)))) _ (List.mem_map_of_mem hs)
      omega
    · simp only [treeFits, List.all_eq_true, List.mem_map]
      rintro s' ⟨s, hs, rfl⟩
      exact (ih s (h s hs)).2.2

theorem passesGo_cover (df : Nat) (n : Nat) (t : DTree) (hfit : treeFits df t = true) (hn : treeN df t ≤ n) :
    ∀ x ∈ treeU df t, ∃ p ∈ passesGo df n t, x ∈ p := by
  intro x hx
  fun_induction passesGo df n t with
  | case1 t =>
    rw [(U_nil_of_N_zero df).2 t (by omega)] at hx
    simp at hx
  | case2 n t t' pass hp hexp =>
    obtain ⟨hcov, -, -⟩ := (pass_progress df).2 t hfit
    simp only [hp] at hcov
    rcases hcov x hx with h1 | h1
    · exact ⟨_, by simp, h1⟩
    · rw [(U_nil_of_N_zero df).2 _ (((explored_iff df).2 _).1 hexp)] at h1
      simp at h1
  | case3 n t t' pass hp _ ih =>
    obtain ⟨hcov, hdec, hfit'⟩ := (pass_progress df).2 t hfit
    simp only [hp] at hcov hdec hfit'
    rcases hcov x hx with h1 | h1
    · exact ⟨_, by simp, h1⟩
    · obtain ⟨p, hp, hxp⟩ := ih hfit' (by omega) h1
      exact ⟨p, by simp [hp], hxp⟩


/-- 1 when the directive ends a branch with `{$else}` / `{$elseif}` -/
def eOf : Option ConditionalDirectiveKind → Nat
  | some c => if c.isElse then 1 else 0
  | none => 0

/-- 1 when a directive ended the scan (and was consumed) -/
def tOf : Option ConditionalDirectiveKind → Nat
  | some _ => 1
  | none => 0

theorem eOf_le_tOf (c : Option ConditionalDirectiveKind) : eOf c ≤ tOf c := by
  cases c with
  | none => exact Nat.le_refl _
  | some x => simp only [eOf, tOf]; split <;> omega

/-- the sections `new` built from the first `c` tokens of `toks`; `t` = 1 when the directive that ended
    the scan was consumed too -/
structure SecsGood (new : DTree) (toks : List (Nat × RawKind)) (c t : Nat) : Prop where
  tle : t ≤ c
  fits : ∀ F, 2 * c + 1 ≤ F → ∀ s ∈ new, secFits F s = true
  need : ∀ F, 2 * c + 1 ≤ F → ∀ s ∈ new, secN F s ≤ c + 1 - t
  cover : ∀ F, 2 * c + 1 ≤ F → ∀ p ∈ toks.take c, condKind? p.2 = none → p.1 ∈ (new.map (secU F)).flatten

theorem SecsGood.of_forall {new : DTree} {toks : List (Nat × RawKind)} {c t : Nat} (tle : t ≤ c)
    (h : ∀ F, 2 * c + 1 ≤ F → (∀ s ∈ new, secFits F s = true ∧ secN F s ≤ c + 1 - t) ∧
      ∀ p ∈ toks.take c, condKind? p.2 = none → p.1 ∈ (new.map (secU F)).flatten) : SecsGood new toks c t :=
  ⟨tle, fun F hF s hs => ((h F hF).1 s hs).1, fun F hF s hs => ((h F hF).1 s hs).2, fun F hF => (h F hF).2⟩

theorem SecsGood.tree {new : DTree} {toks : List (Nat × RawKind)} {c t : Nat} (h : SecsGood new toks c t) :
    ∀ F, 2 * c + 2 ≤ F → treeFits F new = true ∧ treeN F new ≤ c + 1 - t ∧
      ∀ p ∈ toks.take c, condKind? p.2 = none → p.1 ∈ treeU F new := by
  intro F hF
  obtain ⟨f, rfl⟩ : ∃ f, F = f + 1 := ⟨F - 1, by omega⟩
  refine ⟨?_, ?_, ?_⟩
  · simp only [treeFits, List.all_eq_true]; exact h.fits f (by omega)
  · simp only [treeN, maxL_le_iff, List.forall_mem_map]
    exact h.need f (by omega)
  · simp only [treeU]
    exact h.cover f (by omega)

theorem take_add_mem {α : Type} (l : List α) (a b : Nat) (p : α) (h : p ∈ l.take (a + b)) :
    p ∈ l.take a ∨ p ∈ (l.drop a).take b := by
  rw [List.take_add] at h
  exact List.mem_append.1 h

/-- the flat section made from the `k` leading tokens -/
theorem flat_good {toks : List (Nat × RawKind)} {i0 k lo hi : Nat} (hc : Consec toks i0) (hk : k ≤ toks.length)
    (hfl : (k = 0 ∧ lo = 0 ∧ hi = 0) ∨ (0 < k ∧ lo = i0 ∧ hi = i0 + k)) :
    SecsGood [.flat false lo hi] toks k 0 := by
  refine ⟨Nat.zero_le _, ?_, ?_, ?_⟩
  · intro F _ s hs; rw [List.mem_singleton.1 hs, secFits]
  · intro F _ s hs; rw [List.mem_singleton.1 hs, secN]; simp
  · intro F _ p hp _
    rcases hfl with ⟨rfl, -, -⟩ | ⟨-, rfl, rfl⟩
    · simp at hp
    · obtain ⟨j, hj, rfl⟩ := List.getElem_of_mem hp
      simp only [List.length_take] at hj
      simp only [List.map_cons, List.map_nil, List.flatten_cons, List.flatten_nil, List.append_nil, secU,
        Bool.false_eq_true, if_false, List.mem_map, List.mem_range, List.getElem_take]
      exact ⟨j, by omega, by rw [hc j (by omega)]; omega⟩

/-- the directive behind the scanned tokens is consumed too -/
theorem SecsGood.directive {new : DTree} {toks : List (Nat × RawKind)} {k : Nat} (h : SecsGood new toks k 0)
    {q : Nat × RawKind} {cd : ConditionalDirectiveKind} (hq : toks[k]? = some q) (hcd : condKind? q.2 = some cd) :
    SecsGood new toks (k + 1) 1 := by
  refine ⟨by omega, fun F hF => h.fits F (by omega), fun F hF => h.need F (by omega), ?_⟩
  intro F hF p hp hnc
  refine h.cover F (by omega) p ?_ hnc
  rw [List.take_add_one, hq] at hp
  rcases List.mem_append.1 hp with h1 | h1
  · exact h1
  · rw [Option.toList_some, List.mem_singleton] at h1
    rw [h1, hcd] at hnc; cases hnc

theorem SecsGood.append {n1 n2 : DTree} {toks : List (Nat × RawKind)} {c1 c2 t1 t : Nat}
    (h1 : SecsGood n1 toks c1 t1) (h2 : SecsGood n2 (toks.drop c1) c2 t) :
    SecsGood (n1 ++ n2) toks (c1 + c2) t := by
  have := h2.tle
  refine .of_forall (by omega) fun F hF => ?_
  have hF1 : 2 * c1 + 1 ≤ F := by omega
  have hF2 : 2 * c2 + 1 ≤ F := by omega
  refine ⟨fun s hs => ?_, fun p hp hnc => ?_⟩
  · rcases List.mem_append.1 hs with h | h
    · have := h1.need F hF1 s h; exact ⟨h1.fits F hF1 s h, by omega⟩
    · have := h2.need F hF2 s h; exact ⟨h2.fits F hF2 s h, by omega⟩
  · rw [List.map_append, List.flatten_append, List.mem_append]
    exact (take_add_mem toks c1 c2 p hp).imp (h1.cover F hF1 p · hnc) (h2.cover F hF2 p · hnc)

/-- What the three parsing functions build from a prefix of `c` tokens, looked at with any fuel that suffices for
    `c` tokens: the fuel is adequate, at most `c + 1` passes are needed, and every token of the prefix that is no
    conditional directive is in an unexplored flat section. -/
structure ParseFacts (g : Nat) : Prop where
  next : ∀ (topLevel : Bool) (acc : DTree) (toks : List (Nat × RawKind)) (i0 : Nat), Consec toks i0 →
    ∃ (new : DTree) (c : Nat), c ≤ toks.length ∧
      (parseNext g topLevel acc toks).1 = acc.reverse ++ new ∧
      (parseNext g topLevel acc toks).2.2 = toks.drop c ∧
      SecsGood new toks c (tOf (parseNext g topLevel acc toks).2.1)
  nested : ∀ (toks : List (Nat × RawKind)) (i0 : Nat), Consec toks i0 →
    ∃ c : Nat, c ≤ toks.length ∧ (parseNested g toks).2 = toks.drop c ∧
      (∀ F, 2 * c + 3 ≤ F → secFits F (parseNested g toks).1 = true ∧ secN F (parseNested g toks).1 ≤ c + 1) ∧
      (∀ F, 2 * c + 3 ≤ F → ∀ p ∈ toks.take c, condKind? p.2 = none → p.1 ∈ secU F (parseNested g toks).1)
  els : ∀ (acc : List DTree) (cdk : Option ConditionalDirectiveKind) (toks : List (Nat × RawKind)) (i0 : Nat),
    Consec toks i0 →
    ∃ (newB : List DTree) (c : Nat), c ≤ toks.length ∧
      parseNestedElse g acc cdk toks = (.nested (acc.reverse ++ newB), toks.drop c) ∧
      (∀ F, 2 * c + 2 ≤ F → ∀ b ∈ newB, treeFits F b = true) ∧
      (∀ F, 2 * c + 2 ≤ F → (newB.map (treeN F)).sum ≤ c + eOf cdk) ∧
      (∀ F, 2 * c + 2 ≤ F → ∀ p ∈ toks.take c, condKind? p.2 = none → p.1 ∈ (newB.map (treeU F)).flatten)

/-- a nested section behind its `{$if}` directive -/
theorem SecsGood.nested {n1 : DTree} {toks : List (Nat × RawKind)} {c1 cn : Nat} {s : DSection}
    (h1 : SecsGood n1 toks c1 1)
    (hs : ∀ F, 2 * cn + 3 ≤ F → secFits F s = true ∧ secN F s ≤ cn + 1)
    (hcov : ∀ F, 2 * cn + 3 ≤ F → ∀ p ∈ (toks.drop c1).take cn, condKind? p.2 = none → p.1 ∈ secU F s) :
    SecsGood (n1 ++ [s]) toks (c1 + cn) 0 := by
  have := h1.tle
  refine .of_forall (Nat.zero_le _) fun F hF => ?_
  have hF1 : 2 * c1 + 1 ≤ F := by omega
  have hFn : 2 * cn + 3 ≤ F := by omega
  refine ⟨fun s' hs' => ?_, fun p hp hnc => ?_⟩
  · rcases List.mem_append.1 hs' with h | h
    · have := h1.need F hF1 s' h; exact ⟨h1.fits F hF1 s' h, by omega⟩
    · rw [List.mem_singleton.1 h]; have := (hs F hFn).2; exact ⟨(hs F hFn).1, by omega⟩
  · rw [List.map_append, List.flatten_append, List.mem_append]
    exact (take_add_mem toks c1 cn p hp).imp (h1.cover F hF1 p · hnc) (by simpa using hcov F hFn p · hnc)

theorem parseFacts (g : Nat) : ParseFacts g := by
  induction g with
  | zero =>
    refine ⟨fun topLevel acc toks i0 _ => ⟨[], 0, Nat.zero_le _, by simp [parseNext], rfl, ?_⟩,
      fun toks i0 _ => ⟨0, Nat.zero_le _, rfl, fun F hF => ?_, fun F _ p hp => by simp at hp⟩,
      fun acc cdk toks i0 _ => ⟨[], 0, Nat.zero_le _, by simp [parseNestedElse], by simp, by simp, by simp⟩⟩
    · exact ⟨Nat.le_refl _, by simp, by simp, by simp⟩
    · obtain ⟨f, rfl⟩ : ∃ f, F = f + 1 := ⟨F - 1, by omega⟩
      simp [parseNested, secFits, secN]
  | succ g ih =>
    -- the last clause first: the middle one is a case of it
    refine (fun hEls => ⟨?next, ?nested, hEls⟩ : _ → ParseFacts (g + 1)) ?els
    case next =>
      intro topLevel acc toks i0 hc
      obtain ⟨k, lo, hi, hk, hfl, ⟨hkl, heq⟩ | ⟨q, cd, hq, hcd, heq⟩⟩ := parseNext_succ g topLevel acc toks i0 hc
      · rw [heq]
        exact ⟨[.flat false lo hi], k, hk, by simp, by rw [hkl, List.drop_length], flat_good hc hk hfl⟩
      · have hkl : k < toks.length := (List.getElem?_eq_some_iff.1 hq).1
        have hdir := (flat_good hc hk hfl).directive hq hcd
        rw [heq]
        split
        · obtain ⟨cn, hcn, hrn, hsec, hcov⟩ := ih.nested (toks.drop (k + 1)) (i0 + (k + 1)) (hc.drop _)
          rw [hrn, List.drop_drop]
          obtain ⟨new2, c2, hc2, htree2, hrest2, hgood2⟩ := ih.next topLevel
            ((parseNested g (toks.drop (k + 1))).1 :: .flat false lo hi :: acc) (toks.drop (k + 1 + cn))
            (i0 + (k + 1 + cn)) (hc.drop _)
          simp only [List.length_drop] at hcn hc2
          exact ⟨[.flat false lo hi] ++ [(parseNested g (toks.drop (k + 1))).1] ++ new2, k + 1 + cn + c2, by omega,
            by rw [htree2]; simp, by rw [hrest2, List.drop_drop], (hdir.nested hsec hcov).append hgood2⟩
        · split
          · obtain ⟨new2, c2, hc2, htree2, hrest2, hgood2⟩ :=
              ih.next topLevel (.flat false lo hi :: acc) (toks.drop (k + 1)) (i0 + (k + 1)) (hc.drop _)
            simp only [List.length_drop] at hc2
            exact ⟨[.flat false lo hi] ++ new2, k + 1 + c2, by omega, by rw [htree2]; simp,
              by rw [hrest2, List.drop_drop], hdir.append hgood2⟩
          · exact ⟨[.flat false lo hi], k + 1, hkl, by simp, rfl, hdir⟩
    case nested =>
      -- a nested section: the branches behind an `{$else}`, looked at with one unit of fuel more
      intro toks i0 hc
      obtain ⟨newB, c, hcl, heq, hfit, hneed, hcov⟩ := hEls [] (some .dElse) toks i0 hc
      rw [parseNested_succ, heq]
      refine ⟨c, hcl, rfl, fun F hF => ?_, fun F hF => ?_⟩
      all_goals
        obtain ⟨f, rfl⟩ : ∃ f, F = f + 1 := ⟨F - 1, by omega⟩
        have hf : 2 * c + 2 ≤ f := by omega
        simp only [List.reverse_nil, List.nil_append, secFits, secN, secU, List.all_eq_true]
      · exact ⟨hfit f hf, hneed f hf⟩
      · exact hcov f hf
    case els =>
      intro acc cdk toks i0 hc
      rw [parseNestedElse_succ]
      split
      · rename_i hel
        obtain ⟨new1, c1, hc1, htree1, hrest1, hgood1⟩ := ih.next false [] toks i0 hc
        obtain ⟨newB, c2, hc2, heq2, hfit2, hneed2, hcov2⟩ := ih.els ((parseNext g false [] toks).1 :: acc)
          (parseNext g false [] toks).2.1 (toks.drop c1) (i0 + c1) (hc.drop _)
        simp only [List.length_drop] at hc2
        have ht := hgood1.tle
        have hte := eOf_le_tOf (parseNext g false [] toks).2.1
        have he : eOf cdk = 1 := by
          cases cdk with
          | none => simp at hel
          | some c => simpa [eOf] using hel
        simp only [List.reverse_nil, List.nil_append] at htree1
        rw [hrest1, heq2, htree1]
        refine ⟨new1 :: newB, c1 + c2, by omega, by simp [List.drop_drop], fun F hF => ?_, fun F hF => ?_,
          fun F hF p hp hnp => ?_⟩
        all_goals
          obtain ⟨hf1, hn1, hu1⟩ := hgood1.tree F (by omega)
          have hF2 : 2 * c2 + 2 ≤ F := by omega
        · intro b hb
          rcases List.mem_cons.1 hb with rfl | hb'
          · exact hf1
          · exact hfit2 F hF2 b hb'
        · have := hneed2 F hF2
          rw [List.map_cons, List.sum_cons]
          omega
        · rw [List.map_cons, List.flatten_cons, List.mem_append]
          exact (take_add_mem toks c1 c2 p hp).imp (hu1 p · hnp) (hcov2 F hF2 p · hnp)
      · exact ⟨[], 0, Nat.zero_le _, by simp, by simp, by simp, by simp⟩

/-- **Every token that is not a conditional directive is contained in some pass.** -/
theorem passes_cover (kinds : List RawKind) (i : Nat) (hi : i < kinds.length)
    (hnc : condKind? kinds[i] = none) : ∃ p ∈ passes kinds, i ∈ p := by
  obtain ⟨toks, htree, hc, hlen, hmem⟩ := passes_tokens kinds
  obtain ⟨new, c, hcl, hnew, hrest, hgood⟩ := (parseFacts (3 * kinds.length + 3)).next true [] toks 0 hc
  -- at top level no directive ends the scan: with this fuel all tokens are consumed
  obtain ⟨c', -, hrest', hall, -⟩ := (parse_layout (3 * kinds.length + 3)).1 true [] toks 0 0 hc (fun f => Nat.le_refl _)
  rw [hrest', hall rfl (by omega), List.drop_length] at hrest
  have hcn : c = toks.length := by
    have := congrArg List.length hrest
    simp only [List.length_nil, List.length_drop] at this
    omega
  obtain ⟨hfit, hneed, hcov⟩ := hgood.tree (2 * kinds.length + 4) (by omega)
  have hU := hcov (i, kinds[i]) (by rw [hcn, List.take_length, hmem]; simp [hi]) hnc
  rw [htree, hnew, List.reverse_nil, List.nil_append]
  exact passesGo_cover _ _ new hfit (by omega) i hU

end Pasfmt
