/-
  C12 end to end, for the closed model of the whole formatter (`Model/PipelineFull.lean`): what happens to the text of
  a multi-line string literal between the scanner and the reconstructor.  A token the scanner types
  `TextLiteral(MultiLine)` ends in a quote and keeps its kind; the token rules before the wrapper stage leave its text
  alone (`PreTok.keeps`); through the wrapper stage, whatever solutions the search returns, its text changes only by
  applications of `mlsRewrite`, at most two (`MlsChain`, `wrapStageFull_at`), and none for ignored tokens or with
  `format_multiline_strings = false`; the value (`MlsMore.literalValue`) is the same along such a chain, and a literal
  the re-indenter rejects for all counters is reproduced byte for byte.  Together: `formatFull_literals`.
-/
import PasfmtModel.Proofs.WrapStageProps
import PasfmtModel.Proofs.StageToken
import PasfmtModel.Proofs.MultiLineLiteral
import PasfmtModel.Proofs.LexTotal
import PasfmtModel.Proofs.ParserLiterals

namespace Pasfmt.MlsPipe

open MlsMore (literalValue SettingsOk settings_ok)

/-! ### chains of applications of the re-indenter -/

/-- a chain of length zero, one or two, spelled out -/
theorem MlsChain.le_two {S : Settings} {k : Nat} {c c' : Bytes} (h : MlsChain S k c c') (hk : k ≤ 2) :
    c' = c ∨ MlsStep S c c' ∨ ∃ c1, MlsStep S c c1 ∧ MlsStep S c1 c' := by
  cases h with
  | zero => exact Or.inl rfl
  | succ h1 s1 =>
    cases h1 with
    | zero => exact Or.inr (Or.inl s1)
    | succ h2 s2 =>
      cases h2 with
      | zero => exact Or.inr (Or.inr ⟨_, s2, s1⟩)
      | succ _ _ => omega

theorem step_ends_quote {S : Settings} {c c' : Bytes} (hq : c.getLast? = some 0x27) (h : MlsStep S c c') :
    c'.getLast? = some 0x27 := by
  obtain ⟨ind, cont, h⟩ := h
  exact MlsMore.mlsRewrite_ends_quote hq h

theorem step_value {S : Settings} (hS : SettingsOk S) {c c' : Bytes} (hq : c.getLast? = some 0x27) (h : MlsStep S c c') :
    literalValue c' = literalValue c := by
  obtain ⟨ind, cont, h⟩ := h
  obtain ⟨vs, h1, h2⟩ := MlsMore.mls_value hS hq h
  rw [h1, h2]

/-- **the value of a literal that ends in a quote is the same all along a chain**, and every text of the chain ends in
    a quote -/
theorem chain_value {S : Settings} (hS : SettingsOk S) {k : Nat} {c c' : Bytes} (hq : c.getLast? = some 0x27)
    (h : MlsChain S k c c') : c'.getLast? = some 0x27 ∧ literalValue c' = literalValue c := by
  induction h with
  | zero => exact ⟨hq, rfl⟩
  | succ _ hs ih =>
    obtain ⟨q1, v1⟩ := ih hq
    exact ⟨step_ends_quote q1 hs, (step_value hS q1 hs).trans v1⟩

/-- a text that the re-indenter leaves alone for every pair of counters is the only text its chains reach -/
theorem chain_rejected {S : Settings} {k : Nat} {c c' : Bytes} (hrej : ∀ ind cont, mlsRewrite S c ind cont = none)
    (h : MlsChain S k c c') : c' = c := by
  induction h with
  | zero => rfl
  | succ _ hs ih =>
    obtain ⟨ind, cont, hs⟩ := hs
    rw [ih hrej, hrej] at hs
    cases hs

/-! ### the wrapper stage: solutions write counters only -/

theorem applyDecs_fmtOnly (lines : List Line) (ind cont : Nat) (toks : List Nat) (i : Nat) (ft ft' : FT)
    (decs : List (Dec × List (Nat × Sol))) (h : applyDecs lines ind cont toks i ft decs = some ft') :
    All2 FmtOnly ft ft' :=
  .of_pw (applyDecs_steps fmtOnly_dec h)

theorem applyChildren_fmtOnly (lines : List Line) (ft ft' : FT) (ks : List (Nat × Sol))
    (h : applyChildren lines ft ks = some ft') : All2 FmtOnly ft ft' :=
  .of_pw (applyChildren_steps fmtOnly_dec h)

/-! ### the string passes, one pass at a time -/

/-- what one string pass (in which no counter changes) does to one token: nothing, or - for a token that is not
    ignored and is typed multi-line literal - one application of the re-indenter with the token's own counters -/
def PassRel (S : Settings) (t t' : FTok) : Prop :=
  t'.fmt = t.fmt ∧ t'.tok.kind = t.tok.kind ∧
  (t'.tok = t.tok ∨
    (t.fmt.ignored = false ∧ isMlsKind t.tok.kind = true ∧
      mlsRewrite S t.tok.content t.fmt.ind t.fmt.cont = some t'.tok.content))

theorem PassRel.refl (S : Settings) (t : FTok) : PassRel S t t := ⟨rfl, rfl, Or.inl rfl⟩

/-- within one pass a token whose text ended in a quote when the pass began is rewritten at most once: a second
    application with the same counters reports "no change" (idempotence) -/
theorem passRel_visit {S : Settings} (hS : SettingsOk S) (t0 t : FTok)
    (h : (isMlsKind t0.tok.kind = true → t0.tok.content.getLast? = some 0x27) → PassRel S t0 t)
    (hq : isMlsKind t0.tok.kind = true → t0.tok.content.getLast? = some 0x27) : PassRel S t0 (mlsUpd S t) := by
  rcases mlsUpd_cases S t with e | ⟨c, hni, hkind, hc, e⟩
  · rw [e]; exact h hq
  rw [e]
  obtain ⟨hf, hk, hcase⟩ := h hq
  refine ⟨hf, hk, ?_⟩
  rcases hcase with he | ⟨_, hk0, hr⟩
  · refine Or.inr ⟨by rw [← hf]; exact hni, by rw [← hk]; exact hkind, ?_⟩
    rw [← he, ← hf]; exact hc
  · exfalso
    have hidem := MlsMore.mls_idem S hS _ _ _ _ (hq hk0) hr
    rw [hf, hidem] at hc
    cases hc

/-! ### the whole stage, for one token -/

/-- what the wrapper stage does to the text of one token: nothing; or one application of the re-indenter; or two, the
    second with the counters the token has in the end.  The last two only for a token that is not ignored, is typed
    multi-line literal, and with `format_multiline_strings = true`. -/
def StageOutcome (S : Settings) (fmtMls : Bool) (t tz : FTok) : Prop :=
  tz.tok = t.tok ∨
  (t.fmt.ignored = false ∧ isMlsKind t.tok.kind = true ∧ fmtMls = true ∧
    ((∃ i k, mlsRewrite S t.tok.content i k = some tz.tok.content) ∨
     (∃ i k c1, mlsRewrite S t.tok.content i k = some c1 ∧
        mlsRewrite S c1 tz.fmt.ind tz.fmt.cont = some tz.tok.content)))

/-- **the wrapper stage with the search inside, token by token, whatever the search returns**: kind and ignored flag
    are kept, and the text of a token whose text ends in a quote if it is typed multi-line literal (every scanned
    literal does) is the result of at most two applications of the re-indenter: `StageOutcome` -/
theorem wrapStageFull_at (cfg : Config) (lines : List Line) (ft ftz : FT) (sols : List (Nat × Nat × Sol))
    (h : wrapStageFull cfg lines ft = some (ftz, sols)) (j : Nat) (t : FTok) (hj : ft[j]? = some t)
    (hq : isMlsKind t.tok.kind = true → t.tok.content.getLast? = some 0x27) :
    ∃ tz, ftz[j]? = some tz ∧ tz.tok.kind = t.tok.kind ∧ tz.fmt.ignored = t.fmt.ignored ∧
      StageOutcome cfg.settings cfg.fmtMls t tz := by
  have hS := settings_ok cfg
  obtain ⟨fta, _, _, ha, hph⟩ := wrapStageFull_eq_some.1 h
  obtain ⟨t1, hj1, htok1, hign1⟩ := (applyLinesS_steps fmtOnly_dec ha).get hj
  rcases hph with ⟨_, rfl, _⟩ | ⟨hon, ftb, _, ftc, _, ftd, hb, hc, hd, rfl⟩
  · obtain ⟨⟨htokz, hignz⟩, _⟩ := zeroTok_fmtOnly t1
    exact ⟨_, zero_getElem? hj1, by rw [htokz, htok1], hignz.trans hign1, Or.inl (htokz.trans htok1)⟩
  · have hq1 : isMlsKind t1.tok.kind = true → t1.tok.content.getLast? = some 0x27 := by rw [htok1]; exact hq
    obtain ⟨t2, hj2, hp2⟩ := (mlsPass1_since (fun _ t _ => PassRel.refl _ t) (fun _ => passRel_visit hS) hb).get hj1
    obtain ⟨hfmt2, hkind2, hcase2⟩ := hp2 hq1
    obtain ⟨t3, hj3, htok3, hign3⟩ := (applyLinesS_steps fmtOnly_dec hc).get hj2
    have hq3 : isMlsKind t3.tok.kind = true → t3.tok.content.getLast? = some 0x27 := by
      rw [htok3]
      rcases hcase2 with he | ⟨_, hk1, hr⟩
      · rw [he]; exact hq1
      · intro _; exact step_ends_quote (hq1 hk1) ⟨_, _, hr⟩
    obtain ⟨t4, hj4, hp4⟩ := (mlsPass2_since (fun _ t _ => PassRel.refl _ t) (fun _ => passRel_visit hS) hd).get hj3
    obtain ⟨hfmt4, hkind4, hcase4⟩ := hp4 hq3
    obtain ⟨⟨htokz, hignz⟩, hindz, hcontz⟩ := zeroTok_fmtOnly t4
    have hign : (zeroTok t4).fmt.ignored = t.fmt.ignored := by
      rw [hignz, hfmt4, hign3, hfmt2, hign1]
    have hkind : (zeroTok t4).tok.kind = t.tok.kind := by
      rw [htokz, hkind4, htok3, hkind2, htok1]
    refine ⟨_, zero_getElem? hj4, hkind, hign, ?_⟩
    rcases hcase2 with he2 | ⟨hi2, hk2, hr2⟩
    · rcases hcase4 with he4 | ⟨hi4, hk4, hr4⟩
      · exact Or.inl (by rw [htokz, he4, htok3, he2, htok1])
      · refine Or.inr ⟨?_, ?_, hon, Or.inl ⟨t3.fmt.ind, t3.fmt.cont, ?_⟩⟩
        · rw [← hign1, ← hfmt2, ← hign3]; exact hi4
        · rw [← htok1, ← he2, ← htok3]; exact hk4
        · rw [htokz, ← htok1, ← he2, ← htok3]; exact hr4
    · have hi : t.fmt.ignored = false := by rw [← hign1]; exact hi2
      have hk : isMlsKind t.tok.kind = true := by rw [← htok1]; exact hk2
      rcases hcase4 with he4 | ⟨hi4, hk4, hr4⟩
      · refine Or.inr ⟨hi, hk, hon, Or.inl ⟨t1.fmt.ind, t1.fmt.cont, ?_⟩⟩
        rw [htokz, he4, htok3, ← htok1]; exact hr2
      · refine Or.inr ⟨hi, hk, hon, Or.inr ⟨t1.fmt.ind, t1.fmt.cont, t2.tok.content, ?_, ?_⟩⟩
        · rw [← htok1]; exact hr2
        · rw [hindz, hcontz, hfmt4, htokz, ← htok3]; exact hr4

theorem StageOutcome.chain {S : Settings} {b : Bool} {t tz : FTok} (h : StageOutcome S b t tz) :
    ∃ k, k ≤ 2 ∧ MlsChain S k t.tok.content tz.tok.content := by
  rcases h with he | ⟨_, _, _, h1 | h2⟩
  · exact ⟨0, by omega, by rw [he]; exact .zero _⟩
  · obtain ⟨i, k, h1⟩ := h1
    exact ⟨1, by omega, .one ⟨i, k, h1⟩⟩
  · obtain ⟨i, k, c1, h1, h2⟩ := h2
    exact ⟨2, by omega, .succ (.one ⟨i, k, h1⟩) ⟨_, _, h2⟩⟩

theorem StageOutcome.frozen {S : Settings} {b : Bool} {t tz : FTok} (h : StageOutcome S b t tz)
    (hf : t.fmt.ignored = true ∨ isMlsKind t.tok.kind = false ∨ b = false) : tz.tok = t.tok := by
  rcases h with he | ⟨h1, h2, h3, _⟩
  · exact he
  · rcases hf with hf | hf | hf
    · rw [h1] at hf; cases hf
    · rw [h2] at hf; cases hf
    · rw [h3] at hf; cases hf

/-! ### the whole stage, for all tokens, without the hypothesis "ends in a quote" -/

/-- **the wrapper stage with the search inside, all tokens, no hypothesis on the texts**: same number of tokens; per
    token the kind and the ignored flag are kept, the text changes through applications of the re-indenter only, and
    the token is untouched if it is ignored, not typed multi-line literal, or `format_multiline_strings = false` -/
theorem wrapStageFull_reach (cfg : Config) (lines : List Line) (ft ftz : FT) (sols : List (Nat × Nat × Sol))
    (h : wrapStageFull cfg lines ft = some (ftz, sols)) : All2 (ReachRel cfg.settings cfg.fmtMls) ft ftz := by
  cases hm : cfg.fmtMls with
  | true => exact .of_pw ((wrapStageFull_steps (tokStep_steps _) h).imp fun _ _ _ _ x => x.toReachRel)
  | false =>
    -- without the string passes only counters change
    obtain ⟨fta, _, _, ha, ⟨_, rfl, _⟩ | ⟨hon, _⟩⟩ := wrapStageFull_eq_some.1 h
    · exact .of_pw (((applyLinesS_steps fmtOnly_dec ha).trans fmtOnly_dec.trans
        (zero_pw (fun _ t => (zeroTok_fmtOnly t).1) fta)).imp fun _ a b _ (x : FmtOnly a b) => x.reachRel _ _)
    · rw [hm] at hon; cases hon

/-! ### the scanner: a token typed `TextLiteral(MultiLine)` was read by the text-literal sub-lexer as such -/

theorem lexOne_multi (simd : Bool) (st : LexState) (inp : Bytes) (ws e : Nat) (st' : LexState)
    (h : lexOne simd st inp = some (some (ws, e, .rTextLiteral .tMultiLine, st'))) (hle : e ≤ inp.length) :
    ∃ rest, textLiteral ((inp.take e).drop ws ++ rest) = (((inp.take e).drop ws).length, .tMultiLine) := by
  obtain ⟨b, r, o, hd, _, ho, _, rfl, rfl, hk, _⟩ := lexOne_inv h
  refine ⟨(b :: r).drop o.len, ?_⟩
  have e1 : (inp.take (countLeadingWs inp + o.len)).drop (countLeadingWs inp) = (b :: r).take o.len := by
    rw [List.drop_take, hd]
    congr 1; omega
  rw [e1, List.take_append_drop, ho.multi hk.symm]
  congr 1
  rw [List.length_take]
  have : (b :: r).length = inp.length - countLeadingWs inp := by rw [← hd]; simp
  omega

/-- **every token the scanner types `TextLiteral(MultiLine)` ends in a quote**: its text, standing in front of some
    rest, is read by the text-literal sub-lexer as one multi-line literal of exactly that length -/
theorem _root_.Pasfmt.Scan.multi {simd : Bool} {st : LexState} {inp : Bytes} {toks : List RawTok} (hs : Scan simd st inp toks) :
    ∀ t ∈ toks, t.kind = .rTextLiteral .tMultiLine →
      ∃ rest, textLiteral (t.content ++ rest) = (t.content.length, .tMultiLine) := by
  induction hs with
  | eof => intro t ht hk; simp at ht; subst ht; cases hk
  | @tok st st' inp ws e kind rest hone _ hle _ ih =>
    intro t ht hk
    rcases List.mem_cons.1 ht with rfl | ht
    · simp only at hk
      subst hk
      exact lexOne_multi simd st inp ws e st' hone hle
    · exact ih t ht hk

theorem lex_multi_ends_quote (s : Bytes) (raw : List RawTok) (h : lex s = some raw) :
    ∀ t ∈ raw, t.kind = .rTextLiteral .tMultiLine → t.content.getLast? = some 0x27 := by
  intro t ht hk
  obtain ⟨rest, hr⟩ := (lexWith_scan h).multi t ht hk
  exact MlsMore.multi_ends_quote t.content rest hr

/-! ### the token rules before the wrapper stage -/

/-- the kinds whose text a token rule may rewrite: keywords (`LowercaseKeywords`), line comments and directives
    (`CommentFormatter`) -/
def ruleKind : Kind → Bool
  | .tKeyword _ => true
  | .tCompilerDirective => true
  | .tConditionalDirective _ => true
  | .tComment .cInlineLine => true
  | .tComment .cIndividualLine => true
  | _ => false

theorem ruleKind_textLiteral (k : TextLiteralKind) : ruleKind (.tTextLiteral k) = false := rfl

theorem textRule_ruleKind (U : Bytes → Bool) {k : Kind} (h : ruleKind k = false) (c : Bytes) : textRule U k c = none := by
  cases hr : textRule U k c with
  | none => rfl
  | some c' =>
    rcases textRule_cases hr with ⟨⟨kw, rfl⟩, _⟩ | ⟨rfl | ⟨d, rfl⟩, _⟩ | ⟨rfl | rfl, _⟩ <;> cases h

/-- **the token rules keep literals**: a token that is ignored, or whose kind is not keyword / line comment /
    directive - every text literal - leaves the two text-rewriting rules exactly as it entered them -/
theorem rules_keep_tok (U : Bytes → Bool) (t : FTok) (h : ruleKind t.tok.kind = false ∨ t.fmt.ignored = true) :
    commentFormatTok U (lowercaseTok t) = t := by
  rw [rulesTok_eq]
  rcases h with h | h
  · exact applyRule_none (textRule_ruleKind U h _)
  · exact applyRule_ignored _ t h

/-- **before the wrapper stage** a token that is ignored or not of a kind the text rules handle has its scanned text -/
theorem _root_.Pasfmt.PreTok.keeps {U : Bytes → Bool} {r : RawTok} {k : Kind} {m : Bool} {t : FTok} (p : PreTok U r k m t)
    (h : ruleKind t.tok.kind = false ∨ t.fmt.ignored = true) : t.tok.content = r.content := by
  rcases p.content_cases with e | ⟨hm, e⟩
  · exact e
  · rcases h with h | h
    · rw [textRule_ruleKind U h] at e; cases e
    · rw [p.ign, hm] at h; cases h

/-- **the text literals before the wrapper stage are the scanner's**: the token at a position is typed text literal `k`
    iff the scanner typed it so (parser and consolidators neither make nor retype one: `parseAndConsolidate_sameLit`),
    and then it has its scanned text (no text rule handles a text literal) -/
theorem preWrap_literal {alnum : Bytes → Bool} {raw : List RawTok} {po : ParserOut}
    (hpo : parseAndConsolidate raw = some po) :
    All2 (fun r t => ∀ k : TextLiteralKind, (t.tok.kind = .tTextLiteral k ↔ r.kind = .rTextLiteral k) ∧
      (t.tok.kind = .tTextLiteral k → t.tok.content = r.content)) raw (preWrap (preO alnum po) raw).2.2 :=
  preWrap_all2 _ raw fun j r t hr p k => by
    refine ⟨?_, fun hk => p.keeps (Or.inl (by rw [hk]; rfl))⟩
    rw [p.kind]
    show (po.kinds[j]?).getD r.kind.toTokenType = _ ↔ _
    cases hkj : po.kinds[j]? with
    | none => exact ParserLit.toTokenType_eq_textLiteral r.kind k
    | some kd =>
      have h := ParserLit.parseAndConsolidate_sameLit raw po hpo j k
      rw [hkj, hr] at h
      simpa using h

/-! ### the whole formatter -/

attribute [local irreducible] wrapStageFull preWrap in
/-- the stages of the closed model, spelled out: whenever the formatter answers, its answer is the reconstruction of a
    final token state `ftz` that the wrapper stage made of the state `ft1` the token rules left; in `ft1` every scanned
    text literal is still typed text literal (the parser and the consolidators never retype one:
    `Proofs/ParserLiterals.lean`) and has its scanned text -/
theorem formatFull_stages (cfg : Config) (alnum : Bytes → Bool) (s out : Bytes) (h : formatFull cfg alnum s = some out) :
    ∃ (raw : List RawTok) (lines : List Line) (ft1 ftz : FT) (sols : List (Nat × Nat × Sol)),
      lex s = some raw ∧ ft1.length = raw.length ∧ wrapStageFull cfg lines ft1 = some (ftz, sols) ∧
      out = reconstruct cfg.settings ftz ∧
      ∀ (j : Nat) (r : RawTok) (k : TextLiteralKind), raw[j]? = some r → r.kind = .rTextLiteral k →
        ∃ t, ft1[j]? = some t ∧ t.tok.kind = .tTextLiteral k ∧ t.tok.content = r.content := by
  obtain ⟨p, ftz, sols, hp, hw, rfl⟩ := formatFull_eq_some.1 h
  obtain ⟨raw, po, hl, hpo, rfl⟩ := preStage_eq_some.1 hp
  refine ⟨raw, _, _, ftz, sols, hl, preWrap_length _ raw, hw, rfl, fun j r k hj hk => ?_⟩
  obtain ⟨t, ht, hlit⟩ := all2_getElem? (preWrap_literal (alnum := alnum) hpo) hj
  exact ⟨t, ht, (hlit k).1.2 hk, (hlit k).2 ((hlit k).1.2 hk)⟩

/-- everything C12 says about one scanned multi-line literal `r` and the final token `tz` at the same position -/
structure LiteralKept (cfg : Config) (r : RawTok) (tz : FTok) : Prop where
  /-- the token is still typed multi-line literal -/
  kind : tz.tok.kind = .tTextLiteral .tMultiLine
  /-- the text still ends in a quote -/
  ends : tz.tok.content.getLast? = some 0x27
  /-- in a verbatim region the text is the scanned text -/
  ignored : tz.fmt.ignored = true → tz.tok.content = r.content
  /-- the text is the scanned text after at most two applications of the re-indenter: none; or one; or two, the second
      one with the counters the token has in the end -/
  outcome : tz.tok.content = r.content ∨
    (tz.fmt.ignored = false ∧ cfg.fmtMls = true ∧
      ((∃ i k, mlsRewrite cfg.settings r.content i k = some tz.tok.content) ∨
       (∃ i k c1, mlsRewrite cfg.settings r.content i k = some c1 ∧
          mlsRewrite cfg.settings c1 tz.fmt.ind tz.fmt.cont = some tz.tok.content)))
  /-- hence a chain of at most two applications -/
  chain : ∃ k, k ≤ 2 ∧ MlsChain cfg.settings k r.content tz.tok.content
  /-- the value of the literal is unchanged -/
  value : literalValue tz.tok.content = literalValue r.content
  /-- with `format_multiline_strings = false` the text is the scanned text -/
  off : cfg.fmtMls = false → tz.tok.content = r.content
  /-- a literal that the re-indenter rejects (for all counters) is reproduced byte for byte -/
  rejected : (∀ ind cont, mlsRewrite cfg.settings r.content ind cont = none) → tz.tok.content = r.content

/-- **C12 for the closed model of the whole formatter.**  Whenever the formatter answers, its answer is the
    reconstruction of a final token state with as many tokens as were scanned, and every token that the scanner
    typed `TextLiteral(MultiLine)` is kept in the sense of `LiteralKept`. -/
theorem formatFull_literals (cfg : Config) (alnum : Bytes → Bool) (s out : Bytes) (h : formatFull cfg alnum s = some out) :
    ∃ (raw : List RawTok) (ftz : FT), lex s = some raw ∧ out = reconstruct cfg.settings ftz ∧
      ftz.length = raw.length ∧
      ∀ (j : Nat) (r : RawTok), raw[j]? = some r → r.kind = .rTextLiteral .tMultiLine →
        ∃ tz, ftz[j]? = some tz ∧ LiteralKept cfg r tz := by
  obtain ⟨raw, lines, ft1, ftz, sols, hl, hlen1, hw, hout, hlits⟩ := formatFull_stages cfg alnum s out h
  have hlen : ftz.length = ft1.length := (all2_length (wrapStageFull_reach cfg lines ft1 ftz sols hw)).symm
  refine ⟨raw, ftz, hl, hout, hlen.trans hlen1, ?_⟩
  intro j r hj hk
  have hq : r.content.getLast? = some 0x27 := lex_multi_ends_quote s raw hl r (List.mem_of_getElem? hj) hk
  obtain ⟨t1, hj1, hk1, hc1⟩ := hlits j r .tMultiLine hj hk
  obtain ⟨tz, hjz, hkz, hiz, ho⟩ := wrapStageFull_at cfg lines ft1 ftz sols hw j t1 hj1 (fun _ => by rw [hc1]; exact hq)
  refine ⟨tz, hjz, ?_⟩
  have hchain : ∃ k, k ≤ 2 ∧ MlsChain cfg.settings k r.content tz.tok.content := by
    rw [← hc1]; exact ho.chain
  obtain ⟨k, _, hc⟩ := hchain
  have hv := chain_value (settings_ok cfg) hq hc
  refine ⟨hkz.trans hk1, hv.1, ?_, ?_, ⟨k, ‹_›, hc⟩, hv.2, ?_, fun hrej => chain_rejected hrej hc⟩
  · intro hi
    rw [ho.frozen (Or.inl (by rw [← hiz]; exact hi))]
    exact hc1
  · rcases ho with he | ⟨h1, _, h3, h4⟩
    · exact Or.inl (by rw [he]; exact hc1)
    · rw [hc1] at h4
      exact Or.inr ⟨by rw [hiz]; exact h1, h3, h4⟩
  · intro hoff
    rw [ho.frozen (Or.inr (Or.inr hoff))]
    exact hc1

end Pasfmt.MlsPipe
