/-
  The wrapper stage with the search inside never aborts on well-formed lines (C04, closed model): the solutions the
  search returns fit the lines (`SolFits`), because a returned solution has at most as many decisions as its line has
  tokens (`CntOk`: the search offers a decision only at a node that still has a token to decide, `SearchEnv.Offers`) and
  the child solutions of a decision are the solutions of the child lines of a record of `line_children` (`TreeOk'`,
  Proofs/SearchBeginWrap.lean), whose indices are indices of existing lines (`LCInv`).
-/
import PasfmtModel.Proofs.StageTotal
import PasfmtModel.Proofs.SearchBeginWrap

namespace Pasfmt

/-- all recorded child line indices of a children map are below `n` -/
def LCInv (n : Nat) : Std.HashMap (Nat × Nat) LineChildren → Prop :=
  CacheBy fun _ lc => ∀ i ∈ lc.lineIndices.toList, i < n

theorem lcInv_getD {n : Nat} {m : Std.HashMap (Nat × Nat) LineChildren} (hm : LCInv n m) (k : Nat × Nat)
    (d : LineChildren) (hd : ∀ i ∈ d.lineIndices.toList, i < n) :
    ∀ i ∈ ((m.get? k).getD d).lineIndices.toList, i < n := by
  cases hg : m.get? k with
  | none => exact hd
  | some old => exact hm _ old (Std.HashMap.get?_eq_getElem? ▸ hg)

theorem lineChildrenWalk_inv (lines : Array LineA) (lineIndex : Nat) (hlt : lineIndex < lines.size) :
    ∀ (fuel : Nat) (cur : Option LineA) (first : Bool) (st : LineChildrenState),
      LCInv lines.size st.lineChildrenMap →
      LCInv lines.size (lineChildrenWalk lines lineIndex fuel cur first st).lineChildrenMap := by
  intro fuel
  induction fuel with
  | zero => intro cur first st h; simpa [lineChildrenWalk] using h
  | succ fuel ih =>
    intro cur first st h
    unfold lineChildrenWalk
    split
    · exact h
    · rename_i parent _
      apply ih
      refine CacheBy.insert h fun i hi => ?_
      have hold := lcInv_getD h ((st.lineParentMap.get? (parent.lineIndex, parent.tokenIndex)).getD
        (parent.lineIndex, parent.tokenIndex))
        { parentToken := parent.tokenIndex, lineIndices := #[], descendantCount := 0 } (by simp)
      cases first with
      | false => exact hold i (by simpa using hi)
      | true =>
        simp at hi
        rcases hi with hi | hi
        · exact hold i (by simpa using hi)
        · subst hi; exact hlt

theorem getLineChildren_inv (lines : Array LineA) : LCInv lines.size (getLineChildren lines) := by
  unfold getLineChildren
  refine List.foldlRecOn (motive := fun st : LineChildrenState => LCInv lines.size st.lineChildrenMap) _ _
    (cacheBy_empty _) ?_
  intro st h a ha
  simp only
  split
  · exact h
  · apply lineChildrenWalk_inv lines a (List.mem_range.mp ha)
    -- what precedes the walk writes `tokensBeforeGaps` and `lineParentMap` only; the splits below walk its branches
    split
    · exact h
    · split <;> split <;> (try split) <;> exact h

/-- the solution of line `li` has at most as many decisions as the line has tokens, and so do all child solutions -/
def CntOk (O : Olf) : Nat → FormattingSolution → Prop := TreeAll fun li _ i _ => i < (O.lines[li]!).tokens.size

theorem findOptimalSolution_cnt (O : Olf) :
    ∀ fuel : Nat, SolverAll (CacheEach (CntOk O)) (CntOk O) (O.findOptimalSolution fuel) :=
  findOptimalSolution_all O _ _ fun _ hS cache ws li fd hc =>
    findOptimalSolutionWith_each (fun _ _ => Iff.rfl) O _ hS ws li fd
      (fun _ _ _ _ _ _ ho => ho.lt) (fun _ _ _ hsz _ => hsz) cache hc

/-- what the formatter state of the stage knows about the lines: they are the parser's lines, and `line_children` was
    computed from them -/
def OlfLines (O : Olf) (lines : List Line) : Prop :=
  O.lines = (lines.map Line.toA).toArray ∧ O.lineChildren = getLineChildren O.lines

theorem OlfLines.size {O : Olf} {lines : List Line} (h : OlfLines O lines) : O.lines.size = lines.length := by
  rw [h.1]; simp

/-- a search solution for an existing line that satisfies the count invariant and the child-record invariant becomes,
    at every conversion depth, a solution whose shape fits the lines -/
theorem toSol_fits (O : Olf) (lines : List Line) (n : Nat) (hO : OlfLines O lines) (hL : LinesOk lines n) :
    ∀ (fuel : Nat) (sol : FormattingSolution) (li : Nat), li < lines.length → TreeOk' O sol → CntOk O li sol →
      SolFits lines n (sol.toSol fuel) li := by
  intro fuel
  induction fuel with
  | zero =>
    -- out of fuel `toSol` keeps no decision, so the claim is about what is left of the solution; that the stage's fuel
    -- `lines.size + 1` reaches every nesting depth is not proved anywhere
    intro sol li hli _ _
    cases sol with
    | mk ws decs pen len =>
      have hl : lines[li]? = some lines[li] := List.getElem?_eq_getElem hli
      exact SolFits.mk _ _ [] li _ hl (by simp) (hL.tokens hl) (by simp)
  | succ f ih =>
    intro sol li hli ht hc
    have hl : lines[li]? = some lines[li] := List.getElem?_eq_getElem hli
    have hdec := (treeOk'_iff_all O 0 sol).1 ht
    cases hc with
    | mk _ ws decs pen len hlen hrec =>
      unfold FormattingSolution.toSol
      refine SolFits.mk _ _ _ li _ hl ?_ (hL.tokens hl) ?_
      · rw [lines_getElem!_toA O lines hO.1 _ _ hl] at hlen
        rw [List.length_map]
        rcases Nat.lt_or_ge lines[li].tokens.length decs.length with hlt | hge
        · exact absurd (hlen _ _ (List.getElem?_eq_getElem hlt)) (by simp [Line.toA])
        · exact hge
      · intro d hd x hx
        simp only [List.mem_map] at hd
        obtain ⟨d0, hd0, rfl⟩ := hd
        simp only [List.mem_map] at hx
        obtain ⟨x0, hx0, rfl⟩ := hx
        obtain ⟨⟨_, o, _, _, hfrom⟩, hcl⟩ := hdec.mem (d := d0) (by simpa [FormattingSolution.decisions] using hd0)
        have hxlt : x0.1 < lines.length := by
          rcases hfrom with hnil | ⟨key, lc, hk, hmap, _⟩
          · rw [hnil] at hx0; cases hx0
          · have hm : x0.1 ∈ lc.lineIndices.toList := by
              rw [← hmap]; exact List.mem_map_of_mem hx0
            rw [hO.2] at hk
            have := getLineChildren_inv O.lines key lc hk x0.1 hm
            rw [hO.size] at this; exact this
        exact ih x0.2 x0.1 hxlt ((treeOk'_iff_all O _ _).2 (hcl x0 hx0)) (hrec d0 hd0 x0 hx0)

theorem OlfLines.congr {O O' : Olf} {lines : List Line} (h : SameView O O') (hO : OlfLines O lines) :
    OlfLines O' lines :=
  ⟨h.lines.trans hO.1, by rw [h.lineChildren, h.lines]; exact hO.2⟩

theorem cacheCnt_congr {O O' : Olf} (h : O'.lines = O.lines) {cache : ChildLineCache}
    (hc : CacheEach (CntOk O) cache) : CacheEach (CntOk O') cache :=
  fun key sols hk x hx => TreeAll.mono (fun _ _ _ _ hd => by rw [h]; exact hd) (hc key sols hk x hx)

theorem formatLine_fits (lines : List Line) (n : Nat) (hL : LinesOk lines n) (O : Olf)
    (cache : ChildLineCache) (i : Nat) (hc : CacheOk' O cache ∧ CacheEach (CntOk O) cache) :
    (CacheOk' O (O.formatLine cache i).2 ∧ CacheEach (CntOk O) (O.formatLine cache i).2) ∧
    ∀ sol, (O.formatLine cache i).1 = some sol → OlfLines O lines → SolFits lines n (sol.toSol (O.lines.size + 1)) i := by
  have hfl := format_line_begin_always_wrap O cache i hc.1
  have hfc := formatLine_all O _ _ (findOptimalSolution_cnt O _) cache i hc.2
  refine ⟨⟨hfl.1, hfc.1⟩, fun sol hsol hO => ?_⟩
  have hi : i < lines.length := by
    obtain ⟨line, hl⟩ := formatLine_line hsol
    rw [← hO.size]
    exact (Array.getElem?_eq_some_iff.1 hl).1
  exact toSol_fits _ lines n hO hL _ sol i hi (hfl.2 sol hsol) (hfc.2 sol hsol)

theorem searchInit_olfLines (cfg : Config) (lines : List Line) (ft : FT) :
    OlfLines (stageOlf (searchInit cfg lines ft) ft) lines :=
  -- the lines are rewritten first: comparing `getLineChildren` at two spellings of them makes the unifier unfold it
  have hl : (stageOlf (searchInit cfg lines ft) ft).lines = (lines.map Line.toA).toArray := rfl
  ⟨hl, by rw [hl]; rfl⟩

/-- the stage keeps the two cache invariants (`stageInv_formatLine`), under which the search returns fitting solutions -/
theorem wrapStageFull_total (cfg : Config) (lines : List Line) (ft : FT) (hL : LinesOk lines ft.length) :
    ∃ r, wrapStageFull cfg lines ft = some r :=
  wrapStageFull_total_of
    (stageInv_formatLine (fun O c => CacheOk' O c ∧ CacheEach (CntOk O) c)
      (fun O i sol => OlfLines O lines → SolFits lines ft.length (sol.toSol (O.lines.size + 1)) i)
      (fun hv hc => ⟨hc.1.congr hv, cacheCnt_congr hv.lines hc.2⟩)
      (fun hv h hO => hv.lines ▸ h (hO.congr hv.symm))
      (formatLine_fits lines ft.length hL) lines _)
    (fun _ _ ⟨_, e, h⟩ => e ▸ h (searchInit_olfLines cfg lines ft)) rfl hL
    ⟨SameView.refl _, cacheBy_empty _, cacheBy_empty _⟩

end Pasfmt
