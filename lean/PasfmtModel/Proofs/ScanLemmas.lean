/-
  The scanning primitives of `Model/Bytes.lean`.  `countWhile` (maximal munch over a byte class), `findIdx`,
  `findByte`, `findSub` (first occurrence) are one function, `spanLen q` (so is the identifier scan of
  `Model/Lexer.lean`: `identLen_eq_span` in `LexEquations`): the number of leading positions at which a test `q` of
  the rest of the text holds.  Its four lemmas — bound, what the lengths below it are (`le_spanLen_iff`), the test fails
  where it stops, locality when the test is local — give the facts about each of them; `PrefixDet` is the form locality
  takes.  Also: the vocabulary of the specifications ("longest prefix in a language", "first occurrence"), local too
  (`FirstOcc.local`; `append_cut` for a specification that lists shapes), and the two ways a fact about every byte is
  checked by evaluation.
-/
import PasfmtModel.Model.Bytes

namespace Pasfmt

/-- a fact about bytes may be checked on the 256 values -/
theorem forall_uint8 {P : UInt8 → Prop} (h : ∀ n : Fin 256, P (UInt8.ofNat n.val)) (b : UInt8) : P b := by
  have := h ⟨b.toNat, b.toNat_lt⟩
  rwa [UInt8.ofNat_toNat] at this

/-- a fact about a 256-entry table checked in one pass over it (a lookup per byte makes the kernel
    walk the table 256 times) -/
theorem byteTable_forall {α : Type} (t : List α) (d : α) (P : UInt8 → α → Prop) (hlen : t.length = 256)
    (h : ∀ p ∈ t.zipIdx, P (UInt8.ofNat p.2) p.1) (b : UInt8) : P b (t.getD b.toNat d) := by
  have hb : b.toNat < t.length := by rw [hlen]; exact b.toNat_lt
  have hmem : (t[b.toNat], b.toNat) ∈ t.zipIdx := by
    rw [List.mem_zipIdx_iff_getElem?]; exact List.getElem?_eq_getElem hb
  have := h _ hmem
  rw [List.getD_eq_getElem?_getD, List.getElem?_eq_getElem hb, Option.getD_some]
  rwa [UInt8.ofNat_toNat] at this

/-! ### locality -/

/-- `f` is *prefix-determined* with `k` bytes of lookahead, where `m` tells how many bytes a result
    covers: if the result on `x ++ s` covers a stretch that ends at least `k` bytes before the end
    of `x`, then `f` returns the same on `x ++ s'`, whatever `s'` is. -/
def PrefixDet {α : Type} (k : Nat) (m : α → Nat) (f : Bytes → α) : Prop :=
  ∀ x s s' : Bytes, m (f (x ++ s)) + k ≤ x.length → f (x ++ s') = f (x ++ s)

theorem PrefixDet.nat {k : Nat} {f : Bytes → Nat} (h : PrefixDet k id f) (x s s' : Bytes)
    (hx : f (x ++ s) + k ≤ x.length) : f (x ++ s') = f (x ++ s) := h x s s' hx

theorem PrefixDet.mono {α : Type} {k k' : Nat} {m m' : α → Nat} {f : Bytes → α} (h : PrefixDet k m f)
    (hk : ∀ a, m a + k ≤ m' a + k') : PrefixDet k' m' f :=
  fun x s s' hx => h x s s' (Nat.le_trans (hk _) hx)

/-- sequencing: a scan `f`, then a scan `g` of the rest that may depend on what `f` consumed -/
theorem PrefixDet.bind {β γ : Type} {k : Nat} {f : Bytes → Nat} {g : Bytes → Bytes → β} {c : Nat → β → γ}
    {m : β → Nat} {m' : γ → Nat} (hf : PrefixDet k id f) (hg : ∀ p, PrefixDet k m (g p))
    (hm : ∀ n a, n + m a ≤ m' (c n a)) :
    PrefixDet k m' (fun l => c (f l) (g (l.take (f l)) (l.drop (f l)))) := by
  intro x s s' h
  dsimp only at h ⊢
  have h0 := hm (f (x ++ s)) (g ((x ++ s).take (f (x ++ s))) ((x ++ s).drop (f (x ++ s))))
  have hle : f (x ++ s) ≤ x.length := by omega
  have hn : f (x ++ s') = f (x ++ s) := hf.nat x s s' (by omega)
  simp only [hn, List.take_append_of_le_length hle, List.drop_append_of_le_length hle] at h h0 ⊢
  rw [hg _ (x.drop _) s s' (by simp only [List.length_drop]; omega)]

/-- a function of what a scan returns -/
theorem PrefixDet.map {α β : Type} {k k' : Nat} {m : α → Nat} {m' : β → Nat} {f : Bytes → α} (h : PrefixDet k m f)
    (c : α → β) (hm : ∀ a, m a + k ≤ m' (c a) + k') : PrefixDet k' m' (fun l => c (f l)) :=
  fun x s s' hx => congrArg c (h x s s' (Nat.le_trans (hm _) hx))

/-- a choice that does not depend on the text -/
theorem PrefixDet.ite {α : Type} {k : Nat} {m : α → Nat} {f g : Bytes → α} (c : Prop) [Decidable c]
    (hf : PrefixDet k m f) (hg : ¬c → PrefixDet k m g) : PrefixDet k m (fun l => if c then f l else g l) := by
  by_cases hc : c
  · simp only [hc, if_true]; exact hf
  · simp only [hc, if_false]; exact hg hc

/-- peeling the first byte takes one byte of lookahead -/
theorem PrefixDet.cons {α : Type} {k : Nat} {m : α → Nat} {f : Bytes → α}
    (h : ∀ b, PrefixDet k m (fun r => f (b :: r))) : PrefixDet (k + 1) m f := by
  intro x s s' hx
  cases x with
  | nil => exact absurd hx (by simp only [List.length_nil]; omega)
  | cons b y => exact h b y s s' (Nat.le_of_succ_le_succ hx)

theorem PrefixDet.tail {α : Type} {k : Nat} {m : α → Nat} {f : Bytes → α} (h : PrefixDet (k + 1) m f) (b : UInt8) :
    PrefixDet k m (fun r => f (b :: r)) :=
  fun y s s' hy => h (b :: y) s s' (Nat.succ_le_succ hy)

/-! ### the scan combinator -/

def spanLen (q : Bytes → Bool) : Bytes → Nat
  | [] => 0
  | b :: r => if q (b :: r) then spanLen q r + 1 else 0

theorem spanLen_le (q : Bytes → Bool) (l : Bytes) : spanLen q l ≤ l.length := by
  induction l with
  | nil => exact Nat.le_refl _
  | cons b r ih => rw [spanLen]; split <;> simp only [List.length_cons] <;> omega

/-- maximal munch: the lengths `n ≤ spanLen q l` are those for which the test holds at every position before `n` -/
theorem le_spanLen_iff (q : Bytes → Bool) (l : Bytes) (n : Nat) :
    n ≤ spanLen q l ↔ n ≤ l.length ∧ ∀ i, i < n → q (l.drop i) = true := by
  induction l generalizing n with
  | nil => simp only [spanLen, List.length_nil, Nat.le_zero]; exact ⟨fun h => ⟨h, fun i hi => by omega⟩, fun h => h.1⟩
  | cons b r ih =>
    cases n with
    | zero => simp
    | succ m =>
      rw [spanLen]
      by_cases hq : q (b :: r) = true
      · rw [if_pos hq, Nat.succ_le_succ_iff, ih, List.length_cons, Nat.succ_le_succ_iff]
        refine and_congr_right fun _ => ⟨fun h i hi => ?_, fun h i hi => h (i + 1) (by omega)⟩
        cases i with
        | zero => exact hq
        | succ j => exact h j (by omega)
      · rw [if_neg hq]
        exact ⟨fun h => by omega, fun h => absurd (h.2 0 (by omega)) hq⟩

theorem spanLen_all (q : Bytes → Bool) (l : Bytes) (i : Nat) (hi : i < spanLen q l) : q (l.drop i) = true :=
  ((le_spanLen_iff q l _).1 (Nat.le_refl _)).2 i hi

theorem spanLen_stop (q : Bytes → Bool) (l : Bytes) (h : spanLen q l < l.length) :
    q (l.drop (spanLen q l)) = false := by
  apply (Bool.not_eq_true _).mp
  intro hq
  have := (le_spanLen_iff q l (spanLen q l + 1)).2 ⟨h, fun i hi => ?_⟩
  · omega
  · by_cases hi' : i < spanLen q l
    · exact spanLen_all q l i hi'
    · rwa [show i = spanLen q l by omega]

/-- a test that looks at no more than `k` bytes makes a scan with `k` bytes of lookahead -/
theorem spanLen_pd {q : Bytes → Bool} {k : Nat} (hk : 1 ≤ k)
    (hq : ∀ x s s' : Bytes, k ≤ x.length → q (x ++ s') = q (x ++ s)) : PrefixDet k id (spanLen q) := by
  intro x s s' (h : spanLen q (x ++ s) + k ≤ x.length)
  induction x with
  | nil => simp only [List.length_nil] at h; omega
  | cons b x ih =>
    simp only [List.cons_append, List.length_cons] at h ⊢
    rw [spanLen] at h
    rw [spanLen, spanLen,
      show q (b :: (x ++ s')) = q (b :: (x ++ s)) from hq (b :: x) s s' (by simp only [List.length_cons]; omega)]
    split
    · rename_i hb
      rw [if_pos hb] at h
      rw [ih (by omega)]
    · rfl

theorem spanLen_and (q1 q2 : Bytes → Bool) (l : Bytes) :
    spanLen (fun t => q1 t && q2 t) l = min (spanLen q1 l) (spanLen q2 l) := by
  induction l with
  | nil => rfl
  | cons b r ih =>
    simp only [spanLen, ih]
    cases q1 (b :: r) <;> cases q2 (b :: r) <;> simp [Nat.succ_min_succ]

/-! ### maximal munch over a byte class -/

def headIs (p : UInt8 → Bool) : Bytes → Bool
  | b :: _ => p b
  | [] => false

theorem headIs_local (p : UInt8 → Bool) (x s s' : Bytes) (h : 1 ≤ x.length) : headIs p (x ++ s') = headIs p (x ++ s) := by
  cases x with
  | nil => simp at h
  | cons b x => rfl

theorem headIs_drop (p : UInt8 → Bool) (l : Bytes) (i : Nat) (b : UInt8) (h : l[i]? = some b) :
    headIs p (l.drop i) = p b := by
  obtain ⟨hi, rfl⟩ := List.getElem?_eq_some_iff.1 h
  rw [List.drop_eq_getElem_cons hi, headIs]

theorem countWhile_eq_span (p : UInt8 → Bool) (l : Bytes) : countWhile p l = spanLen (headIs p) l := by
  induction l with
  | nil => rfl
  | cons b r ih => rw [countWhile, spanLen, ih]; rfl

theorem countWhile_le (p : UInt8 → Bool) (l : Bytes) : countWhile p l ≤ l.length :=
  countWhile_eq_span p l ▸ spanLen_le _ l

theorem countWhile_stop (p : UInt8 → Bool) (l : Bytes) (b : UInt8)
    (h : l[countWhile p l]? = some b) : p b = false := by
  have hlt := (List.getElem?_eq_some_iff.1 h).1
  rw [← headIs_drop p l _ b h, countWhile_eq_span]
  exact spanLen_stop _ l (countWhile_eq_span p l ▸ hlt)

theorem countWhile_all (p : UInt8 → Bool) (l : Bytes) (i : Nat) (hi : i < countWhile p l) (b : UInt8)
    (h : l[i]? = some b) : p b = true := by
  rw [← headIs_drop p l i b h]
  exact spanLen_all _ l i (countWhile_eq_span p l ▸ hi)

theorem countWhile_pos (p : UInt8 → Bool) (b : UInt8) (r : Bytes) (h : p b = true) :
    countWhile p (b :: r) = countWhile p r + 1 := by
  rw [countWhile]; simp [h]

theorem countWhile_zero (p : UInt8 → Bool) (b : UInt8) (r : Bytes) (h : p b = false) :
    countWhile p (b :: r) = 0 := by
  rw [countWhile]; simp [h]

theorem countWhile_pd (p : UInt8 → Bool) : PrefixDet 1 id (countWhile p) :=
  (funext (countWhile_eq_span p) : countWhile p = _) ▸ spanLen_pd (Nat.le_refl 1) (headIs_local p)

/-! ### the vocabulary of the specifications -/

/-- `n` is the length of the longest prefix of `l` that belongs to the language `L` -/
def LongestPrefixIn (L : Bytes → Prop) (l : Bytes) (n : Nat) : Prop :=
  n ≤ l.length ∧ L (l.take n) ∧ ∀ m, m ≤ l.length → L (l.take m) → m ≤ n

theorem LongestPrefixIn.le {L : Bytes → Prop} {l : Bytes} {n : Nat} (h : LongestPrefixIn L l n) : n ≤ l.length := h.1

theorem LongestPrefixIn.mem {L : Bytes → Prop} {l : Bytes} {n : Nat} (h : LongestPrefixIn L l n) : L (l.take n) :=
  h.2.1

theorem LongestPrefixIn.max {L : Bytes → Prop} {l : Bytes} {n : Nat} (h : LongestPrefixIn L l n) :
    ∀ m, m ≤ l.length → L (l.take m) → m ≤ n := h.2.2

theorem LongestPrefixIn.unique {L : Bytes → Prop} {l : Bytes} {n m : Nat}
    (h1 : LongestPrefixIn L l n) (h2 : LongestPrefixIn L l m) : n = m := by
  have a := h1.max m h2.le h2.mem
  have b := h2.max n h1.le h1.mem
  omega

def AllBytes (p : UInt8 → Bool) (w : Bytes) : Prop := ∀ b ∈ w, p b = true

def OccursAt (pat l : Bytes) (i : Nat) : Prop := pat <+: l.drop i

/-- `i` is the offset of the first occurrence of `pat` in `l` -/
def FirstOcc (pat l : Bytes) (i : Nat) : Prop := OccursAt pat l i ∧ ∀ j, j < i → ¬ OccursAt pat l j

theorem FirstOcc.occurs {pat l : Bytes} {i : Nat} (h : FirstOcc pat l i) : OccursAt pat l i := h.1

theorem FirstOcc.unique {pat l : Bytes} {i j : Nat} (h1 : FirstOcc pat l i) (h2 : FirstOcc pat l j) : i = j := by
  rcases Nat.lt_trichotomy i j with h | h | h
  · exact absurd h1.1 (h2.2 i h)
  · exact h
  · exact absurd h2.1 (h1.2 j h)

/-- the next byte (if any) does not satisfy `p` -/
def StopsAt (p : UInt8 → Bool) (rest : Bytes) : Prop := ∀ b t, rest = b :: t → p b = false

/-! ### `countWhile` against `takeWhile`, and on words of the class -/

theorem take_countWhile (p : UInt8 → Bool) (l : Bytes) : l.take (countWhile p l) = l.takeWhile p := by
  induction l with
  | nil => simp [countWhile]
  | cons b r ih =>
    unfold countWhile
    by_cases h : p b = true
    · simp [h, ih]
    · simp [h]

theorem countWhile_eq_takeWhile (p : UInt8 → Bool) (l : Bytes) : countWhile p l = (l.takeWhile p).length := by
  rw [← take_countWhile, List.length_take, Nat.min_eq_left (countWhile_le p l)]

theorem drop_countWhile (p : UInt8 → Bool) (l : Bytes) : l.drop (countWhile p l) = l.dropWhile p := by
  have h := List.take_append_drop (countWhile p l) l
  rw [take_countWhile] at h
  exact List.append_cancel_left (h.trans List.takeWhile_append_dropWhile.symm)

theorem allBytes_take_le (p : UInt8 → Bool) (l : Bytes) (m : Nat) (hm : m ≤ l.length)
    (h : AllBytes p (l.take m)) : m ≤ countWhile p l := by
  rw [countWhile_eq_span, le_spanLen_iff]
  refine ⟨hm, fun i hi => ?_⟩
  have hil : i < l.length := by omega
  rw [headIs_drop p l i l[i] (List.getElem?_eq_getElem hil)]
  exact h _ (List.mem_take_iff_getElem.2 ⟨i, by omega, rfl⟩)

theorem countWhile_longest (p : UInt8 → Bool) (l : Bytes) : LongestPrefixIn (AllBytes p) l (countWhile p l) := by
  refine ⟨countWhile_le p l, ?_, fun m hm h => allBytes_take_le p l m hm h⟩
  intro b hb
  obtain ⟨i, hi, rfl⟩ := List.getElem_of_mem hb
  simp only [List.length_take] at hi
  exact countWhile_all p l i (by omega) _ (by simp [List.getElem_take])

theorem allBytes_append_le (p : UInt8 → Bool) (x rest : Bytes) (h : AllBytes p x) :
    x.length ≤ countWhile p (x ++ rest) :=
  allBytes_take_le p (x ++ rest) x.length (by simp) (by simpa using h)

theorem countWhile_append_stop (p : UInt8 → Bool) (x rest : Bytes) (h : AllBytes p x)
    (hs : StopsAt p rest) : countWhile p (x ++ rest) = x.length := by
  induction x with
  | nil =>
    cases rest with
    | nil => simp [countWhile]
    | cons b t => simp [countWhile_zero p b t (hs b t rfl)]
  | cons a x ih =>
    rw [List.cons_append, countWhile_pos p a _ (h a (by simp)), ih (fun b hb => h b (by simp [hb]))]
    simp

theorem countWhile_of_stops (p : UInt8 → Bool) (rest : Bytes) (h : StopsAt p rest) : countWhile p rest = 0 := by
  cases rest with
  | nil => rfl
  | cons b t => exact countWhile_zero p b t (h b t rfl)

theorem span_spec (p : UInt8 → Bool) (l : Bytes) : ∃ x rest, l = x ++ rest ∧ AllBytes p x ∧ StopsAt p rest := by
  refine ⟨_, _, (List.take_append_drop (countWhile p l) l).symm, (countWhile_longest p l).mem, fun b t h => ?_⟩
  have := congrArg (·[0]?) h
  exact countWhile_stop p l b (by simpa using this)

theorem countWhile_ge_all (p : UInt8 → Bool) (x s : Bytes) (h : x.length ≤ countWhile p (x ++ s)) :
    ∀ b ∈ x, p b = true := by
  intro b hb
  obtain ⟨i, hi, rfl⟩ := List.getElem_of_mem hb
  exact countWhile_all p (x ++ s) i (by omega) _ (by simp [List.getElem?_append_left hi])

theorem countWhile_ge (p : UInt8 → Bool) (x s s' : Bytes) (h : x.length ≤ countWhile p (x ++ s)) :
    x.length ≤ countWhile p (x ++ s') :=
  allBytes_append_le p x s' (countWhile_ge_all p x s h)

/-! ### first occurrence search (`memchr`, `memmem`) -/

/-- `position(p)` scans while `p` fails -/
theorem findIdx_eq_countWhile (p : UInt8 → Bool) (l : Bytes) :
    findIdx p l =
      if countWhile (fun b => !p b) l < l.length then some (countWhile (fun b => !p b) l) else none := by
  induction l with
  | nil => rfl
  | cons b r ih =>
    rw [findIdx, countWhile, ih]
    by_cases h : p b = true
    · simp [h]
    · simp only [h, Bool.false_eq_true, if_false, Bool.not_false, if_true, List.length_cons, Nat.add_lt_add_iff_right]
      split <;> rfl

theorem findIdx_lt (p : UInt8 → Bool) (l : Bytes) (i : Nat) (h : findIdx p l = some i) : i < l.length := by
  rw [findIdx_eq_countWhile] at h
  split at h <;> cases h
  assumption

theorem findIdx_none_pd (p : UInt8 → Bool) (x s : Bytes) (h : findIdx p (x ++ s) = none) : findIdx p x = none := by
  rw [findIdx_eq_countWhile] at h ⊢
  split at h
  · cases h
  · rename_i hge
    have := countWhile_ge (fun b => !p b) x s [] (by simp only [List.length_append] at hge; omega)
    rw [List.append_nil] at this
    rw [if_neg (by omega)]

theorem findIdx_append_stop (p : UInt8 → Bool) (x : Bytes) (c : UInt8) (rest : Bytes)
    (hx : AllBytes (fun b => !p b) x) (hc : p c = true) : findIdx p (x ++ c :: rest) = some x.length := by
  rw [findIdx_eq_countWhile, countWhile_append_stop _ x _ hx (fun b t e => by cases e; simp [hc]), if_pos (by simp)]

theorem findIdx_none_of_all (p : UInt8 → Bool) (x : Bytes) (hx : AllBytes (fun b => !p b) x) :
    findIdx p x = none := by
  have := allBytes_append_le _ x [] hx
  rw [List.append_nil] at this
  rw [findIdx_eq_countWhile, if_neg (by omega)]

theorem findByte_eq_findSub (c : UInt8) (l : Bytes) : findByte c l = findSub [c] l := by
  induction l with
  | nil => simp [findByte, findSub]
  | cons b r ih =>
    unfold findByte findSub
    rw [ih]
    by_cases h : b = c
    · subst h; simp [List.isPrefixOf]
    · have : (c == b) = false := by simp; exact fun h' => h h'.symm
      simp [List.isPrefixOf, h, this]

theorem isPrefixOf_append_of_le (pat x s : Bytes) (h : pat.length ≤ x.length) :
    pat.isPrefixOf (x ++ s) = pat.isPrefixOf x := by
  rw [Bool.eq_iff_iff, List.isPrefixOf_iff_prefix, List.isPrefixOf_iff_prefix]
  exact ⟨fun hp => List.prefix_of_prefix_length_le hp (List.prefix_append x s) h,
    fun hp => hp.trans (List.prefix_append x s)⟩

/-- `memmem` scans while the pattern does not start here -/
theorem findSub_eq_span (pat : Bytes) (hp : pat ≠ []) (l : Bytes) :
    findSub pat l =
      if spanLen (fun t => !pat.isPrefixOf t) l < l.length then some (spanLen (fun t => !pat.isPrefixOf t) l) else none := by
  induction l with
  | nil => cases pat with
    | nil => exact absurd rfl hp
    | cons a p => rfl
  | cons b r ih =>
    rw [findSub, spanLen, ih]
    by_cases h : pat.isPrefixOf (b :: r) = true
    · simp [h]
    · simp only [h, Bool.false_eq_true, if_false, Bool.not_false, if_true, List.length_cons, Nat.add_lt_add_iff_right]
      split <;> rfl

theorem occursAt_iff (pat l : Bytes) (j : Nat) : OccursAt pat l j ↔ ¬ ((!pat.isPrefixOf (l.drop j)) = true) := by
  simp [OccursAt, List.isPrefixOf_iff_prefix]

theorem occursAt_lt {pat l : Bytes} {j : Nat} (hp : pat ≠ []) (h : OccursAt pat l j) : j < l.length := by
  have := h.length_le
  have hpos : 1 ≤ pat.length := by cases pat <;> simp_all
  simp only [List.length_drop] at this
  omega

theorem findSub_some_iff (pat l : Bytes) (hp : pat ≠ []) (i : Nat) :
    findSub pat l = some i ↔ FirstOcc pat l i := by
  rw [findSub_eq_span pat hp]
  constructor
  · intro h
    split at h
    · rename_i hlt
      cases h
      exact ⟨(occursAt_iff _ _ _).2 (by rw [spanLen_stop _ l hlt]; simp),
        fun j hj ho => (occursAt_iff _ _ j).1 ho (spanLen_all _ l j hj)⟩
    · cases h
  · rintro ⟨ho, hmin⟩
    have h1 : i ≤ spanLen (fun t => !pat.isPrefixOf t) l :=
      (le_spanLen_iff _ l i).2
        ⟨Nat.le_of_lt (occursAt_lt hp ho),
          fun j hj => Decidable.not_not.1 (fun hn => hmin j hj ((occursAt_iff _ _ j).2 hn))⟩
    have h2 : ¬ i + 1 ≤ spanLen (fun t => !pat.isPrefixOf t) l :=
      fun h => (occursAt_iff _ _ i).1 ho (spanLen_all _ l i h)
    rw [show spanLen (fun t => !pat.isPrefixOf t) l = i by omega, if_pos (occursAt_lt hp ho)]

theorem findSub_none_iff (pat l : Bytes) (hp : pat ≠ []) :
    findSub pat l = none ↔ ∀ j, ¬ OccursAt pat l j := by
  rw [findSub_eq_span pat hp]
  constructor
  · intro h j ho
    split at h
    · cases h
    · exact (occursAt_iff _ _ j).1 ho
        (spanLen_all (fun t => !pat.isPrefixOf t) l j (by have := occursAt_lt hp ho; omega))
  · intro h
    rw [if_neg]
    exact fun hlt => h _ ((occursAt_iff _ _ _).2 (by rw [spanLen_stop _ l hlt]; simp))

theorem occursAt_head (c : UInt8) (p l : Bytes) (j : Nat) (h : OccursAt (c :: p) l j) : l[j]? = some c := by
  obtain ⟨t, ht⟩ := h
  have : (l.drop j)[0]? = some c := by rw [← ht]; rfl
  simpa using this

theorem occursAt_drop (pat l : Bytes) (n i : Nat) : OccursAt pat (l.drop n) i ↔ OccursAt pat l (n + i) := by
  unfold OccursAt
  rw [List.drop_drop]

/-- behind a stretch without an occurrence, every occurrence is one of the rest of the text -/
theorem OccursAt.behind {pat l : Bytes} {n j : Nat} (h : ∀ j, j < n → ¬ OccursAt pat l j) (hc : OccursAt pat l j) :
    n ≤ j ∧ OccursAt pat (l.drop n) (j - n) := by
  have hjn : n ≤ j := Nat.le_of_not_lt fun hj => h j hj hc
  exact ⟨hjn, (occursAt_drop ..).2 (by rwa [Nat.add_sub_cancel' hjn])⟩

theorem firstOcc_drop {pat l : Bytes} {n i : Nat} (h : ∀ j, j < n → ¬ OccursAt pat l j)
    (hf : FirstOcc pat (l.drop n) i) : FirstOcc pat l (n + i) :=
  ⟨(occursAt_drop ..).1 hf.1, fun j hj hc => hf.2 (j - n) (by have := (OccursAt.behind h hc).1; omega) (OccursAt.behind h hc).2⟩

theorem noOcc_drop {pat l : Bytes} {n : Nat} (h : ∀ j, j < n → ¬ OccursAt pat l j)
    (hall : ∀ j, ¬ OccursAt pat (l.drop n) j) : ∀ j, ¬ OccursAt pat l j :=
  fun _ hc => hall _ (OccursAt.behind h hc).2

/-! ### the opening bytes of a text, a prefix test, an occurrence and a first occurrence inside `x` do not depend on
  what follows `x` -/

/-- `x ++ s` opens with `a` and `x` is at least as long as `a`: then `x` opens with `a` … -/
theorem append_split {a b x s : Bytes} (h : a ++ b = x ++ s) (hl : a.length ≤ x.length) :
    ∃ x', x = a ++ x' ∧ b = x' ++ s := by
  rcases List.append_eq_append_iff.1 h with ⟨a', rfl, rfl⟩ | ⟨c', rfl, rfl⟩
  · exact ⟨a', rfl, rfl⟩
  · have : c' = [] := by
      simp only [List.length_append] at hl
      exact List.eq_nil_of_length_eq_zero (by omega)
    subst this
    exact ⟨[], by simp, by simp⟩

/-- … and when `x` is longer than `a`, what follows `a` starts with the next byte of `x` -/
theorem append_cut {x s a r : Bytes} {n : Nat} (h : x ++ s = a ++ r) (ha : a.length ≤ n) (hn : n + 1 ≤ x.length) :
    ∃ c x', x = a ++ c :: x' ∧ r = c :: (x' ++ s) := by
  obtain ⟨x', rfl, rfl⟩ := append_split h.symm (by omega)
  cases x' with
  | nil => simp only [List.append_nil] at hn; omega
  | cons c x' => exact ⟨c, x', rfl, rfl⟩

theorem isPrefix_local {p x s s' : Bytes} (h : p.length ≤ x.length) (hp : p <+: x ++ s) : p <+: x ++ s' := by
  rw [← List.isPrefixOf_iff_prefix] at hp ⊢
  rwa [isPrefixOf_append_of_le p x s' h, ← isPrefixOf_append_of_le p x s h]

theorem OccursAt.local {pat x s s' : Bytes} {i : Nat} (hi : i + pat.length ≤ x.length) (h : OccursAt pat (x ++ s) i) :
    OccursAt pat (x ++ s') i := by
  unfold OccursAt at h ⊢
  rw [List.drop_append_of_le_length (by omega)] at h ⊢
  exact isPrefix_local (by simp only [List.length_drop]; omega) h

theorem FirstOcc.local {pat x s s' : Bytes} {i : Nat} (hi : i + pat.length ≤ x.length) (h : FirstOcc pat (x ++ s) i) :
    FirstOcc pat (x ++ s') i :=
  ⟨h.1.local hi, fun j hj hc => h.2 j hj (hc.local (by omega))⟩

end Pasfmt
