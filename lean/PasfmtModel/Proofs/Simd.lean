/-
  The AVX2 identifier routine (32-byte chunks, lane masks with signed compares, bail-out to the scalar
  routine on a non-ASCII byte) returns the same offset as the scalar routine, so the token stream does
  not depend on the routine selected at run time.
-/
import PasfmtModel.Proofs.Keywords
import PasfmtModel.Proofs.ScanLemmas

namespace Pasfmt

/-- the lane predicate computed with signed compares equals the scalar byte class on ASCII bytes
    (checked for all 256 byte values) -/
theorem laneIdent_eq (b : UInt8) (h : b < 0x80) : laneIdent b = isIdentAscii b := by
  revert b
  exact forall_uint8 (by decide +kernel)

/-- a byte `< 0x80` cannot start `E3 80 80`, so `identLen` steps over it like the scalar class -/
theorem identLen_cons_ascii (b : UInt8) (r : Bytes) (h : b < 0x80) :
    identLen (b :: r) = if isIdentAscii b then identLen r + 1 else 0 := by
  have hne : b ≠ 0xE3 := by intro hb; subst hb; exact absurd h (by decide)
  rw [identLen.eq_3]
  · have : ¬ b ≥ 0x80 := by simpa using h
    simp [this]
  · intro r' hb; exact absurd hb hne

/-- on an all-ASCII prefix `c`, `identLen` agrees with counting lane bits -/
theorem identLen_ascii_chunk (c rest : Bytes) (hc : ∀ b ∈ c, b < 0x80) :
    identLen (c ++ rest) =
      if countWhile laneIdent c < c.length then countWhile laneIdent c
      else c.length + identLen rest := by
  induction c with
  | nil => simp [countWhile]
  | cons b r ih =>
    have hb : b < 0x80 := hc b (by simp)
    have hr : ∀ x ∈ r, x < 0x80 := fun x hx => hc x (by simp [hx])
    rw [List.cons_append, identLen_cons_ascii _ _ hb, countWhile, laneIdent_eq b hb]
    by_cases hi : isIdentAscii b = true
    · simp only [hi, if_true, List.length_cons]
      rw [ih hr]
      by_cases hlt : countWhile laneIdent r < r.length
      · simp [hlt]
      · simp [hlt]; omega
    · simp [hi]

/-- `find_identifier_end_avx2` and `find_identifier_end_generic` return the same offset on
    every byte string, for every chunk count. -/
theorem identLenSimd_eq (fuel : Nat) (l : Bytes) : identLenSimd fuel l = identLen l := by
  induction fuel generalizing l with
  | zero => rfl
  | succ n ih =>
    unfold identLenSimd
    split
    · rename_i hlen
      dsimp only
      split
      · rfl
      · rename_i hany
        have hascii : ∀ b ∈ l.take simdChunkBytes, b < 0x80 := by
          simpa [List.any_eq_false] using hany
        have hsplit := identLen_ascii_chunk (l.take simdChunkBytes) (l.drop simdChunkBytes) hascii
        rw [List.take_append_drop] at hsplit
        have hl : (l.take simdChunkBytes).length = simdChunkBytes := by
          rw [List.length_take]; omega
        rw [hl] at hsplit
        split
        · rename_i hlt; rw [hsplit]; simp [hlt]
        · rename_i hlt; rw [hsplit, ih]; simp [hlt]
    · rfl


theorem idLen_eq (simd : Bool) (l : Bytes) :
    (if simd then identLenSimd (l.length + 1) l else identLen l) = identLen l := by
  cases simd <;> simp [identLenSimd_eq]

theorem runSub_simd (st : LexState) (sub : SubLexer) (b : UInt8) (r : Bytes) (nlb : Bool)
    (trimF : Unit → Nat) :
    runSub st sub b r nlb trimF true = runSub st sub b r nlb trimF false := by
  unfold runSub
  simp only [identLenSimd_eq, if_true, Bool.false_eq_true, if_false]

theorem lexOne_simd (st : LexState) (inp : Bytes) : lexOne true st inp = lexOne false st inp := by
  unfold lexOne
  simp only [runSub_simd]

/-- whichever identifier routine is selected at run time, the token stream is the same -/
theorem lexWith_simd (s : Bytes) : lexWith true s = lexWith false s := by
  rw [lexWith, lexWith, lexFuel_eq_by, lexFuel_eq_by, funext fun st => funext (lexOne_simd st)]

end Pasfmt
