/-
  Facts about core's lists that core lacks and more than one area needs: the element at a position of `l ++ [a]`;
  `List.mapM` into `Option` (what a successful run says of the elements, and when it fails).
-/

namespace Pasfmt

theorem getElem?_snoc {α : Type} {as : List α} {a x : α} {i : Nat} (h : (as ++ [a])[i]? = some x) :
    as[i]? = some x ∨ (i = as.length ∧ x = a) := by
  rcases Nat.lt_or_ge i as.length with h1 | h1
  · rw [List.getElem?_append_left h1] at h; exact Or.inl h
  · have hi := (List.getElem?_eq_some_iff.1 h).1
    simp only [List.length_append, List.length_cons, List.length_nil] at hi
    have e : i = as.length := by omega
    subst e
    simp at h
    exact Or.inr ⟨rfl, h.symm⟩

theorem mapM_snoc {α β : Type} (f : α → Option β) (xs : List α) (y : α) (out : List β) :
    (xs ++ [y]).mapM f = some out ↔ ∃ vs v, xs.mapM f = some vs ∧ f y = some v ∧ out = vs ++ [v] := by
  rw [List.mapM_append]
  cases xs.mapM f <;> cases hy : f y <;> simp [List.mapM_cons, hy, eq_comm]

/-- induction along a successful `mapM` -/
theorem mapM_some_rec {α β : Type} {f : α → Option β} {P : List α → List β → Prop} (hnil : P [] [])
    (hcons : ∀ x y xs ys, f x = some y → xs.mapM f = some ys → P xs ys → P (x :: xs) (y :: ys))
    {xs : List α} {ys : List β} (h : xs.mapM f = some ys) : P xs ys := by
  induction xs generalizing ys with
  | nil => simp at h; subst h; exact hnil
  | cons x r ih =>
    rw [List.mapM_cons] at h
    cases hx : f x with
    | none => simp [hx] at h
    | some w =>
      cases hr : r.mapM f with
      | none => simp [hx, hr] at h
      | some ys' =>
        simp [hx, hr] at h; subst h
        exact hcons x w r ys' hx hr (ih hr)

theorem mapM_some_mem {α β : Type} {f : α → Option β} {xs : List α} {ys : List β} (h : xs.mapM f = some ys) :
    ∀ y ∈ ys, ∃ x ∈ xs, f x = some y := by
  refine mapM_some_rec (P := fun xs ys => ∀ y ∈ ys, ∃ x ∈ xs, f x = some y) (by simp) ?_ h
  intro x y xs ys hx _ ih z hz
  rcases List.mem_cons.1 hz with rfl | hz
  · exact ⟨x, by simp, hx⟩
  · obtain ⟨l, hl, hlv⟩ := ih z hz
    exact ⟨l, by simp [hl], hlv⟩

theorem mapM_none {α β : Type} {f : α → Option β} {l : List α} (h : ∃ x ∈ l, f x = none) : l.mapM f = none := by
  induction l with
  | nil => simp at h
  | cons a r ih =>
    rw [List.mapM_cons]
    cases ha : f a with
    | none => rfl
    | some v =>
      obtain ⟨x, hx, hv⟩ := h
      rcases List.mem_cons.1 hx with rfl | hx
      · rw [ha] at hv; cases hv
      · simp [ih ⟨x, hx, hv⟩]

end Pasfmt
