/-
  `All2 R as bs`: the two lists have the same length and `R` holds of the elements at the same place
  (Mathlib's `List.Forall₂`, which core lacks), with the lemmas about it the development uses.
-/
import PasfmtModel.Model.Bytes

namespace Pasfmt

inductive All2 {α β : Type} (R : α → β → Prop) : List α → List β → Prop
  | nil : All2 R [] []
  | cons {a b as bs} : R a b → All2 R as bs → All2 R (a :: as) (b :: bs)

theorem All2.flatMap_eq {α β : Type} {R : α → β → Prop} {f : α → Bytes} {g : β → Bytes}
    {as : List α} {bs : List β} (h : All2 R as bs) (hfg : ∀ a b, R a b → f a = g b) :
    as.flatMap f = bs.flatMap g := by
  induction h with
  | nil => rfl
  | cons hab _ ih => simp only [List.flatMap_cons, hfg _ _ hab, ih]

theorem All2.imp {α β : Type} {R S : α → β → Prop} {as : List α} {bs : List β}
    (h : All2 R as bs) (hi : ∀ a b, R a b → S a b) : All2 S as bs := by
  induction h with
  | nil => exact .nil
  | cons hab _ ih => exact .cons (hi _ _ hab) ih

theorem All2.trans {α β γ : Type} {R : α → β → Prop} {S : β → γ → Prop} {T : α → γ → Prop}
    {as : List α} {bs : List β} {cs : List γ}
    (h1 : All2 R as bs) (h2 : All2 S bs cs) (ht : ∀ a b c, R a b → S b c → T a c) : All2 T as cs := by
  induction h1 generalizing cs with
  | nil => cases h2; exact .nil
  | cons hab _ ih =>
    cases h2 with
    | cons hbc h2' => exact .cons (ht _ _ _ hab hbc) (ih h2')

theorem All2.refl' {α : Type} {R : α → α → Prop} (h : ∀ a, R a a) : ∀ (as : List α), All2 R as as
  | [] => .nil
  | a :: r => .cons (h a) (All2.refl' h r)

theorem All2.and {α β : Type} {R1 R2 : α → β → Prop} {as : List α} {bs : List β}
    (h1 : All2 R1 as bs) (h2 : All2 R2 as bs) : All2 (fun a b => R1 a b ∧ R2 a b) as bs := by
  induction h1 with
  | nil => exact .nil
  | cons hr _ ih =>
    cases h2 with
    | cons hr2 ht2 => exact .cons ⟨hr, hr2⟩ (ih ht2)

theorem all2_length {α β : Type} {R : α → β → Prop} {as : List α} {bs : List β} (h : All2 R as bs) :
    as.length = bs.length := by
  induction h with
  | nil => rfl
  | cons _ _ ih => simp [ih]

/-- from the positions: equal lengths, and `R` at every position -/
theorem All2.of_getElem? {α β : Type} {R : α → β → Prop} : ∀ {as : List α} {bs : List β}, bs.length = as.length →
    (∀ (j : Nat) (a : α), as[j]? = some a → ∃ b, bs[j]? = some b ∧ R a b) → All2 R as bs
  | [], [], _, _ => .nil
  | [], _ :: _, hl, _ | _ :: _, [], hl, _ => by simp at hl
  | a :: as, b :: bs, hl, h => by
    obtain ⟨b', hb, hr⟩ := h 0 a rfl
    cases hb
    exact .cons hr (All2.of_getElem? (by simpa using hl) fun j x hx => h (j + 1) x hx)

theorem all2_singleton_right {α β : Type} {R : α → β → Prop} {as : List α} {b : β} (h : All2 R as [b]) :
    ∃ a, as = [a] ∧ R a b := by
  cases h with
  | cons hab hrest => cases hrest; exact ⟨_, rfl, hab⟩

theorem all2_reverse {α β : Type} {R : α → β → Prop} {as : List α} {bs : List β} (h : All2 R as bs) :
    All2 R as.reverse bs.reverse := by
  have app : ∀ {as1 : List α} {bs1 : List β} {as2 : List α} {bs2 : List β}, All2 R as1 bs1 → All2 R as2 bs2 → All2 R (as1 ++ as2) (bs1 ++ bs2) := by
    intro as1 bs1 as2 bs2 h1 h2
    induction h1 with
    | nil => exact h2
    | cons hab _ ih => exact .cons hab ih
  induction h with
  | nil => exact .nil
  | cons hab _ ih =>
    rw [List.reverse_cons, List.reverse_cons]
    exact app ih (.cons hab .nil)

theorem all2_getElem? {α β : Type} {R : α → β → Prop} {as : List α} {bs : List β} (h : All2 R as bs) {j : Nat} {a : α}
    (ha : as[j]? = some a) : ∃ b, bs[j]? = some b ∧ R a b := by
  induction h generalizing j with
  | nil => simp at ha
  | cons hr _ ih =>
    cases j with
    | zero => simp at ha; subst ha; exact ⟨_, by simp, hr⟩
    | succ n => simp at ha; simpa using ih ha

theorem all2_left {α β : Type} {R : α → β → Prop} {as : List α} {bs : List β} (h : All2 R as bs) :
    ∀ a ∈ as, ∃ b ∈ bs, R a b := fun _ ha =>
  let ⟨_, hj⟩ := List.getElem?_of_mem ha
  let ⟨b, hb, r⟩ := all2_getElem? h hj
  ⟨b, List.mem_of_getElem? hb, r⟩

theorem all2_mem_right {α β : Type} {R : α → β → Prop} {as : List α} {bs : List β} (h : All2 R as bs) :
    ∀ b ∈ bs, ∃ a ∈ as, R a b := by
  induction h with
  | nil => intro b hb; cases hb
  | cons hab _ ih =>
    intro b hb
    rcases List.mem_cons.1 hb with rfl | hb'
    · exact ⟨_, List.mem_cons_self, hab⟩
    · obtain ⟨a, ha, hr⟩ := ih b hb'
      exact ⟨a, List.mem_cons_of_mem _ ha, hr⟩

end Pasfmt
