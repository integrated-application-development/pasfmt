/-
  The multi-line string re-indenter only changes blanks: for text without a dangling `E3` byte (in particular
  well-formed UTF-8) `mlsRewrite` keeps the non-blank characters exactly, letter case included (`mlsRewrite_simx`,
  `SimX`); `mlsRewrite_sim` is the form up to ASCII letter case (`Sim`) that the wrapper frame (`WrapRel`) asks for.
  This derives the content clause of the wrapper frame from the exact content model `wrapContentB`, which the
  correspondence compares on every case.
-/
import PasfmtModel.Proofs.PipelineC01
import PasfmtModel.Model.Contracts
import PasfmtModel.Proofs.MlsMore

namespace Pasfmt

theorem allLe20_ascii {g : Bytes} (h : AllLe20 g) : AllAscii g :=
  fun b hb => UInt8.lt_of_le_of_lt (h b hb) (by decide)

theorem allLe20_nd {g : Bytes} (h : AllLe20 g) : nd g = true := nd_ascii g (allLe20_ascii h)

theorem blankUnits_nd {w : Bytes} (h : BlankUnits w) : nd w = true := by
  induction h with
  | nil => rfl
  | blank b w hb _ ih =>
    have : b ≠ 0xE3 := by intro e; subst e; exact absurd hb (by decide)
    rw [nd_cons_ne _ _ this]; exact ih
  | wide w _ ih => simp [nd, isCont, ih]

/-- `stripBlank` can be taken piecewise after `p` (`nd_closed`), and it leaves nothing of `w` -/
theorem prefix_blankUnits_blank {w : Bytes} (hw : BlankUnits w) (p : Bytes) (hp : p <+: w)
    (hnd : nd p = true) : stripBlank p = [] := by
  obtain ⟨t, rfl⟩ := hp
  have := hw.gap.blankOnly
  rw [BlankOnly, nd_closed p hnd t] at this
  exact (List.append_eq_nil_iff.1 this).1

theorem lineValue_sim {base l v : Bytes} (hbase : BlankUnits base) (hl : nd l = true)
    (h : MlsMore.lineValue base l = some v) : nd v = true ∧ stripBlank v = stripBlank l := by
  rcases MlsMore.lineValue_cases h with rfl | ⟨hpre, rfl⟩
  · rw [nd_append base _ (blankUnits_nd hbase)] at hl
    exact ⟨hl, (hbase.gap _).symm⟩
  · -- the line is a prefix of the closing indentation: it is blank
    exact ⟨rfl, (prefix_blankUnits_blank hbase l hpre hl).symm⟩

theorem mapM_lineValue_sim {base : Bytes} (hbase : BlankUnits base) {ls vs : List Bytes}
    (h : ls.mapM (MlsMore.lineValue base) = some vs) :
    (∀ l ∈ ls, nd l = true) → (∀ v ∈ vs, nd v = true) ∧ vs.map stripBlank = ls.map stripBlank := by
  refine mapM_some_rec
    (P := fun ls vs => (∀ l ∈ ls, nd l = true) → (∀ v ∈ vs, nd v = true) ∧ vs.map stripBlank = ls.map stripBlank)
    (fun _ => ⟨by simp, rfl⟩) ?_ h
  intro l v ls vs hlv _ ih hnd
  obtain ⟨h1, h2⟩ := lineValue_sim hbase (hnd l (by simp)) hlv
  obtain ⟨ih1, ih2⟩ := ih (fun x hx => hnd x (by simp [hx]))
  exact ⟨by simpa [h1] using ih1, by simp [h2, ih2]⟩

/-- text without a dangling `E3` byte and its non-blank part: a relation that respects concatenation -/
theorem strip_concat : Concat fun a b => nd a = true ∧ stripBlank a = b :=
  ⟨⟨rfl, rfl⟩, fun ⟨ha, ea⟩ ⟨hb, eb⟩ => ⟨by rw [nd_append _ _ ha]; exact hb, by rw [nd_closed _ ha, ea, eb]⟩⟩

theorem lineText_strip {S : Settings} (hS : BlankSettings S) (ind cont : Nat) {v : Bytes} (hv : nd v = true) :
    nd (MlsMore.lineText S ind cont v) = true ∧ stripBlank (MlsMore.lineText S ind cont v) = stripBlank v := by
  have hpad : AllLe20 (MlsMore.newIndent S ind cont) := MlsMore.forall_mem_newIndent hS.ind hS.cont ind cont
  rcases MlsMore.lineText_cases S ind cont v with ⟨rfl, e⟩ | ⟨_, e⟩ <;> rw [e]
  · exact ⟨rfl, rfl⟩
  · exact ⟨by rw [nd_append _ _ (allLe20_nd hpad)]; exact hv, Gap.of_allLe20 hpad _⟩

/-- the non-blank text of a text is that of its lines -/
theorem Lines.strip {s : Bytes} {ls : List Bytes} (h : Lines s ls) (hnd : nd s = true) :
    (∀ l ∈ ls, nd l = true) ∧ (ls.map stripBlank).flatten = stripBlank s := by
  induction h with
  | nil => simp [stripBlank]
  | last _ _ => simp [hnd]
  | @cons l t rest ls _ ht _ ih =>
    have hta := allLe20_ascii ht.le20
    obtain ⟨c, t', rfl⟩ : ∃ c t', t = c :: t' := by cases ht <;> exact ⟨_, _, rfl⟩
    obtain ⟨hl, hr⟩ := nd_split_ascii l c (t' ++ rest) (hta c (by simp)) (by simpa using hnd)
    have ht' : AllLe20 t' := fun b hb => ht.le20 b (by simp [hb])
    rw [nd_append _ _ (allLe20_nd ht')] at hr
    obtain ⟨ih1, ih2⟩ := ih hr
    refine ⟨fun x hx => ?_, ?_⟩
    · rcases List.mem_cons.1 hx with rfl | hx
      · exact hl
      · exact ih1 x hx
    · rw [List.map_cons, List.flatten_cons, ih2, nd_closed _ hl, Gap.of_allLe20 ht.le20]

theorem linesCustom_nd {content : Bytes} (hnd : nd content = true) :
    (∀ l ∈ linesCustom content, nd l = true) ∧ ((linesCustom content).map stripBlank).flatten = stripBlank content := by
  obtain ⟨h1, h2⟩ := (lines_refLines content).strip hnd
  refine ⟨fun l hl => (mem_linesCustom hl).elim (h1 l) fun e => e ▸ rfl, ?_⟩
  · rw [linesCustom_eq, List.map_append, List.flatten_append, h2]
    split <;> simp [stripBlank]

/-- **The re-indenter only changes blanks** (letter case included: `SimX`). -/
theorem mlsRewrite_simx (S : Settings) (hS : BlankSettings S) (content : Bytes) (ind cont : Nat) (c' : Bytes)
    (h : mlsRewrite S content ind cont = some c') : SimX content c' := by
  intro hnd
  obtain ⟨first, rest, vs, hlc, hvs, rfl, _, _⟩ := MlsMore.mlsRewrite_some h
  obtain ⟨hlnd, hlstrip⟩ := linesCustom_nd hnd
  rw [hlc] at hlnd hlstrip
  have hfirst := hlnd first (by simp)
  obtain ⟨hvnd, hvstrip⟩ := mapM_lineValue_sim (blankUnits_leadingWs (lastLineOf content)) hvs
    (fun l hl => hlnd l (by simp [hl]))
  obtain ⟨hRnd, hRs⟩ := strip_concat.joinNl (nl' := []) ⟨allLe20_nd hS.nl, (Gap.of_allLe20 hS.nl).blankOnly⟩
    ⟨hfirst, rfl⟩ (MlsMore.lineText S ind cont) stripBlank vs fun v hv => lineText_strip hS ind cont (hvnd v hv)
  refine ⟨hRnd, ?_⟩
  rw [hRs, joinNl_empty, hvstrip, ← hlstrip]
  rfl

/-- the same up to ASCII letter case, the form in which the wrapper frame states it -/
theorem mlsRewrite_sim (S : Settings) (hS : BlankSettings S) (content : Bytes) (ind cont : Nat) (c' : Bytes)
    (h : mlsRewrite S content ind cont = some c') : Sim content c' :=
  (mlsRewrite_simx S hS content ind cont c' h).sim

theorem mlsTok_sim (S : Settings) (hS : BlankSettings S) (fm : Bool) (t : FTok) (ind cont : Nat) :
    Sim t.tok.content (mlsTok S fm t ind cont) := by
  unfold mlsTok
  split
  · cases hr : mlsRewrite S t.tok.content ind cont with
    | none => simpa using Sim.refl _
    | some c' => simpa using mlsRewrite_sim S hS _ _ _ _ hr
  · exact Sim.refl _

/-- the exact content model evaluated on every case implies the content clause of the frame -/
theorem wrapContentB_sim (cfg : Config) (ft ft' : FT) (h : wrapContentB cfg ft ft' = true) :
    All2 (fun t t' => Sim t.tok.content t'.tok.content) ft ft' := by
  refine all2B_sound (fun t t' h => ?_) h
  simp only [Bool.and_eq_true, beq_iff_eq] at h
  rw [h.2]
  exact mlsTok_sim _ (settings_blank cfg) _ _ _ _

/-- the exact contract implies the frame used by C01 -/
theorem WrapExact.frame {O : Oracles} (h : WrapExact O) : WrapFrame O := by
  intro cfg lines ft
  obtain ⟨h1, h2⟩ := h cfg lines ft
  exact All2.and (wrapWsB_sound _ _ h1) (wrapContentB_sim cfg _ _ h2)

end Pasfmt
