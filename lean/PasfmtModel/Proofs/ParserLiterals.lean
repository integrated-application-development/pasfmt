/-
  The parser model neither retypes nor makes a text literal: the results about `parse_file`.

  Every function of the model keeps the text-literal types (`Proofs/ParserLiteralsRules.lean`: the invariant;
  `Proofs/ParserFlows.lean`: `allBuilt`, `Flows.kinds`), so do `parse`, the passes, the cementing of words and the
  consolidators.  Namespace `ParserLitConv`: the converse halves of the results, said on their own.
-/
import PasfmtModel.Proofs.ParserFlows
import PasfmtModel.Proofs.ConsolidatorsGen
import PasfmtModel.Proofs.Run

namespace Pasfmt.ParserLit

open PFull
open Parents (Reads Built allBuilt)

/-- The traversal of the literal invariant as it was called with an induction hypothesis `ih` (handed over through a
    class `HasAllK`) and a fact `hjp` about a join point.  The traversal is `flow` now (`Proofs/ParserFlows.lean`), of
    which `kgood_struct`, `kgood_leaf`, `kgood_fallback` are steps, and `HasAllK` is gone: the macro is unused and cannot
    be called. -/
macro "kgoodj" ih:ident hjp:ident : tactic =>
  `(tactic| (haveI : HasAllK _ := ⟨$ih⟩
             repeat' (first | (with_reducible exact $hjp _) | kgood_struct | kgood_leaf | dsimp only | split | kgood_fallback)))

theorem kgood_parse (fuel : Nat) : Kinds none (parse fuel) :=
  have := allBuilt fuel
  .bind Built.kinds fun _ => .bind Built.kinds fun _ => .bind kinds_nextToken fun _ =>
    .bind (frame_setLogicalLineType _).kinds fun _ => Built.kinds

theorem cementPass_sameLit (pass : List Nat) (kinds kinds' : Array RawKind) (h : cementPass kinds pass = some kinds') :
    SameLit kinds kinds' := by
  induction pass generalizing kinds with
  | nil => simp [cementPass] at h; subst h; exact SameLit.refl _
  | cons t rest ih =>
    unfold cementPass at h
    split at h
    · simp at h
    · rename_i k hk
      exact (sameLit_set kinds t .rIdentifier (NotLit.of_eq hk rfl) rfl).trans (ih _ h)
    · exact ih _ h

/-- **the parser model neither retypes nor makes a text literal**: the tokens typed `TextLiteral(k)` in the answer of
    `parse_file` are those that entered it with that type -/
theorem parseFileFull_sameLit (toks : List (RawKind × Bool)) (o : ParseFullOut) (h : parseFileFull toks = some o)
    (i : Nat) (k : TextLiteralKind) :
    (toks.map (·.1))[i]? = some (.rTextLiteral k) ↔ o.kinds[i]? = some (.rTextLiteral k) := by
  obtain ⟨kinds, acc, hr, _, _, hk, _⟩ := parseFileFull_spec toks o h
  obtain ⟨_, _, hq, _, _⟩ := runPasses_inv _ _ _ (fun _ K _ _ => SameLit (toks.map Prod.fst).toArray K)
    (fun pass _ K _ _ s K2 hs _ _ _ hc hq =>
      (hq.trans ((kgood_parse _).run hs)).trans (cementPass_sameLit pass s.kinds K2 hc))
    _ _ _ _ _ _ _ (SameLit.refl _) hr
  rw [hk, Array.getElem?_toList, ← List.getElem?_toArray]
  exact hq i k

theorem toTokenType_eq_textLiteral (x : RawKind) (k : TextLiteralKind) :
    x.toTokenType = .tTextLiteral k ↔ x = .rTextLiteral k := by
  constructor
  · intro h
    cases x <;> simp [RawTokenType.toTokenType] at h
    subst h; rfl
  · rintro rfl; rfl

theorem genericsConsolidate_textLiteral (kinds : List Kind) (i : Nat) (k : TextLiteralKind) :
    (genericsConsolidate kinds)[i]? = some (.tTextLiteral k) ↔ kinds[i]? = some (.tTextLiteral k) := by
  obtain ⟨hlen, hrel⟩ := genericsConsolidate_frame kinds
  rcases Nat.lt_or_ge i kinds.length with hlt | hge
  · have hlt2 : i < (genericsConsolidate kinds).length := by rw [hlen]; exact hlt
    rw [List.getElem?_eq_getElem hlt, List.getElem?_eq_getElem hlt2, Option.some.injEq, Option.some.injEq]
    rcases hrel i hlt hlt2 with hr | ⟨c, h1, h2⟩ | ⟨c, h1, h2⟩
    · rw [hr]
    · rw [h1, h2]; constructor <;> (intro h; cases h)
    · rw [h1, h2]; constructor <;> (intro h; cases h)
  · rw [List.getElem?_eq_none hge, List.getElem?_eq_none (by rw [hlen]; exact hge)]

/-- **parser and consolidators neither retype nor make a text literal**: in the kinds the formatter works with, the
    tokens typed `TextLiteral(k)` are those the scanner typed `TextLiteral(k)` -/
theorem parseAndConsolidate_sameLit (raw : List RawTok) (po : ParserOut) (h : parseAndConsolidate raw = some po)
    (i : Nat) (k : TextLiteralKind) :
    po.kinds[i]? = some (.tTextLiteral k) ↔ ∃ r, raw[i]? = some r ∧ r.kind = .rTextLiteral k := by
  obtain ⟨o, ho, rfl⟩ := parseAndConsolidate_eq_some.1 h
  have h1 := parseFileFull_sameLit _ o ho i k
  rw [maskFlags_fst] at h1
  show (genericsConsolidate (o.kinds.map (·.toTokenType)))[i]? = some (.tTextLiteral k) ↔ _
  rw [genericsConsolidate_textLiteral]
  simp only [List.getElem?_map, Option.map_eq_some_iff, toTokenType_eq_textLiteral, exists_eq_right, ← h1,
    List.map_map, Function.comp_def]

/-! The forward half of `SameLit` as a predicate on computations (`KeepLit`: a text literal stays one) and its rule for
    `liftOpt`, stated for their own sake: the results above are about `SameLit`. -/

def KeepLit (K K' : Array RawKind) : Prop :=
  ∀ (i : Nat) (k : TextLiteralKind), K[i]? = some (.rTextLiteral k) → K'[i]? = some (.rTextLiteral k)

def KAt {α : Type} (s : PS) (x : PM α) : Prop := ∀ a s', x s = some (a, s') → KeepLit s.kinds s'.kinds

def KGood {α : Type} (x : PM α) : Prop := ∀ s, KAt s x

theorem Kinds.keeps {α : Type} {x : PM α} (h : Kinds none x) : KGood x :=
  fun _ _ _ hx i k => (h.run hx i k).mp

theorem KGood.liftOpt {α : Type} (o : Option α) : KGood (liftOpt o) := (Frame.reader Reads.same).kinds.keeps

end Pasfmt.ParserLit

/-! The converse half on its own: the parser model never makes a text literal.  The notions of the invariant (`KeepLit`,
    `KAt`, `KGood`, `SameK`, `Frame`, `NotLit`) and their first rules are said once more for this half, for their own
    sake; what the pipeline uses is the iff `ParserLit.parseAndConsolidate_sameLit` (`MlsPipe.preWrap_literal`). -/

namespace Pasfmt.ParserLitConv

open PFull

/-- every token typed text literal in `K'` (after) has the same type in `K` (before) -/
def KeepLit (K K' : Array RawKind) : Prop :=
  ∀ (i : Nat) (k : TextLiteralKind), K'[i]? = some (.rTextLiteral k) → K[i]? = some (.rTextLiteral k)

def NotLit (c : Option RawKind) : Prop := ∀ k, c ≠ some (.rTextLiteral k)

def KAt {α : Type} (s : PS) (x : PM α) : Prop := ∀ a s', x s = some (a, s') → KeepLit s.kinds s'.kinds

/-- `x` makes no text literal, from every state -/
def KGood {α : Type} (x : PM α) : Prop := ∀ s, KAt s x

theorem _root_.Pasfmt.ParserLit.Kinds.scanned {α : Type} {x : PM α} (h : ParserLit.Kinds none x) : KGood x :=
  fun _ _ _ hx i k => (h.run hx i k).mpr

def SameK (s s1 : PS) : Prop := s1.kinds = s.kinds ∧ s1.passArr = s.passArr ∧ s1.m.passIdx = s.m.passIdx

def Frame {α : Type} (x : PM α) : Prop := ∀ s a s', x s = some (a, s') → SameK s s'

theorem Frame.reader {α : Type} {x : PM α} (h : ∀ s a s', x s = some (a, s') → s' = s) : Frame x :=
  ParserLit.Frame.reader h

theorem KGood.liftOpt {α : Type} (o : Option α) : KGood (liftOpt o) := (ParserLit.Frame.reader Parents.Reads.same).kinds.scanned

theorem getTokenType_zero (s : PS) (i : Nat) (h : s.getTokenIndex 0 = some i) : s.kinds[i]? = s.getCurrentTokenType :=
  ParserLit.getTokenType_zero s i h

/-! `ParserLit`'s instances for `cur`, `prevTT`, `andM` and its macro `kgoodj` once more, under this namespace; nothing
    uses them -/

open ParserLit (IsFrame IsK frame_cur frame_prevTT kgood_andM)

instance : IsFrame cur := ⟨frame_cur⟩
instance : IsFrame prevTT := ⟨frame_prevTT⟩
instance (b : Bool) (m : PM Bool) [IsK m] : IsK (PFull.andM b m) := ⟨kgood_andM b m IsK.out⟩

/-- `ParserLit`'s macro `kgoodj` once more; unused and not callable, like it -/
macro "kgoodj" ih:ident hjp:ident : tactic =>
  `(tactic| (haveI : HasAllK _ := ⟨$ih⟩
             repeat' (first | (with_reducible exact $hjp _) | kgood_struct | kgood_leaf | dsimp only | split | kgood_fallback)))

end Pasfmt.ParserLitConv
