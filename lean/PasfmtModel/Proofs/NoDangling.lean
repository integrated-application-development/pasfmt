/-
  `nd` (no dangling `E3`: every `E3` byte is followed by two continuation bytes, as in valid UTF-8) is
  what makes `stripBlank` compositional: after a text without a dangling `E3`, no U+3000 can straddle
  the seam.
-/
import PasfmtModel.Proofs.Blank

namespace Pasfmt

theorem nd_cons_ne (b : UInt8) (r : Bytes) (h : b ≠ 0xE3) : nd (b :: r) = nd r := by
  rw [nd.eq_4]
  · intro _ _ _ hb; exact absurd hb h
  · intro hb; exact absurd hb h

theorem stripBlank_cons_gt (b : UInt8) (r : Bytes) (h1 : ¬ b ≤ 0x20) (h2 : b ≠ 0xE3) :
    stripBlank (b :: r) = b :: stripBlank r := by
  rw [stripBlank.eq_3]
  · simp [h1]
  · intro r' hb; exact absurd hb h2

theorem isCont_not_blank {b : UInt8} (h : isCont b = true) : ¬ b ≤ 0x20 ∧ b ≠ 0xE3 := by
  simp only [isCont, Bool.and_eq_true, decide_eq_true_eq, UInt8.le_iff_toNat_le, ne_eq, ← UInt8.toNat_inj,
    UInt8.toNat_ofNat] at h ⊢
  omega

theorem stripBlank_e3 (b1 b2 : UInt8) (r : Bytes) (h1 : isCont b1 = true) (h2 : isCont b2 = true) :
    stripBlank (0xE3 :: b1 :: b2 :: r) =
      if b1 = 0x80 ∧ b2 = 0x80 then stripBlank r else 0xE3 :: b1 :: b2 :: stripBlank r := by
  by_cases hb : b1 = 0x80 ∧ b2 = 0x80
  · obtain ⟨rfl, rfl⟩ := hb
    simp [stripBlank]
  · rw [if_neg hb]
    rw [stripBlank.eq_3]
    · have : ¬ (0xE3 : UInt8) ≤ 0x20 := by decide
      simp only [this, if_false]
      rw [stripBlank_cons_gt b1 _ (isCont_not_blank h1).1 (isCont_not_blank h1).2,
          stripBlank_cons_gt b2 _ (isCont_not_blank h2).1 (isCont_not_blank h2).2]
    · intro r' _ hr
      simp at hr
      exact hb ⟨hr.1, hr.2.1⟩

theorem nd_closed (c : Bytes) (h : nd c = true) : Closed c := by
  intro x
  fun_induction nd c with
  | case1 => rfl
  | case2 b1 b2 r ih =>
    simp only [Bool.and_eq_true] at h
    simp only [List.cons_append, stripBlank_e3 b1 b2 _ h.1.1 h.1.2, ih h.2]
    split <;> simp
  | case3 t hne => cases h
  | case4 b r _ hb ih =>
    by_cases hle : b ≤ 0x20
    · simp only [List.cons_append, stripBlank_cons_le _ _ hle, ih h]
    · simp only [List.cons_append, stripBlank_cons_gt _ _ hle hb, ih h, List.cons_append]

theorem nd_append (a b : Bytes) (h : nd a = true) : nd (a ++ b) = nd b := by
  fun_induction nd a with
  | case1 => rfl
  | case2 b1 b2 r ih =>
    simp only [Bool.and_eq_true] at h
    simp [nd, h.1.1, h.1.2, ih h.2]
  | case3 t hne => cases h
  | case4 c r _ hne ih => rw [List.cons_append, nd_cons_ne _ _ hne]; exact ih h

def AllAscii (t : Bytes) : Prop := ∀ b ∈ t, b < 0x80

theorem ascii_not_cont {b : UInt8} (h : b < 0x80) : isCont b = false ∧ b ≠ 0xE3 := by
  simp only [isCont, Bool.and_eq_false_iff, decide_eq_false_iff_not, UInt8.le_iff_toNat_le, UInt8.lt_iff_toNat_lt,
    ne_eq, ← UInt8.toNat_inj, UInt8.toNat_ofNat] at h ⊢
  omega

theorem nd_ascii (t : Bytes) (h : AllAscii t) : nd t = true := by
  induction t with
  | nil => rfl
  | cons b r ih =>
    rw [nd_cons_ne _ _ (ascii_not_cont (h b (by simp))).2]
    exact ih (fun c hc => h c (by simp [hc]))

theorem nd_split_ascii (x : Bytes) (a : UInt8) (y : Bytes) (ha : a < 0x80) (h : nd (x ++ a :: y) = true) :
    nd x = true ∧ nd y = true := by
  have hx : nd x = true := by
    fun_induction nd x with
    | case1 => rfl
    | case2 b1 b2 r ih =>
      simp only [List.cons_append, nd, Bool.and_eq_true] at h ⊢
      exact ⟨h.1, ih h.2⟩
    | case3 t hne =>
      -- `E3` with fewer than two bytes left in `x`: one of the next two bytes of the text is `a`, no continuation byte
      have hna := (ascii_not_cont ha).1
      match t, hne with
      | [], _ => cases y <;> simp [nd, hna] at h
      | [c], _ => simp [nd, hna] at h
      | c :: d :: t'', hne => exact absurd rfl (hne c d t'')
    | case4 b r _ hb ih =>
      rw [List.cons_append, nd_cons_ne _ _ hb] at h
      exact ih h
  refine ⟨hx, ?_⟩
  rw [nd_append x _ hx, nd_cons_ne _ _ (ascii_not_cont ha).2] at h
  exact h
theorem nd_of_append_ascii (x t : Bytes) (ht : AllAscii t) (h : nd (x ++ t) = true) : nd x = true := by
  cases t with
  | nil => simpa using h
  | cons a y => exact (nd_split_ascii x a y (ht a (by simp)) h).1

end Pasfmt
