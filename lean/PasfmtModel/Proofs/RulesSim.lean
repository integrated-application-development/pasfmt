/-
  The token rules of `Model/Rules.lean`: what the content rules (lower-casing, line comments, directives) do to a
  text - blanks and ASCII letter case only (`Sim`, `SimX`) - with the shape of each rewrite.
-/
import PasfmtModel.Model.Rules
import PasfmtModel.Proofs.TextRule
import PasfmtModel.Proofs.NoDangling
import PasfmtModel.Proofs.AsciiCase

namespace Pasfmt

/-- A content rewrite that, on text without dangling `E3`, keeps that property and changes only
    blanks and ASCII letter case.  (`SimX` below: blanks only, case kept.  `Utf8Pipeline.BSim`: same length, bytes
    differ at ASCII positions only - the relation under which well-formed UTF-8 is kept.) -/
def Sim (c c' : Bytes) : Prop := nd c = true → nd c' = true ∧ foldStrip c' = foldStrip c

theorem Sim.refl (c : Bytes) : Sim c c := fun h => ⟨h, rfl⟩

theorem Sim.trans {a b c : Bytes} (h1 : Sim a b) (h2 : Sim b c) : Sim a c := by
  intro ha
  obtain ⟨hb, e1⟩ := h1 ha
  obtain ⟨hc, e2⟩ := h2 hb
  exact ⟨hc, e2.trans e1⟩

theorem stripBlank_lower (c : Bytes) : stripBlank (asciiLower c) = asciiLower (stripBlank c) := by
  induction c using stripBlank.induct with
  | case1 => rfl
  | case2 r ih =>
    have : asciiLower (0xE3 :: 0x80 :: 0x80 :: r) = 0xE3 :: 0x80 :: 0x80 :: asciiLower r := by
      simp [asciiLower, toLowerByte, isUpper]
    rw [this, stripBlank, stripBlank, ih]
  | case3 b r hne hle ih =>
    have hb : b ≠ 0xE3 := by intro hb; subst hb; exact absurd hle (by decide)
    have e : asciiLower (b :: r) = toLowerByte b :: asciiLower r := by simp [asciiLower]
    have hle' : toLowerByte b ≤ 0x20 := (lower_le_20 b).2 (by simpa using hle)
    rw [e, stripBlank_cons_le _ _ hle', stripBlank_cons_le _ _ (by simpa using hle), ih]
  | case4 b r hne hle ih =>
    have e : asciiLower (b :: r) = toLowerByte b :: asciiLower r := by simp [asciiLower]
    have hle1 : ¬ b ≤ 0x20 := by simpa using hle
    have hle' : ¬ toLowerByte b ≤ 0x20 := fun h => hle1 ((lower_le_20 b).1 h)
    by_cases hb : b = 0xE3
    · subst hb
      -- r does not start with 80 80
      have hl : toLowerByte 0xE3 = 0xE3 := by decide
      rw [e, hl]
      rw [stripBlank.eq_3 0xE3 r (by intro r' _ hr; exact hne r' rfl hr)]
      rw [stripBlank.eq_3 0xE3 (asciiLower r)]
      · simp only [show ¬ (0xE3 : UInt8) ≤ 0x20 by decide, if_false]
        rw [ih]; simp [asciiLower, hl]
      · intro r' _ hr
        obtain ⟨t2, e, -⟩ := (asciiLower_eq_append_iff (p := [0x80, 0x80]) (by decide) r r').1 hr
        exact hne t2 rfl e
    · have hb' : toLowerByte b ≠ 0xE3 := fun h => hb ((toLowerByte_eq_iff (by decide) b).1 h)
      rw [e, stripBlank_cons_gt _ _ hle' hb', stripBlank_cons_gt _ _ hle1 hb, ih]
      simp [asciiLower]

theorem nd_lower (c : Bytes) : nd (asciiLower c) = nd c := by
  induction c using nd.induct with
  | case1 => rfl
  | case2 b1 b2 r ih =>
    have : asciiLower (0xE3 :: b1 :: b2 :: r) = 0xE3 :: toLowerByte b1 :: toLowerByte b2 :: asciiLower r := by
      simp [asciiLower, toLowerByte, isUpper]
    rw [this, nd, nd, ih, isCont_lower b1, isCont_lower b2]
  | case3 t hne =>
    have hl : toLowerByte 0xE3 = 0xE3 := by decide
    have : asciiLower (0xE3 :: t) = 0xE3 :: asciiLower t := by simp [asciiLower, hl]
    rw [this, nd.eq_3 t hne, nd.eq_3]
    intro b1 b2 r hr
    cases t with
    | nil => simp [asciiLower] at hr
    | cons x1 t1 =>
      cases t1 with
      | nil => simp [asciiLower] at hr
      | cons x2 t2 => exact hne x1 x2 t2 rfl
  | case4 b r _ hb ih =>
    have hb' : toLowerByte b ≠ 0xE3 := fun h => hb ((toLowerByte_eq_iff (by decide) b).1 h)
    have : asciiLower (b :: r) = toLowerByte b :: asciiLower r := by simp [asciiLower]
    rw [this, nd_cons_ne _ _ hb', nd_cons_ne _ _ (fun h => hb h), ih]

theorem Sim.of_caseEq {c c' : Bytes} (h : asciiLower c' = asciiLower c) : Sim c c' := by
  intro hc
  refine ⟨?_, ?_⟩
  · rw [← nd_lower c', h, nd_lower c]; exact hc
  · unfold foldStrip
    rw [← stripBlank_lower, ← stripBlank_lower, h]

theorem sim_lower (c : Bytes) : Sim c (asciiLower c) := Sim.of_caseEq (asciiLower_idem c)

theorem isAsciiWs_cases {b : UInt8} (h : isAsciiWs b = true) : b = 0x20 ∨ b = 0x09 ∨ b = 0x0A ∨ b = 0x0C ∨ b = 0x0D := by
  simpa [isAsciiWs, or_assoc] using h

theorem isAsciiWs_class (b : UInt8) (h : isAsciiWs b = true) : b ≤ 0x20 ∧ b < 0x80 := by
  rcases isAsciiWs_cases h with rfl | rfl | rfl | rfl | rfl <;> decide

theorem trimAsciiEnd_decomp (y : Bytes) :
    ∃ tail, y = trimAsciiEnd y ++ tail ∧ ∀ b ∈ tail, isAsciiWs b = true :=
  trimEnd_decomp isAsciiWs y

/-- a content rewrite that changes blanks only (on text without dangling `E3`): `Sim` without the case folding -/
def SimX (c c' : Bytes) : Prop := nd c = true → nd c' = true ∧ stripBlank c' = stripBlank c

theorem SimX.refl (c : Bytes) : SimX c c := fun h => ⟨h, rfl⟩

theorem SimX.trans {a b c : Bytes} (h1 : SimX a b) (h2 : SimX b c) : SimX a c := by
  intro ha
  obtain ⟨hb, e1⟩ := h1 ha
  obtain ⟨hc, e2⟩ := h2 hb
  exact ⟨hc, e2.trans e1⟩

theorem SimX.sim {c c' : Bytes} (h : SimX c c') : Sim c c' := by
  intro hc
  obtain ⟨h1, h2⟩ := h hc
  exact ⟨h1, by unfold foldStrip; rw [h2]⟩

theorem simx_trimAsciiEnd (y : Bytes) : SimX y (trimAsciiEnd y) := by
  intro hy
  obtain ⟨tail, hdec, htail⟩ := trimAsciiEnd_decomp y
  have hascii : AllAscii tail := fun b hb => (isAsciiWs_class b (htail b hb)).2
  have hle : AllLe20 tail := fun b hb => (isAsciiWs_class b (htail b hb)).1
  have hnd : nd (trimAsciiEnd y) = true := by
    apply nd_of_append_ascii _ tail hascii
    rw [← hdec]; exact hy
  refine ⟨hnd, ?_⟩
  have := nd_closed _ hnd tail
  rw [← hdec] at this
  rw [this, (Gap.of_allLe20 hle).blankOnly]; simp

theorem simx_insert_space (pre comment : Bytes) (hpre : AllAscii pre) :
    SimX (pre ++ comment) (pre ++ [0x20] ++ comment) := by
  intro h
  have hp := nd_ascii pre hpre
  rw [nd_append _ _ hp] at h
  refine ⟨?_, ?_⟩
  · rw [List.append_assoc, nd_append _ _ hp]
    simpa [nd_cons_ne] using h
  · rw [List.append_assoc, nd_closed _ hp, nd_closed _ hp]
    congr 1

/-- `pre` is the run of slashes that `lineCommentParts` splits off: three, or two when no third follows -/
def IsSlashes (pre comment : Bytes) : Prop :=
  pre = [0x2F, 0x2F, 0x2F] ∨ (pre = [0x2F, 0x2F] ∧ comment.head? ≠ some 0x2F)

theorem lineCommentParts_inv (c pre comment : Bytes) (h : lineCommentParts c = some (pre, comment)) :
    c = pre ++ comment ∧ IsSlashes pre comment := by
  unfold lineCommentParts at h
  split at h
  · simp at h; rw [← h.1, ← h.2]; exact ⟨rfl, Or.inl rfl⟩
  · rename_i c0 hne
    simp at h; rw [← h.1, ← h.2]
    refine ⟨rfl, Or.inr ⟨rfl, ?_⟩⟩
    intro hh
    cases c0 with
    | nil => simp at hh
    | cons a t => simp at hh; subst hh; exact hne t rfl
  · simp at h

theorem IsSlashes.ascii {pre comment : Bytes} (h : IsSlashes pre comment) : AllAscii pre := by
  rcases h with rfl | ⟨rfl, _⟩ <;> (intro b hb; simp at hb; subst hb; decide)

theorem trimAsciiEnd_append_ne (x y : Bytes) (h : trimAsciiEnd y ≠ []) :
    trimAsciiEnd (x ++ y) = x ++ trimAsciiEnd y := by
  unfold trimAsciiEnd at *
  rw [List.reverse_append, List.dropWhile_append]
  have : (List.dropWhile isAsciiWs y.reverse).isEmpty = false := by
    cases hd : List.dropWhile isAsciiWs y.reverse with
    | nil => rw [hd] at h; simp at h
    | cons _ _ => rfl
  rw [this]
  simp

theorem trimAsciiEnd_prefix (y : Bytes) : trimAsciiEnd y <+: y := by
  obtain ⟨tail, hdec, _⟩ := trimAsciiEnd_decomp y
  exact ⟨tail, hdec.symm⟩

theorem trimAsciiEnd_length_ne (y : Bytes) : ((trimAsciiEnd y).length != y.length) = true ↔ trimAsciiEnd y ≠ y := by
  constructor
  · intro h e; rw [e] at h; simp at h
  · intro h
    simp only [bne_iff_ne, ne_eq]
    intro hl
    exact h ((trimAsciiEnd_prefix y).eq_of_length hl)

theorem trim_ne_nil_of_head (b : UInt8) (r : Bytes) (hb : isAsciiWs b = false) : trimAsciiEnd (b :: r) ≠ [] := by
  intro h
  obtain ⟨tail, hdec, htail⟩ := trimAsciiEnd_decomp (b :: r)
  rw [h] at hdec
  simp only [List.nil_append] at hdec
  have := htail b (by rw [← hdec]; simp)
  rw [this] at hb; simp at hb

/-- the space that the line-comment rule puts behind the slashes: one, when the comment starts with a non-blank and
    is not a separator line -/
def lineCommentSpace (U : Bytes → Bool) (comment : Bytes) : Bytes :=
  if (comment.head?.any fun b => !isAsciiWs b) && !commentIsSeparator U comment then [0x20] else []

/-- no space, or one space in front of a non-blank -/
theorem lineCommentSpace_cases (U : Bytes → Bool) (pre comment : Bytes) :
    (lineCommentSpace U comment = [] ∧ lineCommentSpaced U pre comment = none) ∨
    (lineCommentSpace U comment = [0x20] ∧ lineCommentSpaced U pre comment = some (pre ++ [0x20] ++ comment) ∧
      trimAsciiEnd comment ≠ [] ∧ comment.head? ≠ some 0x20) := by
  by_cases hcond : ((comment.head?.any fun b => !isAsciiWs b) && !commentIsSeparator U comment) = true
  · cases comment with
    | nil => cases hcond
    | cons b rest =>
      refine Or.inr ⟨if_pos hcond, if_pos hcond, ?_, ?_⟩
      all_goals simp only [List.head?_cons, Option.any_some, Bool.and_eq_true, Bool.not_eq_true'] at hcond
      · exact trim_ne_nil_of_head b rest hcond.1
      · intro e; cases e; exact absurd hcond.1 (by decide)
  · refine Or.inl ⟨if_neg hcond, ?_⟩
    cases comment with
    | nil => rfl
    | cons b rest => exact if_neg hcond

/-- The line-comment rule in closed form: the result is the text with the space behind the slashes, trimmed at the
    end; `set_content` is called when that differs from the text. -/
theorem formatLineComment_eq (U : Bytes → Bool) (c : Bytes) :
    formatLineComment U c = (lineCommentParts c).bind fun pc =>
      if trimAsciiEnd (pc.1 ++ lineCommentSpace U pc.2 ++ pc.2) = c then none
      else some (trimAsciiEnd (pc.1 ++ lineCommentSpace U pc.2 ++ pc.2)) := by
  unfold formatLineComment
  cases hparts : lineCommentParts c with
  | none => rfl
  | some pc =>
    obtain ⟨pre, comment⟩ := pc
    obtain ⟨rfl, _⟩ := lineCommentParts_inv _ _ _ hparts
    -- the model's length test asks whether the text is trimmed
    simp only [Option.bind_some, trimAsciiEnd_length_ne, ne_eq, ite_not]
    rcases lineCommentSpace_cases U pre comment with ⟨hs, hn⟩ | ⟨hs, hn, hne, hhd⟩ <;> rw [hs, hn]
    · rw [List.append_nil]; rfl
    · have hr := trimAsciiEnd_append_ne (pre ++ [0x20]) comment hne
      -- the result has a blank where the text has the non-blank
      have hrc : ¬ trimAsciiEnd (pre ++ [0x20] ++ comment) = pre ++ comment := by
        rw [hr, List.append_assoc]
        intro e
        rw [← List.append_cancel_left e] at hhd
        exact hhd rfl
      rw [if_neg hrc, trimAsciiEnd_append_ne pre comment hne]
      split
      · rename_i htr; rw [hr, List.append_cancel_left htr]
      · rfl

/-- what the line-comment rule does to a text: one space may be inserted behind the (ASCII) slashes, then the end may
    be trimmed.  So a relation that is reflexive, transitive and holds of these two steps relates text and result. -/
theorem formatLineComment_rel {R : Bytes → Bytes → Prop} (hrefl : ∀ a, R a a)
    (htrans : ∀ {a b c}, R a b → R b c → R a c)
    (hspace : ∀ pre comment, AllAscii pre → R (pre ++ comment) (pre ++ [0x20] ++ comment))
    (htrim : ∀ y, R y (trimAsciiEnd y)) (U : Bytes → Bool) (c c' : Bytes)
    (h : formatLineComment U c = some c') : R c c' := by
  rw [formatLineComment_eq, Option.bind_eq_some_iff] at h
  obtain ⟨⟨pre, comment⟩, hparts, h⟩ := h
  obtain ⟨rfl, hsl⟩ := lineCommentParts_inv _ _ _ hparts
  split at h
  · cases h
  · cases h
    refine htrans ?_ (htrim _)
    rcases lineCommentSpace_cases U pre comment with ⟨hs, _⟩ | ⟨hs, _⟩ <;> rw [hs]
    · rw [List.append_nil]; exact hrefl _
    · exact hspace _ _ hsl.ascii

theorem simx_formatLineComment (U : Bytes → Bool) (c c' : Bytes) (h : formatLineComment U c = some c') :
    SimX c c' :=
  formatLineComment_rel SimX.refl SimX.trans simx_insert_space simx_trimAsciiEnd U c c' h

theorem sim_formatLineComment (U : Bytes → Bool) (c c' : Bytes) (h : formatLineComment U c = some c') :
    Sim c c' :=
  (simx_formatLineComment U c c' h).sim

/-- bytes that can occur in what `format_compiler_directive` takes for the directive name (a word, or
    a list of switches such as `r+,q-` / `z4`) -/
def isDirNameByte (b : UInt8) : Bool := isAlnum b || b == 0x5F || b == 0x2B || b == 0x2D || b == 0x2C

theorem dirStep_next_byte (st : DirState) (sw : Bool) (b : UInt8) (st' : DirState) (sw' : Bool)
    (h : dirStep st sw b = .next st' sw') : isDirNameByte b = true := by
  cases hb : isDirNameByte b with
  | true => rfl
  | false =>
    -- a byte outside the name alphabet passes none of the byte tests of the five `next` branches
    unfold isDirNameByte isAlnum at hb
    simp only [Bool.or_eq_false_iff] at hb
    obtain ⟨⟨⟨⟨⟨ha, hd⟩, h5f⟩, h2b⟩, h2d⟩, h2c⟩ := hb
    unfold dirStep isAlnum at h
    simp only [ha, hd, h5f, h2b, h2d, h2c, Bool.or_self, Bool.and_false, Bool.false_and, Bool.false_eq_true,
      if_false] at h
    split at h <;> cases h

/-- the scanning step does not look at letter case: it only asks for the classes of `upper_class` -/
theorem dirStep_upper (st : DirState) (sw : Bool) (b : UInt8) : dirStep st sw (toUpperByte b) = dirStep st sw b := by
  obtain ⟨h1, h2, h3, h4, h5, h6, h7⟩ := upper_class b
  unfold dirStep
  rw [h1, h2, h3, h4, h5, h6, h7]

/-- what a successful scan delimits: a name made of name bytes; and the scanner delimits the upper-cased name just
    the same -/
theorem dirScan_name (st : DirState) (sw : Bool) (l : Bytes) (n : Nat) (h : dirScan st sw l = some n) :
    ∃ name rest, l = name ++ rest ∧ name.length = n ∧ (∀ b ∈ name, isDirNameByte b = true) ∧
      dirScan st sw (asciiUpper name ++ rest) = some n := by
  induction l generalizing st sw n with
  | nil => cases h; exact ⟨[], [], rfl, rfl, by simp, rfl⟩
  | cons b r ih =>
    unfold dirScan at h
    cases hs : dirStep st sw b with
    | next st' sw' =>
      rw [hs] at h
      simp only [Option.map_eq_some_iff] at h
      obtain ⟨m, hm, rfl⟩ := h
      obtain ⟨name, rest, rfl, rfl, hb, hscan⟩ := ih st' sw' m hm
      refine ⟨b :: name, rest, rfl, rfl, ?_, ?_⟩
      · intro x hx
        rcases List.mem_cons.1 hx with rfl | hx
        · exact dirStep_next_byte _ _ _ _ _ hs
        · exact hb x hx
      · show dirScan st sw (toUpperByte b :: (asciiUpper name ++ rest)) = _
        unfold dirScan
        rw [dirStep_upper, hs]
        simp only []
        rw [hscan]; rfl
    | ret => rw [hs] at h; cases h
    | brk =>
      rw [hs] at h; cases h
      exact ⟨[], b :: r, rfl, rfl, by simp, by show dirScan st sw (b :: r) = _; unfold dirScan; rw [hs]⟩

theorem dirScan_bytes (st : DirState) (sw : Bool) (l : Bytes) (n : Nat) (h : dirScan st sw l = some n) :
    ∀ b ∈ l.take n, isDirNameByte b = true := by
  obtain ⟨name, rest, rfl, rfl, hb, _⟩ := dirScan_name st sw l n h
  rw [List.take_left]; exact hb

/-- what the directive rule does when it changes a text: the name that the scanner delimits after `{$` / `(*$` is
    upper-cased, and the scanner delimits the same name in the result -/
theorem formatCompilerDirective_some {c c' : Bytes} (h : formatCompilerDirective c = some c') :
    ∃ pre name rest, c = pre ++ name ++ rest ∧ c' = pre ++ asciiUpper name ++ rest ∧
      (pre = [0x7B, 0x24] ∨ pre = [0x28, 0x2A, 0x24]) ∧ (∀ b ∈ name, isDirNameByte b = true) ∧
      dirScan .before false (asciiUpper name ++ rest) = some name.length := by
  unfold formatCompilerDirective at h
  simp only at h
  split at h
  · simp at h
  · rename_i pre stripped hs
    split at h
    · simp at h
    · rename_i n hn
      obtain ⟨name, rest, rfl, rfl, hb, hscan⟩ := dirScan_name _ _ _ _ hn
      split at h
      · simp only [Option.some.injEq, List.take_left, List.drop_left] at h
        have hps : (pre = [0x7B, 0x24] ∨ pre = [0x28, 0x2A, 0x24]) ∧ c = pre ++ (name ++ rest) := by
          split at hs
          · simp at hs; rw [← hs.1, ← hs.2]; simp
          · simp at hs; rw [← hs.1, ← hs.2]; simp
          · simp at hs
        exact ⟨pre, name, rest, by rw [hps.2, List.append_assoc], h.symm, hps.1, hb, hscan⟩
      · simp at h

/-- **what the directive rule changes**: the bytes of the name right after `{$` / `(*$` are upper-cased;
    the opener and everything after the name are kept byte for byte -/
theorem formatCompilerDirective_shape (c c' : Bytes) (h : formatCompilerDirective c = some c') :
    ∃ pre name rest, c = pre ++ name ++ rest ∧ c' = pre ++ asciiUpper name ++ rest ∧
      (pre = [0x7B, 0x24] ∨ pre = [0x28, 0x2A, 0x24]) ∧ ∀ b ∈ name, isDirNameByte b = true := by
  obtain ⟨pre, name, rest, h1, h2, h3, h4, _⟩ := formatCompilerDirective_some h
  exact ⟨pre, name, rest, h1, h2, h3, h4⟩

theorem formatCompilerDirective_caseEq {c c' : Bytes} (h : formatCompilerDirective c = some c') :
    asciiLower c' = asciiLower c := by
  obtain ⟨pre, name, rest, rfl, rfl, _⟩ := formatCompilerDirective_shape c c' h
  simp only [asciiLower_append, asciiLower_upper]

theorem sim_formatCompilerDirective (c c' : Bytes) (h : formatCompilerDirective c = some c') : Sim c c' :=
  Sim.of_caseEq (formatCompilerDirective_caseEq h)

end Pasfmt
