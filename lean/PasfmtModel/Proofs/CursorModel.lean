/-
  The cursor model (`Model/Cursor.lean`) on arbitrary token lists.  Input side: a cursor inside or just behind the
  text of a token is attached to that token, with the position form `textPos` (offset, or for multi-line tokens the
  rest of the line and the breaks behind it).  Output side: `relocate` reports a cursor attached to a token not behind
  the end of that token's text, one attached to none at the end of the last token, and a cursor in an unchanged text
  at the same offset of that text.
-/
import PasfmtModel.Proofs.ReconOffsets

namespace Pasfmt

theorem asU32_le (n : Nat) : asU32 n ≤ n := Nat.mod_le _ _

theorem asU32_of_lt {n : Nat} (h : n < 4294967296) : asU32 n = n := Nat.mod_eq_of_lt h

theorem checkedSub_eq_some {a b c : Nat} : checkedSub a b = some c ↔ b ≤ a ∧ c = a - b := by
  unfold checkedSub; split <;> simp [*, eq_comm]

theorem checkedSub_map_eq_some {a b r : Nat} (h : (checkedSub a b).map asU32 = some r) : b ≤ a ∧ r = asU32 (a - b) := by
  obtain ⟨c, hc, rfl⟩ := Option.map_eq_some_iff.1 h
  obtain ⟨hle, rfl⟩ := checkedSub_eq_some.1 hc
  exact ⟨hle, rfl⟩

theorem processCursorGo_idx (idx rem : Nat) (seen raw : List RawTok) (ic : ICursor)
    (h : processCursorGo idx rem seen raw = some ic) : idx ≤ ic.tokIdx ∧ ic.tokIdx < idx + raw.length := by
  fun_induction processCursorGo idx rem seen raw with
  | case1 => cases h
  | case5 idx rem seen t rest _ ih => have := ih h; simp only [List.length_cons]; omega
  | _ => cases h; simp

theorem processCursorGo_none (idx rem : Nat) (seen l : List RawTok) (h : rem > (l.map RawTok.strLen).sum) :
    processCursorGo idx rem seen l = none := by
  induction l generalizing idx seen rem with
  | nil => rfl
  | cons t r ih =>
    simp only [List.map_cons, List.sum_cons] at h
    rw [processCursorGo, if_neg (by omega)]
    exact ih _ _ _ (by omega)

/-- length of the first `\n`-separated piece (`split('\n').next()`) -/
def firstLen (s : Bytes) : Nat := match findByte 0x0A s with | some p => p | none => s.length

/-- the position `process_cursors` records for a cursor `o` bytes into the text `c` of a token: for a multi-line
    comment or string the length of the rest of the cursor's line and the number of breaks behind it (both cast to
    `u16`), otherwise the offset (cast to `u32`) -/
def textPos (multiline : Bool) (c : Bytes) (o : Nat) : TokPos :=
  if multiline then .multiline (asU16 (firstLen (c.drop o))) (asU16 (countByte 0x0A (c.drop o)))
  else .content (asU32 o)

/-- the walk attaches a cursor `o` bytes into the text of token `k` to that token, whatever the tokens walked over
    (`seen`, which serve the columns of whitespace positions only); with `o = 0`, no whitespace and `k > 0` the offset
    is also the end of token `k - 1`, where the walk stops -/
theorem processCursorGo_at (raw : List RawTok) (idx k : Nat) (seen : List RawTok) (t : RawTok) (o : Nat)
    (hk : raw[k]? = some t) (ho : o ≤ t.content.length) (hfirst : 0 < o ∨ 0 < t.ws.length ∨ k = 0) :
    processCursorGo idx (((raw.take k).map RawTok.strLen).sum + t.ws.length + o) seen raw
      = some { tokIdx := idx + k, pos := textPos (isMultilineRawKind t.kind) t.content o } := by
  induction raw generalizing idx k seen with
  | nil => cases hk
  | cons x r ih =>
    cases k with
    | zero =>
      cases hk
      rw [processCursorGo, if_pos (by simp [RawTok.strLen]; omega), if_pos (by simp)]
      simp only [List.take_zero, List.map_nil, List.sum_nil, Nat.zero_add, Nat.add_sub_cancel_left]
      unfold textPos firstLen
      cases isMultilineRawKind t.kind <;> rfl
    | succ k =>
      rw [List.getElem?_cons_succ] at hk
      rw [List.take_succ_cons, List.map_cons, List.sum_cons, processCursorGo, if_neg (by omega),
        show x.strLen + ((r.take k).map RawTok.strLen).sum + t.ws.length + o - x.strLen
          = ((r.take k).map RawTok.strLen).sum + t.ws.length + o by omega,
        ih (idx + 1) k _ hk (by omega), Nat.add_right_comm, Nat.add_assoc]

/-- **input side, any token.**  A cursor `o` bytes into the text of token `k` (`o = |text|` = just behind it) is
    attached to token `k` with the position `textPos`, provided `0 < o`, or token `k` has leading whitespace, or
    `k = 0` (otherwise the cursor sticks to the previous token). -/
theorem processCursor_at (raw : List RawTok) (k : Nat) (t : RawTok) (o : Nat)
    (hk : raw[k]? = some t) (ho : o ≤ t.content.length) (hfirst : 0 < o ∨ 0 < t.ws.length ∨ k = 0) :
    processCursor raw (((raw.take k).map RawTok.strLen).sum + t.ws.length + o)
      = { tokIdx := k, pos := textPos (isMultilineRawKind t.kind) t.content o } := by
  unfold processCursor
  rw [processCursorGo_at raw 0 k [] t o hk ho hfirst, Nat.zero_add]

/-- **input side.**  A cursor `o` bytes into the text of the single-line token `k`
    (`o = |text|` = just behind it) is attached to token `k` at content offset `o`,
    provided `0 < o`, or token `k` has leading whitespace, or `k = 0`. -/
theorem processCursor_in_token (raw : List RawTok) (k : Nat) (t : RawTok) (o : Nat)
    (hk : raw[k]? = some t) (hm : isMultilineRawKind t.kind = false)
    (ho : o ≤ t.content.length) (h32 : o < 4294967296)
    (hfirst : 0 < o ∨ 0 < t.ws.length ∨ k = 0) :
    processCursor raw (((raw.take k).map RawTok.strLen).sum + t.ws.length + o)
      = { tokIdx := k, pos := .content o } := by
  rw [processCursor_at raw k t o hk ho hfirst, hm]
  simp [textPos, asU32_of_lt h32]

/-- hypothesis of the whitespace case: for an ignored token the newline counter, rendered with the
    configured line ending, is not longer than the verbatim whitespace -/
def ignoredNlFits (S : Settings) (t : FTok) : Prop :=
  t.fmt.ignored = true → S.nlStr.length * t.fmt.nl ≤ t.tok.ws.length

/-! unfolding of `relocate` for an existing token, one lemma per position form -/

theorem relocate_content_eq (S : Settings) (ft : FT) (idx o : Nat) (t : FTok) (hk : ft[idx]? = some t) :
    relocate S ft { tokIdx := idx, pos := .content o }
      = some (asU32 (asU32 (offsetForToken S ft idx) + min o (asU32 t.tok.content.length))) := by
  unfold relocate; simp only [hk]

theorem relocate_multiline_eq (S : Settings) (ft : FT) (idx rc nl : Nat) (t : FTok)
    (hk : ft[idx]? = some t) :
    relocate S ft { tokIdx := idx, pos := .multiline rc nl }
      = (checkedSub (offsetForToken S ft idx + t.tok.content.length)
          (lastPiecesLen t.tok.content nl + rc)).map asU32 := by
  unfold relocate; simp only [hk]

theorem relocate_whitespace_eq (S : Settings) (ft : FT) (idx c n : Nat) (t : FTok)
    (hk : ft[idx]? = some t) :
    relocate S ft { tokIdx := idx, pos := .whitespace c n }
      = (if min n t.fmt.nl > 0 then
        let linesBack := if t.fmt.nl ≤ n && t.fmt.nl > 1 then min n t.fmt.nl - 1 else min n t.fmt.nl
        (checkedSub (offsetForToken S ft idx + S.nlStr.length * (t.fmt.nl - linesBack)) (wsLen S t)).map asU32
      else
        let colEnd := colEndPost S ((ft.take (idx + 1)).reverse)
        match checkedSub colEnd t.tok.content.length with
        | none => none
        | some colStart =>
          match checkedSub colStart (nonbreakingWsLen S t).len with
          | none => none
          | some colWsStart =>
            let clamped := max colWsStart (min c colStart)
            (checkedSub (offsetForToken S ft idx) (colStart - clamped)).map asU32) := by
  unfold relocate; simp only [hk]; rfl

theorem nl_le_wsLen (S : Settings) (t : FTok) (hfit : ignoredNlFits S t) :
    S.nlStr.length * t.fmt.nl ≤ wsLen S t := by
  unfold wsLen
  by_cases hi : t.fmt.ignored = true
  · simp only [hi, if_true]; exact hfit hi
  · simp only [hi]
    rw [Nat.mul_comm]
    exact Nat.le_add_left _ _

theorem nonbreaking_le_wsLen (S : Settings) (t : FTok) : (nonbreakingWsLen S t).len ≤ wsLen S t := by
  unfold wsLen nonbreakingWsLen
  by_cases hi : t.fmt.ignored = true
  · simp only [hi, if_true]
    split <;> simp
  · simp only [hi]; simp

theorem relocate_whitespace_pre (S : Settings) (ft : FT) (idx c n : Nat) (t : FTok) (r : Nat)
    (hk : ft[idx]? = some t) (hfit : ignoredNlFits S t)
    (h : relocate S ft { tokIdx := idx, pos := .whitespace c n } = some r) :
    ∃ v, r = asU32 v ∧ v ≤ offsetForToken S ft idx ∧ offsetForToken S ft idx ≤ v + wsLen S t := by
  rw [relocate_whitespace_eq S ft idx c n t hk] at h
  have hnb := nonbreaking_le_wsLen S t
  have hws := nl_le_wsLen S t hfit
  split at h
  · -- some lines back: `offset + |nl| * (nl - back) - wsLen`
    obtain ⟨hle, rfl⟩ := checkedSub_map_eq_some h
    have hmul := Nat.mul_le_mul_left S.nlStr.length (Nat.sub_le t.fmt.nl
      (if (decide (t.fmt.nl ≤ n) && decide (t.fmt.nl > 1)) = true then min n t.fmt.nl - 1 else min n t.fmt.nl))
    exact ⟨_, rfl, by omega, by omega⟩
  · -- same line: `offset - (colStart - clamped)` with `colStart - nonbreaking ≤ clamped ≤ colStart`
    simp only at h
    split at h
    · cases h
    · split at h
      · cases h
      · rename_i colStart _ colWsStart hcws
        obtain ⟨_, rfl⟩ := checkedSub_eq_some.1 hcws
        obtain ⟨_, rfl⟩ := checkedSub_map_eq_some h
        exact ⟨_, rfl, by omega, by omega⟩

theorem relocate_le_token_end (S : Settings) (ft : FT) (ic : ICursor) (t : FTok) (r : Nat)
    (hk : ft[ic.tokIdx]? = some t)
    (hign : ∀ c n, ic.pos = .whitespace c n → ignoredNlFits S t)
    (h : relocate S ft ic = some r) :
    r ≤ offsetForToken S ft ic.tokIdx + t.tok.content.length := by
  obtain ⟨idx, pos⟩ := ic
  simp only at h hign hk ⊢
  cases pos with
  | content o =>
    rw [relocate_content_eq S ft idx o t hk] at h
    simp only [Option.some.injEq] at h
    subst h
    refine Nat.le_trans (asU32_le _) ?_
    have h1 := asU32_le (offsetForToken S ft idx)
    have h2 := asU32_le t.tok.content.length
    omega
  | multiline rc nl =>
    rw [relocate_multiline_eq S ft idx rc nl t hk] at h
    obtain ⟨_, rfl⟩ := checkedSub_map_eq_some h
    exact Nat.le_trans (asU32_le _) (by omega)
  | whitespace c n =>
    obtain ⟨v, hv, hle, _⟩ := relocate_whitespace_pre S ft idx c n t r hk (hign c n rfl) h
    have := asU32_le v
    omega

/-- a cursor attached to no token (`process_cursors` found none) is put at the end of the last token, which is what
    `offset_for_token` of an index behind the list gives when that token - end of file - has no text -/
theorem relocate_past_end (S : Settings) (ft : FT) (ic : ICursor) (hk : ft[ic.tokIdx]? = none)
    (heof : ∀ last, ft.getLast? = some last → last.tok.content = []) :
    relocate S ft ic = some (asU32 (offsetForToken S ft ic.tokIdx)) := by
  unfold relocate
  simp only [hk]
  cases hl : ft.getLast? with
  | none => rw [List.getLast?_eq_none_iff.1 hl]; rfl
  | some last => simp [heof last hl, asU32]

def piecesSum (l : List Bytes) : Nat := (l.map (fun p => p.length + 1)).sum

theorem firstLen_cons (b : UInt8) (s : Bytes) :
    firstLen (b :: s) = if b == 0x0A then 0 else firstLen s + 1 := by
  unfold firstLen
  rw [findByte]
  by_cases hb : (b == 0x0A) = true
  · simp only [hb, if_true]
  · simp only [hb]
    cases findByte 0x0A s <;> simp

theorem splitOn_shape (s : Bytes) : ∃ h tl, s.splitOn 0x0A = h :: tl ∧ h.length = firstLen s ∧
    tl.length = countByte 0x0A s ∧ piecesSum tl + firstLen s = s.length := by
  induction s with
  | nil => exact ⟨[], [], by simp, rfl, rfl, rfl⟩
  | cons b r ih =>
    obtain ⟨h, tl, he, hl, hn, hsum⟩ := ih
    rw [List.splitOn_cons_eq_if_modifyHead, firstLen_cons, countByte_eq_count, List.count_cons, ← countByte_eq_count, he]
    split
    · exact ⟨[], h :: tl, rfl, rfl, by simp [hn], by simp [piecesSum] at hsum ⊢; omega⟩
    · exact ⟨b :: h, tl, rfl, by simp [hl], by simp [hn], by simp at hsum ⊢; omega⟩

/-- the pieces of a suffix, but for its first, are the last pieces of the whole text -/
theorem splitOn_drop (s : Bytes) (o : Nat) :
    ∃ p ps, s.splitOn 0x0A = p :: (ps ++ ((s.drop o).splitOn 0x0A).tail) := by
  induction s generalizing o with
  | nil => exact ⟨[], [], by simp⟩
  | cons b r ih =>
    cases o with
    | zero => obtain ⟨h, tl, he, _⟩ := splitOn_shape (b :: r); exact ⟨h, [], by simp [he]⟩
    | succ o =>
      obtain ⟨p, ps, e⟩ := ih o
      rw [List.drop_succ_cons, List.splitOn_cons_eq_if_modifyHead, e]
      split
      · exact ⟨[], p :: ps, rfl⟩
      · exact ⟨b :: p, ps, rfl⟩

/-- the bytes behind a position `o` of `s`: the rest of the current line plus the last
    `n` lines with their separators, `n` = number of breaks behind `o` -/
theorem lastPiecesLen_drop (s : Bytes) (o : Nat) :
    lastPiecesLen s (countByte 0x0A (s.drop o)) + firstLen (s.drop o) = (s.drop o).length := by
  unfold lastPiecesLen
  obtain ⟨p, ps, e⟩ := splitOn_drop s o
  obtain ⟨h, tl, he, _, hlen, hsum⟩ := splitOn_shape (s.drop o)
  simp only [e, he, List.tail_cons, ← hlen, ← List.cons_append, List.reverse_append]
  rw [List.take_left' (by simp), List.map_reverse, List.sum_reverse]
  exact hsum

theorem relocate_content_same (S : Settings) (ft : FT) (k o : Nat) (t : FTok)
    (hk : ft[k]? = some t) (ho : o ≤ t.tok.content.length)
    (hsmall : offsetForToken S ft k + t.tok.content.length < 4294967296) :
    relocate S ft { tokIdx := k, pos := .content o } = some (offsetForToken S ft k + o) := by
  rw [relocate_content_eq S ft k o t hk, asU32_of_lt (n := offsetForToken S ft k) (by omega),
    asU32_of_lt (n := t.tok.content.length) (by omega), Nat.min_eq_left ho, asU32_of_lt (by omega)]

theorem relocate_multiline_same (S : Settings) (ft : FT) (k o : Nat) (t' : FTok)
    (hk : ft[k]? = some t') (ho : o ≤ t'.tok.content.length)
    (hsmall : offsetForToken S ft k + t'.tok.content.length < 4294967296) :
    relocate S ft { tokIdx := k,
                    pos := .multiline (firstLen (t'.tok.content.drop o))
                                      (countByte 0x0A (t'.tok.content.drop o)) }
      = some (offsetForToken S ft k + o) := by
  rw [relocate_multiline_eq S ft k _ _ t' hk, lastPiecesLen_drop, List.length_drop,
    checkedSub_eq_some.2 ⟨by omega, rfl⟩]
  rw [Option.map_some, asU32_of_lt (by omega)]
  congr 1; omega

/-- what the casts of `textPos` need: for a multi-line token the rest of the cursor's line and the number of
    breaks behind the cursor fit into 16 bits -/
def PosFits (multiline : Bool) (c : Bytes) (o : Nat) : Prop :=
  multiline = true → firstLen (c.drop o) < 65536 ∧ countByte 0x0A (c.drop o) < 65536

theorem relocate_textPos (S : Settings) (ft : FT) (k o : Nat) (multiline : Bool) (t' : FTok)
    (hk : ft[k]? = some t') (ho : o ≤ t'.tok.content.length) (hfit : PosFits multiline t'.tok.content o)
    (hsmall : offsetForToken S ft k + t'.tok.content.length < 4294967296) :
    relocate S ft { tokIdx := k, pos := textPos multiline t'.tok.content o }
      = some (offsetForToken S ft k + o) := by
  unfold textPos
  cases multiline with
  | false =>
    rw [if_neg Bool.false_ne_true, asU32_of_lt (by omega)]
    exact relocate_content_same S ft k o t' hk ho hsmall
  | true =>
    obtain ⟨hcol, hnl⟩ := hfit rfl
    simp only [if_true, asU16]
    rw [Nat.mod_eq_of_lt hcol, Nat.mod_eq_of_lt hnl]
    exact relocate_multiline_same S ft k o t' hk ho hsmall

/-- **Third clause of C15 for any token, single-line or multi-line.**  A cursor `o` bytes into the text of input
    token `k` (not the sticking case), when token `k` of the final token list still has the same text, is reported
    at `offset_for_token(k) + o`. -/
theorem trackCursors_unchanged (S : Settings) (raw : List RawTok) (ft : FT) (k o : Nat)
    (t : RawTok) (t' : FTok)
    (hk : raw[k]? = some t) (hk' : ft[k]? = some t') (hsame : t'.tok.content = t.content)
    (ho : o ≤ t.content.length) (hfirst : 0 < o ∨ 0 < t.ws.length ∨ k = 0)
    (hfit : PosFits (isMultilineRawKind t.kind) t.content o)
    (hsmall : offsetForToken S ft k + t.content.length < 4294967296) :
    trackCursors S raw ft [((raw.take k).map RawTok.strLen).sum + t.ws.length + o]
      = [some (offsetForToken S ft k + o)] := by
  unfold trackCursors
  rw [List.map_cons, List.map_nil, processCursor_at raw k t o hk ho hfirst, ← hsame,
      relocate_textPos S ft k o _ t' hk' (by rw [hsame]; exact ho) (by rw [hsame]; exact hfit)
        (by rw [hsame]; exact hsmall)]

theorem trackCursors_unchanged_true (S : Settings) (raw : List RawTok) (ft : FT) (k o : Nat)
    (t : RawTok) (t' : FTok)
    (hk : raw[k]? = some t) (hk' : ft[k]? = some t') (hsame : t'.tok.content = t.content)
    (ho : o ≤ t.content.length) (hfirst : 0 < o ∨ 0 < t.ws.length ∨ k = 0)
    (hfit : PosFits (isMultilineRawKind t.kind) t.content o)
    (hsn : noSafetyNetGo false ft = true)
    (hsmall : (reconstruct S ft).length < 4294967296) :
    ∃ A B, reconstruct S ft = A ++ t.content ++ B ∧
      trackCursors S raw ft [((raw.take k).map RawTok.strLen).sum + t.ws.length + o]
        = [some (A.length + o)] := by
  obtain ⟨A, B, hAB, hA⟩ := offset_for_token_spec S ft false k t' hk' hsn
  have hle := offset_add_content_le S ft false k t' hk'
  refine ⟨A, B, by rw [← hsame]; exact hAB, ?_⟩
  rw [hA]
  exact trackCursors_unchanged S raw ft k o t t' hk hk' hsame ho hfirst hfit
    (by unfold reconstruct at hsmall; rw [← hsame]; omega)

end Pasfmt
