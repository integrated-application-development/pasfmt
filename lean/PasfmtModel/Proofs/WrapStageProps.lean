/-
  Frame theorems for the exact model of the wrapper stage (`Model/WrapStage.lean`), for EVERY search
  (`solve` arbitrary): applying solutions changes counters only; the string passes change only the text of
  non-ignored multi-line literals, as the exact re-indenter does; hence the stage satisfies the wrapper
  contracts of C01 (`WrapFrame`) and C07 (`WrapKeepsIgnored`) outright, and no token starts a line with spaces.
  The same holds of the stage with the model of the search inside, so the closed model of the whole formatter is the
  parametrised pipeline at components that meet both contracts.
-/
import PasfmtModel.Proofs.StageToken
import PasfmtModel.Proofs.MlsSim
import PasfmtModel.Proofs.PipelineC07
import PasfmtModel.Proofs.Run

namespace Pasfmt

/-- one token before/after (part of) the wrapper stage -/
def StageRel (S : Settings) (t t' : FTok) : Prop :=
  t'.tok.kind = t.tok.kind ∧ t'.fmt.ignored = t.fmt.ignored ∧
  (t'.tok.ws = t.tok.ws ∨ t'.tok.ws = []) ∧
  (t.fmt.ignored = true → t'.tok = t.tok) ∧
  Sim t.tok.content t'.tok.content

theorem StageRel.refl (S : Settings) (t : FTok) : StageRel S t t :=
  ⟨rfl, rfl, Or.inl rfl, fun _ => rfl, Sim.refl _⟩

theorem StageRel.wrapRel {S : Settings} {t t' : FTok} (h : StageRel S t t') : WrapRel t t' :=
  let ⟨_, _, w, _, s⟩ := h
  ⟨Gap.kept_or_dropped w, s⟩

/-- the clause of C07: tokens kept verbatim are untouched -/
theorem StageRel.keepsIgnored {S : Settings} {t t' : FTok} (h : StageRel S t t') :
    t'.fmt.ignored = t.fmt.ignored ∧ (t.fmt.ignored = true → t'.tok.ws = t.tok.ws ∧ t'.tok.content = t.tok.content) :=
  let ⟨_, i, _, g, _⟩ := h; ⟨i, fun hi => by rw [g hi]; exact ⟨rfl, rfl⟩⟩

theorem All2.of_pw {α : Type} {R : α → α → Prop} {as bs : List α} (h : Pw (fun _ => R) as bs) : All2 R as bs :=
  .of_getElem? h.1.symm fun _ _ ha => h.get ha

open MlsPipe (FmtOnly TokStep fmtOnly_dec tokStep_steps)

theorem MlsPipe.FmtOnly.stageRel (S : Settings) {t t' : FTok} (h : FmtOnly t t') : StageRel S t t' :=
  ⟨by rw [h.1], h.2, Or.inl (by rw [h.1]), fun _ => h.1, by rw [h.1]; exact Sim.refl _⟩

/-- the re-indenter changes blanks only (`mlsRewrite_sim`), hence so does a chain of its applications -/
theorem MlsPipe.TokStep.stageRel {S : Settings} (hS : BlankSettings S) {b : Bool} {t t' : FTok} (h : TokStep S b t t') :
    StageRel S t t' :=
  ⟨h.kind, h.ign, h.ws, fun hi => h.frozen (Or.inl hi),
    h.reach.lift Sim.refl Sim.trans fun ⟨_, _, hc⟩ => mlsRewrite_sim S hS _ _ _ _ hc⟩

theorem applyDecs_rel (S : Settings) (lines : List Line) (ind cont : Nat) (toks : List Nat) (i : Nat) (ft ft' : FT)
    (decs : List (Dec × List (Nat × Sol))) (h : applyDecs lines ind cont toks i ft decs = some ft') :
    All2 (StageRel S) ft ft' :=
  .of_pw ((applyDecs_steps fmtOnly_dec h).imp fun _ _ _ _ x => FmtOnly.stageRel S x)

theorem applyChildren_rel (S : Settings) (lines : List Line) (ft ft' : FT) (ks : List (Nat × Sol))
    (h : applyChildren lines ft ks = some ft') : All2 (StageRel S) ft ft' :=
  .of_pw ((applyChildren_steps fmtOnly_dec h).imp fun _ _ _ _ x => FmtOnly.stageRel S x)

/-- **The wrapper stage, for every search**: kinds and ignored flags are kept, leading whitespace is kept or
    dropped, ignored tokens are untouched, and text changes only in blanks/case-insensitively equal (only through
    the exact string re-indenter). -/
theorem wrapStage_rel (solve : Nat → Nat → Option Sol) (cfg : Config) (lines : List Line) (ft ft' : FT)
    (h : wrapStage solve cfg lines ft = some ft') : All2 (StageRel cfg.settings) ft ft' :=
  .of_pw ((wrapStage_steps (tokStep_steps _) h).imp fun _ _ _ _ x => x.stageRel (settings_blank cfg))

theorem wrapOfSolver_rel (solve : Nat → Nat → Option Sol) (cfg : Config) (lines : List Line) (ft : FT) :
    All2 (StageRel cfg.settings) ft (wrapOfSolver solve cfg lines ft) := by
  unfold wrapOfSolver
  cases h : wrapStage solve cfg lines ft with
  | none => exact All2.refl' (StageRel.refl _) ft
  | some ft' => exact wrapStage_rel solve cfg lines ft ft' h

/-- a pipeline whose wrapper is the exact stage model around an arbitrary search -/
def Oracles.withSolver (O : Oracles) (solve : Nat → Nat → Option Sol) : Oracles :=
  { O with wrap := wrapOfSolver solve }

theorem wrapFrame_of_solver (O : Oracles) (solve : Nat → Nat → Option Sol) : WrapFrame (O.withSolver solve) :=
  fun cfg lines ft => (wrapOfSolver_rel solve cfg lines ft).imp fun _ _ h => h.wrapRel

theorem wrapKeepsIgnored_of_solver (O : Oracles) (solve : Nat → Nat → Option Sol) :
    WrapKeepsIgnored (O.withSolver solve) :=
  fun cfg lines ft => (wrapOfSolver_rel solve cfg lines ft).imp fun _ _ h => h.keepsIgnored

theorem zero_no_spaces (ft : FT) : ∀ t ∈ zeroLineStartSpaces ft, t.fmt.nl > 0 → t.fmt.sp = 0 := by
  intro t ht
  obtain ⟨u, _, rfl⟩ := List.mem_map.1 ht
  exact zeroTok_no_spaces u

/-! ### the closed model of the whole formatter as an instance of the parametrised pipeline -/

theorem wrapStageFull_rel (cfg : Config) (lines : List Line) (ft ft' : FT) (sols : List (Nat × Nat × Sol))
    (h : wrapStageFull cfg lines ft = some (ft', sols)) : All2 (StageRel cfg.settings) ft ft' :=
  .of_pw ((wrapStageFull_steps (tokStep_steps _) h).imp fun _ _ _ _ x => x.stageRel (settings_blank cfg))

/-- the wrapper component of the closed model; the identity where the stage gives no answer -/
def wrapFull : Config → List Line → FT → FT :=
  fun cfg lines ft => match wrapStageFull cfg lines ft with | some (ft', _) => ft' | none => ft

theorem wrapFull_rel (cfg : Config) (lines : List Line) (ft : FT) : All2 (StageRel cfg.settings) ft (wrapFull cfg lines ft) := by
  unfold wrapFull
  split
  · rename_i ft' sols h; exact wrapStageFull_rel cfg lines ft ft' sols h
  · exact All2.refl' (StageRel.refl _) ft

/-- the components of the closed model, as an instance of the parametrised pipeline -/
def fullOracles (alnum : Bytes → Bool) (po : ParserOut) : Oracles :=
  { parser := fun _ => po, wrap := wrapFull, alnum := alnum }

theorem wrapFrame_full (alnum : Bytes → Bool) (po : ParserOut) : WrapFrame (fullOracles alnum po) :=
  fun cfg lines ft => (wrapFull_rel cfg lines ft).imp fun _ _ h => h.wrapRel

theorem wrapKeepsIgnored_full (alnum : Bytes → Bool) (po : ParserOut) : WrapKeepsIgnored (fullOracles alnum po) :=
  fun cfg lines ft => (wrapFull_rel cfg lines ft).imp fun _ _ h => h.keepsIgnored

/-- the parametrised pipeline at the closed model's components, where the stage answers -/
theorem formatTokens_fullOracles {cfg : Config} {alnum : Bytes → Bool} {raw : List RawTok} {po : ParserOut} {ftz : FT}
    {sols : List (Nat × Nat × Sol)}
    (hw : wrapStageFull cfg (preWrap (preO alnum po) raw).2.1 (preWrap (preO alnum po) raw).2.2 = some (ftz, sols)) :
    formatTokens cfg (fullOracles alnum po) raw = reconstruct cfg.settings ftz := by
  rw [formatTokens_eq, preWrap_congr (O := fullOracles alnum po) (O' := preO alnum po) rfl rfl]
  simp only [fullOracles, wrapFull, hw]

attribute [local irreducible] wrapStageFull preWrap in
/-- **the closed model is the parametrised pipeline at its own components**: whenever it answers, its answer is
    `formatTokens` for the oracles made of the parser model's result and the stage with the search inside -/
theorem formatTokensFull_eq (cfg : Config) (alnum : Bytes → Bool) (raw : List RawTok) (out : Bytes)
    (h : formatTokensFull cfg alnum raw = some out) :
    ∃ po, parseAndConsolidate raw = some po ∧ formatTokens cfg (fullOracles alnum po) raw = out := by
  rw [formatTokensFull_run] at h
  obtain ⟨po, hpo, h⟩ := Option.bind_eq_some_iff.1 h
  obtain ⟨ftz, sols, hw, rfl⟩ := Pre.run_eq_some.1 h
  exact ⟨po, hpo, formatTokens_fullOracles hw⟩

end Pasfmt
