/-
  The logic of the command-line front end (`Model/IO.lean`): the write protocol of files mode, the UTF-16 encoders, BOM
  sniffing, what each mode may touch, batch runs under any schedule, and configuration lookup.  File system, legacy
  codecs and the thread pool are parameters of the model; nothing here speaks about them.
-/
import PasfmtModel.Model.IO

namespace Pasfmt.IO

theorem write_truncates (old bs : Bytes) (pos : Nat) :
    ((({ data := old, pos := pos } : FileSt).seekStart.write bs).setLen bs.length).data = bs := by
  simp [FileSt.seekStart, FileSt.write, FileSt.setLen]

theorem decode_cons_bmp (u : Nat) (rest : List Nat) (h : isBmpUnit u = true) :
    decodeUnits16 (u :: rest) = (decodeUnits16 rest).map (u :: ·) := by
  cases rest with
  | nil => simp [decodeUnits16, h]
  | cons l r => simp [decodeUnits16, h]

theorem decode_cons_pair (hi lo : Nat) (rest : List Nat) (h1 : isBmpUnit hi = false)
    (h2 : isHighSur hi = true) (h3 : isLowSur lo = true) :
    decodeUnits16 (hi :: lo :: rest) = (decodeUnits16 rest).map (pairValue hi lo :: ·) := by
  simp [decodeUnits16, h1, h2, h3]

theorem units16_decode (c : Nat) (hc : isScalar c = true) (rest : List Nat) :
    decodeUnits16 (units16 c ++ rest) = (decodeUnits16 rest).map (c :: ·) := by
  unfold isScalar at hc
  simp only [Bool.or_eq_true, Bool.and_eq_true, decide_eq_true_eq] at hc
  unfold units16
  split
  · rename_i hlt
    have : isBmpUnit c = true := by
      unfold isBmpUnit; simp only [Bool.or_eq_true, decide_eq_true_eq]; omega
    exact decode_cons_bmp c rest this
  · rename_i hge
    have h1 : isBmpUnit (0xD800 + (c - 0x10000) / 0x400) = false := by
      unfold isBmpUnit; simp only [Bool.or_eq_false_iff, decide_eq_false_iff_not]; omega
    have h2 : isHighSur (0xD800 + (c - 0x10000) / 0x400) = true := by
      unfold isHighSur; simp only [Bool.and_eq_true, decide_eq_true_eq]; omega
    have h3 : isLowSur (0xDC00 + (c - 0x10000) % 0x400) = true := by
      unfold isLowSur; simp only [Bool.and_eq_true, decide_eq_true_eq]; omega
    have hv : pairValue (0xD800 + (c - 0x10000) / 0x400) (0xDC00 + (c - 0x10000) % 0x400) = c := by
      unfold pairValue; omega
    show decodeUnits16 (_ :: _ :: rest) = _
    rw [decode_cons_pair _ _ rest h1 h2 h3, hv]

theorem unit_lt (c : Nat) (hc : isScalar c = true) : ∀ u ∈ units16 c, u < 65536 := by
  unfold isScalar at hc
  simp only [Bool.or_eq_true, Bool.and_eq_true, decide_eq_true_eq] at hc
  unfold units16
  intro u hu
  split at hu
  · simp only [List.mem_cons, List.not_mem_nil, or_false] at hu; omega
  · simp only [List.mem_cons, List.not_mem_nil, or_false] at hu
    rcases hu with h | h <;> omega

theorem bytesToUnits_unitBytes (be : Bool) (u : Nat) (hu : u < 65536) (rest : Bytes) :
    bytesToUnits be (unitBytes be u ++ rest) = (bytesToUnits be rest).map (u :: ·) := by
  unfold unitBytes
  have h1 : (UInt8.ofNat (u / 256)).toNat = u / 256 := UInt8.toNat_ofNat_of_lt' (show _ < 256 by omega)
  have h2 : (UInt8.ofNat (u % 256)).toNat = u % 256 := UInt8.toNat_ofNat_of_lt' (show _ < 256 by omega)
  have hrec : u / 256 * 256 + u % 256 = u := by omega
  cases be
  · simp only [Bool.false_eq_true, if_false, List.cons_append, List.nil_append, bytesToUnits, h1, h2, hrec]
  · simp only [if_true, List.cons_append, List.nil_append, bytesToUnits, h1, h2, hrec]

/-- an encoding item by item is inverted by a decoder that reads one item's code off the front of any text -/
theorem decode_flatMap {α β : Type} {dec : List β → Option (List α)} {enc : α → List β} {P : α → Prop}
    (h0 : dec [] = some []) (h : ∀ a rest, P a → dec (enc a ++ rest) = (dec rest).map (a :: ·))
    (s : List α) (hs : ∀ a ∈ s, P a) : dec (s.flatMap enc) = some s := by
  induction s with
  | nil => exact h0
  | cons a r ih =>
    rw [List.flatMap_cons, h a _ (hs a List.mem_cons_self), ih fun x hx => hs x (List.mem_cons_of_mem _ hx)]
    rfl

/-- the hand-written UTF-16 encoders are inverted by decoding, for every text, both byte orders,
    surrogate pairs included -/
theorem utf16_roundtrip (be : Bool) (s : List Nat) (hs : ∀ c ∈ s, isScalar c = true) :
    decode16 be (encode16 be s) = some s := by
  unfold decode16 encode16
  have hu : ∀ u ∈ encodeUnits16 s, u < 65536 := fun u hu =>
    have ⟨c, hc, huc⟩ := List.mem_flatMap.1 hu
    unit_lt c (hs c hc) u huc
  rw [decode_flatMap (dec := bytesToUnits be) rfl (fun u rest hu => bytesToUnits_unitBytes be u hu rest) _ hu]
  exact decode_flatMap (dec := decodeUnits16) rfl (fun c rest hc => units16_decode c hc rest) s hs

theorem bom_utf8_first (rest : Bytes) : sniffBom (0xEF :: 0xBB :: 0xBF :: rest) = some (.utf8, 3) := rfl
theorem bom_utf16le (rest : Bytes) : sniffBom (0xFF :: 0xFE :: rest) = some (.utf16le, 2) := rfl
theorem bom_utf16be (rest : Bytes) : sniffBom (0xFE :: 0xFF :: rest) = some (.utf16be, 2) := rfl

/-- a detected BOM decides the encoding whatever is configured -/
theorem bom_overrides_config {T : Type} (C : Codec T) (e1 e2 : Enc) (bs : Bytes) (h : (sniffBom bs).isSome = true) :
    (decodeFile C e1 bs).map (·.enc) = (decodeFile C e2 bs).map (·.enc) ∧
    (decodeFile C e1 bs).map (·.bom) = (decodeFile C e2 bs).map (·.bom) := by
  unfold decodeFile
  cases hs : sniffBom bs with
  | none => rw [hs] at h; simp at h
  | some p => obtain ⟨e, n⟩ := p; simp

variable {T : Type} [DecidableEq T]

/-- malformed input: file untouched, nothing written, failure reported -/
theorem undecodable_untouched (C : Codec T) (fmt : T → T) (u8 : T → Bytes) (cfgEnc : Enc) (mode : Mode) (hdr content : Bytes)
    (h : decodeFile C cfgEnc content = none) :
    runFile C fmt u8 cfgEnc mode hdr content = { file := content, wrote := false, stdout := [], failed := true } := by
  unfold runFile; rw [h]

/-- stdout and check modes never modify the file -/
theorem readonly_modes_no_write (C : Codec T) (fmt : T → T) (u8 : T → Bytes) (cfgEnc : Enc) (mode : Mode) (hdr content : Bytes)
    (hm : mode ≠ .files) :
    (runFile C fmt u8 cfgEnc mode hdr content).file = content ∧
    (runFile C fmt u8 cfgEnc mode hdr content).wrote = false := by
  unfold runFile
  cases hd : decodeFile C cfgEnc content with
  | none => simp
  | some d =>
    cases mode with
    | files => exact absurd rfl hm
    | stdout => simp
    | check => simp

/-- check mode fails exactly when the decoded text differs from its formatting (or is undecodable) -/
theorem check_exit_iff (C : Codec T) (fmt : T → T) (u8 : T → Bytes) (cfgEnc : Enc) (hdr content : Bytes) :
    (runFile C fmt u8 cfgEnc .check hdr content).failed = checkStdin C fmt cfgEnc content := by
  unfold runFile checkStdin
  cases hd : decodeFile C cfgEnc content <;> simp

/-- mode defaults and the rejected combination -/
theorem mode_defaults :
    effectiveMode none true = some .stdout ∧ effectiveMode none false = some .files ∧
    effectiveMode (some .files) true = none ∧ effectiveMode (some .check) true = some .check ∧
    effectiveMode (some .stdout) false = some .stdout := by decide

/-- the result of a file does not depend on what the thread's buffer held before -/
theorem step_buf_irrelevant (run : Bytes → Outcome) (b1 b2 content : Bytes) :
    (workerStep run b1 content).2 = (workerStep run b2 content).2 := rfl

theorem worker_eq_single (run : Bytes → Outcome) (buf : Bytes) (files : List Bytes) :
    workerRun run buf files = files.map run := by
  induction files generalizing buf with
  | nil => rfl
  | cons c r ih => simp [workerRun, workerStep, ih]

/-- Any schedule: an assignment of the files to workers with any per-worker order gives each file
    the result of formatting it alone. -/
theorem schedule_independent (run : Bytes → Outcome) (workers : List (Bytes × List Bytes)) :
    workers.flatMap (fun w => workerRun run w.1 w.2) = (workers.flatMap (·.2)).map run := by
  induction workers with
  | nil => rfl
  | cons w r ih =>
    rw [List.flatMap_cons, List.flatMap_cons, List.map_append, worker_eq_single, ih]

theorem exit_iff_some_failed (run : Bytes → Outcome) (workers : List (Bytes × List Bytes)) :
    ((workers.flatMap (fun w => workerRun run w.1 w.2)).any (·.failed)) =
      ((workers.flatMap (·.2)).any (fun f => (run f).failed)) := by
  rw [schedule_independent, List.any_map]; rfl

theorem findConfig_eq_find? {D : Type} (hasFile : D → Bool) (dirs : List D) :
    findConfig hasFile dirs = dirs.find? hasFile := by
  induction dirs with
  | nil => rfl
  | cons d r ih => rw [findConfig, List.find?_cons, ih]; cases hasFile d <;> rfl

/-- the nearest ancestor (working directory first) that contains the file wins -/
theorem nearest_ancestor {D : Type} (hasFile : D → Bool) (pre : List D) (d : D) (post : List D)
    (hpre : ∀ x ∈ pre, hasFile x = false) (hd : hasFile d = true) :
    findConfig hasFile (pre ++ d :: post) = some d := by
  rw [findConfig_eq_find?, List.find?_append, List.find?_eq_none.2 (by simpa using hpre), List.find?_cons_of_pos hd]
  rfl

variable {K V : Type} [DecidableEq K]

theorem lookupLast_append_some (k : K) (a b : List (K × V)) (v : V) (h : lookupLast k b = some v) :
    lookupLast k (a ++ b) = some v := by
  induction a with
  | nil => exact h
  | cons x r ih => obtain ⟨k', v'⟩ := x; simp [lookupLast, ih]

/-- an unknown key anywhere is rejected -/
theorem unknown_rejected (S : ConfigSpec K V) (file ov : List (K × V)) (k : K) (v : V)
    (hmem : (k, v) ∈ file ++ ov) (hk : S.known k = false) : configOk S file ov = false := by
  unfold configOk
  rw [List.all_eq_false]
  exact ⟨(k, v), hmem, by simp [hk]⟩

/-- function extensionality at `effective` -/
theorem equal_effective (S : ConfigSpec K V) (f1 o1 f2 o2 : List (K × V))
    (h : ∀ k, effective S f1 o1 k = effective S f2 o2 k) :
    (fun k => effective S f1 o1 k) = (fun k => effective S f2 o2 k) := funext h

end Pasfmt.IO
