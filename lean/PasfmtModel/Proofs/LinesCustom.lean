/-
  `lines_custom` (multiline_strings.rs) - a `split_inclusive` with a stateful closure followed by
  `trim_matches(['\n','\r'])` - is the plain "split at LF, CR or CR LF": a reference definition by cases (`refLines`),
  the same as a relation (`Lines s ls`: the text is the lines joined by terminators; `lines_iff`), over which facts
  about the lines of a text are proved, and the proof that the model of the Rust code computes the reference lines,
  plus one empty line when the text ends in CR LF (`linesCustom_eq`).
-/
import PasfmtModel.Model.Mls

namespace Pasfmt

/-- reference: lines of a text, split at `\n`, `\r` and `\r\n` (no line after a final terminator);
    `cur` = the current line, reversed -/
def refLinesGo (cur : Bytes) : Bytes → List Bytes
  | [] => if cur.isEmpty then [] else [cur.reverse]
  | 0x0D :: 0x0A :: r => cur.reverse :: refLinesGo [] r
  | c :: r => if c == 0x0D || c == 0x0A then cur.reverse :: refLinesGo [] r else refLinesGo (c :: cur) r

def refLines (s : Bytes) : List Bytes := refLinesGo [] s

/-- no byte is LF or CR -/
def NoNl (l : Bytes) : Prop := ∀ b ∈ l, isNlCr b = false

theorem NoNl.nil : NoNl [] := by intro b hb; simp at hb

theorem NoNl.append {a b : Bytes} (ha : NoNl a) (hb : NoNl b) : NoNl (a ++ b) :=
  fun x hx => (List.mem_append.1 hx).elim (ha x) (hb x)

theorem mem_replicateBytes {b : UInt8} {n : Nat} {s : Bytes} (hb : b ∈ replicateBytes n s) : b ∈ s := by
  unfold replicateBytes at hb
  obtain ⟨l, hl, hbl⟩ := List.mem_flatten.1 hb
  rw [(List.mem_replicate.1 hl).2] at hbl
  exact hbl

/-! ### the part of a text behind its last `\n` -/

theorem findByte_none_of_not_mem (c : UInt8) (l : Bytes) (h : c ∉ l) : findByte c l = none := by
  induction l with
  | nil => rfl
  | cons a r ih =>
    rw [List.mem_cons, not_or] at h
    simp [findByte, Ne.symm h.1, ih h.2]

theorem findByte_append_left (c : UInt8) (a : Bytes) (b : Bytes) (h : c ∉ a) :
    findByte c (a ++ c :: b) = some a.length := by
  induction a with
  | nil => simp [findByte]
  | cons x r ih =>
    rw [List.mem_cons, not_or] at h
    simp [findByte, Ne.symm h.1, ih h.2]

theorem lastLine_append (pre tail : Bytes) (h : (0x0A : UInt8) ∉ tail) : lastLine (pre ++ 0x0A :: tail) = tail := by
  unfold lastLine rfindByte
  have hrev : (pre ++ 0x0A :: tail).reverse = tail.reverse ++ 0x0A :: pre.reverse := by simp
  rw [hrev, findByte_append_left 0x0A tail.reverse pre.reverse (by simpa using h)]
  simp only [List.length_reverse, List.length_append, List.length_cons]
  have : pre.length + (tail.length + 1) - 1 - tail.length + 1 = pre.length + 1 := by omega
  rw [this]
  have : pre ++ 0x0A :: tail = (pre ++ [0x0A]) ++ tail := by simp
  rw [this, List.drop_left' (by simp)]

theorem lastLine_no_nl (l : Bytes) (h : (0x0A : UInt8) ∉ l) : lastLine l = l := by
  unfold lastLine rfindByte
  rw [findByte_none_of_not_mem 0x0A l.reverse (by simpa using h)]

theorem lastLine_suffix (s y : Bytes) (hy : (0x0A : UInt8) ∉ y) : ∃ p, lastLine (s ++ y) = p ++ y := by
  by_cases hs : (0x0A : UInt8) ∈ s
  · -- split `s` at its last `\n`
    obtain ⟨as, bs, e, hn⟩ := List.eq_append_cons_of_mem (List.mem_reverse.2 hs)
    have : s = bs.reverse ++ 0x0A :: as.reverse := by rw [← List.reverse_reverse s, e]; simp
    refine ⟨as.reverse, ?_⟩
    rw [this, List.append_assoc, List.cons_append, lastLine_append _ _ (by simp [hn, hy])]
  · exact ⟨s, lastLine_no_nl _ (by simp [hs, hy])⟩

theorem noNl_not_mem_lf {l : Bytes} (h : NoNl l) : (0x0A : UInt8) ∉ l := fun hm => absurd (h _ hm) (by decide)

theorem noNl_not_mem_cr {l : Bytes} (h : NoNl l) : (0x0D : UInt8) ∉ l := fun hm => absurd (h _ hm) (by decide)

theorem dropWhile_isNlCr_noNl {l : Bytes} (h : NoNl l) (x : Bytes) (hx : l ≠ [] ∨ x = []) :
    (l ++ x).dropWhile isNlCr = if l = [] then x.dropWhile isNlCr else l ++ x := by
  cases l with
  | nil => simp
  | cons a r =>
    have : isNlCr a = false := h a (by simp)
    simp [this]

theorem trimNlCr_piece (lead line term : Bytes) (hl : ∀ b ∈ lead, isNlCr b = true) (ht : ∀ b ∈ term, isNlCr b = true)
    (hn : NoNl line) : trimNlCr (lead ++ line ++ term) = line := by
  have hterm : ∀ t : Bytes, (∀ b ∈ t, isNlCr b = true) → t.dropWhile isNlCr = [] := fun t h => by
    simpa using List.dropWhile_append_of_pos (l₂ := []) h
  unfold trimNlCr
  rw [List.append_assoc, List.dropWhile_append_of_pos hl]
  by_cases hline : line = []
  · rw [hline, List.nil_append, hterm term ht]; rfl
  · have hrev : NoNl line.reverse := fun b hb => hn b (List.mem_reverse.1 hb)
    rw [dropWhile_isNlCr_noNl hn term (Or.inl hline), if_neg hline, List.reverse_append,
      List.dropWhile_append_of_pos (fun b hb => ht b (List.mem_reverse.1 hb)),
      ← List.append_nil line.reverse, dropWhile_isNlCr_noNl hrev [] (Or.inr rfl), if_neg (by simpa using hline),
      List.append_nil, List.reverse_reverse]

theorem isNlCr_iff (c : UInt8) : isNlCr c = (c == 0x0D || c == 0x0A) := by
  unfold isNlCr
  cases h1 : c == 0x0A <;> cases h2 : c == 0x0D <;> simp

theorem splitFalse_cons (cur : Bytes) (c : UInt8) (r : Bytes) :
    splitCustomGo false cur (c :: r) =
      if isNlCr c then (c :: cur).reverse :: splitCustomGo (c == 0x0D) [] r else splitCustomGo false (c :: cur) r := by
  rw [splitCustomGo]; simp

theorem refLinesGo_cr_lf (cur r : Bytes) : refLinesGo cur (0x0D :: 0x0A :: r) = cur.reverse :: refLinesGo [] r := by
  rw [refLinesGo]

theorem refLinesGo_term (cur : Bytes) (c : UInt8) (r : Bytes) (hc : (c == 0x0D || c == 0x0A) = true)
    (h : ¬ (c = 0x0D ∧ ∃ r', r = 0x0A :: r')) : refLinesGo cur (c :: r) = cur.reverse :: refLinesGo [] r := by
  rw [refLinesGo]
  · simp [hc]
  · intro r' e1 e2
    exact h ⟨e1, r', e2⟩

theorem refLinesGo_other (cur : Bytes) (c : UInt8) (r : Bytes) (hc : (c == 0x0D || c == 0x0A) = false) :
    refLinesGo cur (c :: r) = refLinesGo (c :: cur) r := by
  rw [refLinesGo]
  · simp [hc]
  · intro r' e1 _
    rw [e1] at hc; simp at hc

theorem refLinesGo_nil (cur : Bytes) : refLinesGo cur [] = if cur.isEmpty then [] else [cur.reverse] := by
  rw [refLinesGo]

theorem refLinesGo_noNl (b : Bytes) (hb : NoNl b) (cur s : Bytes) :
    refLinesGo cur (b ++ s) = refLinesGo (b.reverse ++ cur) s := by
  induction b generalizing cur with
  | nil => rfl
  | cons c r ih =>
    have hc : isNlCr c = false := hb c (by simp)
    rw [List.cons_append, refLinesGo_other _ _ _ (by rw [← isNlCr_iff]; exact hc), ih (fun x hx => hb x (by simp [hx]))]
    simp

theorem refLinesGo_lf (cur s : Bytes) : refLinesGo cur (0x0A :: s) = cur.reverse :: refLinesGo [] s :=
  refLinesGo_term cur 0x0A s (by decide) (by rintro ⟨e, _⟩; cases e)

theorem noNl_reverse {a : Bytes} (ha : NoNl a) : NoNl a.reverse :=
  fun x hx => ha x (List.mem_reverse.1 hx)

theorem NoNl.cons {c : UInt8} {r : Bytes} (hc : isNlCr c = false) (hr : NoNl r) : NoNl (c :: r) :=
  fun x hx => (List.mem_cons.1 hx).elim (· ▸ hc) (hr x)

theorem refLinesGo_single (cur b : Bytes) (hb : NoNl b) (h : cur ≠ [] ∨ b ≠ []) :
    refLinesGo cur b = [cur.reverse ++ b] := by
  have := refLinesGo_noNl b hb cur []
  rw [List.append_nil] at this
  rw [this, refLinesGo_nil]
  have hne : b.reverse ++ cur ≠ [] := by
    rcases h with h | h <;> simp [h]
  simp [hne]

/-! ### the lines of a text as a relation -/

/-- `t` is a line terminator when followed by `rest`: LF, CR LF, or a CR that is not followed by LF -/
inductive IsTerm : Bytes → Bytes → Prop
  | lf (rest : Bytes) : IsTerm [0x0A] rest
  | crlf (rest : Bytes) : IsTerm [0x0D, 0x0A] rest
  | cr {rest : Bytes} : (∀ r', rest ≠ 0x0A :: r') → IsTerm [0x0D] rest

/-- `s` is the lines `ls` joined by terminators (no line after a final terminator) -/
inductive Lines : Bytes → List Bytes → Prop
  | nil : Lines [] []
  | last {l : Bytes} : NoNl l → l ≠ [] → Lines l [l]
  | cons {l t rest : Bytes} {ls : List Bytes} : NoNl l → IsTerm t rest → Lines rest ls → Lines (l ++ (t ++ rest)) (l :: ls)

theorem lines_refLinesGo (cur s : Bytes) (hcur : NoNl cur) : Lines (cur.reverse ++ s) (refLinesGo cur s) := by
  fun_induction refLinesGo cur s with
  | case1 cur hc =>
    have : cur = [] := by simpa using hc
    subst this; exact .nil
  | case2 cur hc =>
    rw [List.append_nil]
    exact .last (noNl_reverse hcur) (by simpa using hc)
  | case3 cur r ih => exact .cons (noNl_reverse hcur) (.crlf r) (ih NoNl.nil)
  | case4 cur c r hx hc ih =>
    refine .cons (t := [c]) (noNl_reverse hcur) ?_ (ih NoNl.nil)
    simp only [Bool.or_eq_true, beq_iff_eq] at hc
    rcases hc with rfl | rfl
    · exact .cr fun r' e => hx r' rfl e
    · exact .lf r
  | case5 cur c r _ hc ih =>
    have := ih (NoNl.cons (by rw [isNlCr_iff]; simpa using hc) hcur)
    simpa using this

/-- **the reference splitter computes the lines**, and they are unique -/
theorem lines_iff {s : Bytes} {ls : List Bytes} : Lines s ls ↔ refLines s = ls := by
  constructor
  · intro h
    unfold refLines
    induction h with
    | nil => rfl
    | last hl hne => simpa using refLinesGo_single [] _ hl (Or.inr hne)
    | @cons l t rest ls hl ht _ ih =>
      rw [refLinesGo_noNl l hl, List.append_nil]
      cases ht with
      | lf => rw [List.singleton_append, refLinesGo_lf, List.reverse_reverse, ih]
      | crlf => rw [show [0x0D, 0x0A] ++ rest = 0x0D :: 0x0A :: rest from rfl, refLinesGo_cr_lf, List.reverse_reverse, ih]
      | cr hr =>
        rw [List.singleton_append, refLinesGo_term _ _ _ (by decide) (by rintro ⟨_, r', e⟩; exact hr r' e),
          List.reverse_reverse, ih]
  · rintro rfl
    simpa [refLines] using lines_refLinesGo [] s NoNl.nil

theorem Lines.eq_nil_iff {s : Bytes} {ls : List Bytes} (h : Lines s ls) : ls = [] ↔ s = [] := by
  cases h with
  | nil => simp
  | last _ hne => simp [hne]
  | cons _ ht _ => cases ht <;> simp

theorem IsTerm.le20 {t rest : Bytes} (h : IsTerm t rest) : ∀ b ∈ t, b ≤ 0x20 := by
  cases h <;> decide

theorem Lines.noNl {s : Bytes} {ls : List Bytes} (h : Lines s ls) : ∀ l ∈ ls, NoNl l := by
  induction h with
  | nil => simp
  | last hl _ => intro l hm; rw [List.mem_singleton.1 hm]; exact hl
  | cons hl _ _ ih => intro l hm; rcases List.mem_cons.1 hm with rfl | hm; exact hl; exact ih l hm

/-- a line of a text is a part of it -/
theorem Lines.infix {s : Bytes} {ls : List Bytes} (h : Lines s ls) : ∀ l ∈ ls, l <:+: s := by
  induction h with
  | nil => simp
  | last _ _ => intro l hm; rw [List.mem_singleton.1 hm]; exact List.infix_refl _
  | @cons l t rest ls _ _ _ ih =>
    intro x hx
    rcases List.mem_cons.1 hx with rfl | hx
    · exact (List.prefix_append _ _).isInfix
    · exact (ih x hx).trans ⟨l ++ t, [], by simp⟩

theorem getLast?_append_ne (a L : Bytes) (h : L ≠ []) : (a ++ L).getLast? = L.getLast? := by
  rw [List.getLast?_append]
  cases hL : L.getLast? with
  | none => exact absurd (List.getLast?_eq_none_iff.1 hL) h
  | some b => simp

theorem IsTerm.of_append {t a b : Bytes} (h : IsTerm t (a ++ b)) : IsTerm t a := by
  cases h with
  | lf => exact .lf a
  | crlf => exact .crlf a
  | cr h => exact .cr fun r' e => h (r' ++ b) (by rw [e]; rfl)

theorem IsTerm.getLast? {t rest : Bytes} (h : IsTerm t rest) : ∃ c, t.getLast? = some c ∧ isNlCr c = true := by
  cases h <;> exact ⟨_, rfl, rfl⟩

namespace CrlfFull

/-- `first` followed by the segments, each introduced by `nl` -/
def joinNl (nl first : Bytes) (segs : List Bytes) : Bytes := first ++ (segs.map (nl ++ ·)).flatten

end CrlfFull

open CrlfFull (joinNl)

theorem joinNl_nil (nl first : Bytes) : joinNl nl first [] = first := by simp [joinNl]

theorem joinNl_empty (first : Bytes) (segs : List Bytes) : joinNl [] first segs = first ++ segs.flatten := by
  unfold joinNl
  rw [show (fun x : Bytes => ([] : Bytes) ++ x) = id from rfl, List.map_id]

theorem joinNl_cons (nl first s : Bytes) (segs : List Bytes) :
    joinNl nl first (s :: segs) = first ++ (nl ++ joinNl nl s segs) := by
  simp [joinNl]

theorem joinNl_snoc (nl first : Bytes) (segs : List Bytes) (s : Bytes) :
    joinNl nl first (segs ++ [s]) = joinNl nl first segs ++ nl ++ s := by
  simp [joinNl, List.append_assoc]

/-- the lines of a first line followed by segments, each behind a terminator `nl`; the last of them is not empty -/
theorem lines_joinNl {nl : Bytes} (hnl : nl = [0x0A] ∨ nl = [0x0D, 0x0A]) {first : Bytes} {segs : List Bytes}
    (hf : NoNl first) (hs : ∀ s ∈ segs, NoNl s) (hlast : ∀ l, (first :: segs).getLast? = some l → l ≠ []) :
    Lines (joinNl nl first segs) (first :: segs) := by
  induction segs generalizing first with
  | nil => rw [joinNl_nil]; exact Lines.last hf (hlast first rfl)
  | cons x r ih =>
    have ht : IsTerm nl (joinNl nl x r) := by rcases hnl with rfl | rfl <;> constructor
    rw [joinNl_cons]
    exact .cons hf ht (ih (hs x (by simp)) (fun s h => hs s (by simp [h]))
      fun l h => hlast l (by rw [List.getLast?_cons_cons]; exact h))

/-- a text that does not end in a line break is its lines but the last, ended by a terminator, and its last line -/
theorem Lines.unsnoc {s : Bytes} {ls : List Bytes} (h : Lines s ls) {b : UInt8} (hb : s.getLast? = some b)
    (hnb : isNlCr b = false) :
    ∃ p init L, s = p ++ L ∧ ls = init ++ [L] ∧ NoNl L ∧ L ≠ [] ∧ Lines p init ∧
      (p = [] ∨ ∃ p' t, p = p' ++ [t] ∧ isNlCr t = true) := by
  induction h with
  | nil => cases hb
  | @last l hl hne => exact ⟨[], [], l, rfl, rfl, hl, hne, .nil, Or.inl rfl⟩
  | @cons l t rest ls hl ht hrest ih =>
    obtain ⟨c, hc, hcn⟩ := ht.getLast?
    have htne : t ≠ [] := by rintro rfl; cases hc
    by_cases hr : rest = []
    · -- the text ends with the terminator
      subst hr
      rw [List.append_nil, getLast?_append_ne _ _ htne, hc] at hb
      cases hb; rw [hcn] at hnb; cases hnb
    · rw [← List.append_assoc, getLast?_append_ne _ _ hr] at hb
      obtain ⟨p, init, L, rfl, rfl, hL, hLne, hp, hpe⟩ := ih hb
      refine ⟨l ++ (t ++ p), l :: init, L, by simp, rfl, hL, hLne, .cons hl ht.of_append hp, Or.inr ?_⟩
      rcases hpe with rfl | ⟨p', t', rfl, ht'⟩
      · obtain ⟨t0, rfl⟩ : ∃ t0, t = t0 ++ [c] := ⟨t.dropLast, by
          rw [List.getLast?_eq_some_iff] at hc; obtain ⟨ys, rfl⟩ := hc; simp⟩
        exact ⟨l ++ t0, c, by simp, hcn⟩
      · exact ⟨l ++ (t ++ p'), t', by simp, ht'⟩

theorem lastLineOf_eq {s L : Bytes} (h : lastLine s = L) (hq : L.getLast? = some 0x27) : lastLineOf s = L := by
  unfold lastLineOf
  simp only [h, hq]
  rfl

/-- **the two line splitters on the closing line**: a line `L` that ends in a quote, behind nothing or behind a
    line-break byte, is what `str::lines().last()` sees - unless that byte is a lone CR, which `str::lines().last()`
    then holds -/
theorem lastLineOf_closing {p L : Bytes} (hL : NoNl L) (hq : L.getLast? = some 0x27)
    (hp : p = [] ∨ ∃ p' t, p = p' ++ [t] ∧ isNlCr t = true) :
    lastLineOf (p ++ L) = L ∨ (0x0D : UInt8) ∈ lastLineOf (p ++ L) := by
  have hlf := noNl_not_mem_lf hL
  have hne : L ≠ [] := by rintro rfl; cases hq
  rcases hp with rfl | ⟨p', t, rfl, ht⟩
  · exact Or.inl (lastLineOf_eq (lastLine_no_nl _ hlf) hq)
  · rw [List.append_assoc, List.singleton_append]
    rcases (by simpa [isNlCr] using ht : t = 0x0A ∨ t = 0x0D) with rfl | rfl
    · exact Or.inl (lastLineOf_eq (lastLine_append p' L hlf) hq)
    · obtain ⟨x, hx⟩ := lastLine_suffix p' (0x0D :: L) (by simp [hlf])
      rw [lastLineOf_eq hx (by rw [List.append_cons, getLast?_append_ne _ _ hne]; exact hq)]
      exact Or.inr (by simp)

theorem lines_refLines (s : Bytes) : Lines s (refLines s) := lines_iff.2 rfl

theorem refLines_noNl (s : Bytes) : ∀ l ∈ refLines s, NoNl l := (lines_refLines s).noNl

/-! ### `lines_custom` on every text -/

theorem crlf_suffix_cons (c : UInt8) (r : Bytes) :
    [0x0D, 0x0A] <:+ c :: r ↔ (c = 0x0D ∧ r = [0x0A]) ∨ [0x0D, 0x0A] <:+ r := by
  rw [List.suffix_cons_iff]; simp [eq_comm]

theorem splitFalse_noNl {l : Bytes} (hl : NoNl l) (cur r : Bytes) :
    splitCustomGo false cur (l ++ r) = splitCustomGo false (l.reverse ++ cur) r := by
  induction l generalizing cur with
  | nil => rfl
  | cons c l ih =>
    rw [List.cons_append, splitFalse_cons, if_neg (by simp [hl c (by simp)]), ih fun x hx => hl x (by simp [hx])]
    simp

theorem crlf_suffix_noNl {l : Bytes} (hl : NoNl l) (r : Bytes) : [0x0D, 0x0A] <:+ l ++ r ↔ [0x0D, 0x0A] <:+ r := by
  induction l with
  | nil => rfl
  | cons c l ih =>
    rw [List.cons_append, crlf_suffix_cons, ih fun x hx => hl x (by simp [hx])]
    exact or_iff_right fun h => absurd (hl c (by simp)) (by rw [h.1]; decide)

theorem leadNl {lead : Bytes} (h : lead = [] ∨ lead = [0x0A]) : ∀ b ∈ lead.reverse, isNlCr b = true := by
  rcases h with rfl | rfl <;> decide

/-- one line and the byte that ends it: the loop gives the line (behind `lead`, before `c`; both are trimmed off) and
    goes on with the flag set iff `c` is CR -/
theorem splitCustom_line {lead l : Bytes} (hlead : lead = [] ∨ lead = [0x0A]) (hl : NoNl l) {c : UInt8}
    (hc : isNlCr c = true) (r : Bytes) :
    (splitCustomGo false lead (l ++ c :: r)).map trimNlCr = l :: (splitCustomGo (c == 0x0D) [] r).map trimNlCr := by
  rw [splitFalse_noNl hl, splitFalse_cons, if_pos hc, List.map_cons, List.reverse_cons, List.reverse_append,
    List.reverse_reverse, trimNlCr_piece _ l [c] (leadNl hlead) (by simpa using hc) hl]

/-- the loop of `lines_custom` on a text with lines `ls`: the pieces, trimmed, are `ls`, plus one empty line when the text
    ends in CR LF (the `\n` is then a piece of its own).  `lead = [LF]` is the LF behind a CR, which the loop puts at the
    front of the next piece and `trimNlCr` takes off again. -/
theorem splitCustom_lines {s : Bytes} {ls : List Bytes} (h : Lines s ls) (lead : Bytes)
    (hlead : lead = [] ∨ lead = [0x0A]) :
    (splitCustomGo false lead s).map trimNlCr =
      ls ++ (if (lead = [0x0A] ∧ s = []) ∨ [0x0D, 0x0A] <:+ s then [[]] else []) := by
  induction h generalizing lead with
  | nil => rcases hlead with rfl | rfl <;> simp [splitCustomGo, trimNlCr, isNlCr]
  | @last l hl hne =>
    have := splitFalse_noNl hl lead []
    rw [List.append_nil] at this
    have hp := trimNlCr_piece _ l [] (leadNl hlead) (by simp) hl
    rw [List.append_nil] at hp
    rw [this, splitCustomGo, if_neg (by simp [hne]), List.map_cons, List.map_nil, List.reverse_append,
      List.reverse_reverse, hp, if_neg, List.append_nil]
    rintro (⟨_, e⟩ | e)
    · exact hne e
    · exact noNl_not_mem_lf hl (e.subset (by simp))
  | @cons l t rest ls hl ht _ ih =>
    simp only [crlf_suffix_noNl hl]
    cases ht with
    | lf =>
      rw [List.singleton_append, splitCustom_line hlead hl (by decide), show ((0x0A : UInt8) == 0x0D) = false from rfl,
        ih [] (.inl rfl)]
      simp [crlf_suffix_cons]
    | crlf =>
      rw [show [0x0D, 0x0A] ++ rest = 0x0D :: 0x0A :: rest from rfl, splitCustom_line hlead hl (by decide),
        beq_self_eq_true,
        show splitCustomGo true [] (0x0A :: rest) = splitCustomGo false [0x0A] rest by rw [splitCustomGo]; simp,
        ih [0x0A] (.inr rfl)]
      simp [crlf_suffix_cons]
    | cr hr =>
      -- the flag set by a lone CR is dropped at the next byte, which is not LF
      have e : splitCustomGo true [] rest = splitCustomGo false [] rest := by
        cases rest with
        | nil => simp [splitCustomGo]
        | cons d r' =>
          have hd : d ≠ 0x0A := fun e => hr r' (by rw [e])
          rw [splitCustomGo, splitCustomGo]
          simp [hd]
      rw [List.singleton_append, splitCustom_line hlead hl (by decide), beq_self_eq_true, e, ih [] (.inl rfl)]
      have : rest ≠ [0x0A] := fun e => hr [] e
      simp [crlf_suffix_cons, this]
/-- **`lines_custom` on every text**: the lines of the text, and one more empty line if it ends in CR LF -/
theorem linesCustom_eq (s : Bytes) : linesCustom s = refLines s ++ (if [0x0D, 0x0A] <:+ s then [[]] else []) := by
  simpa [linesCustom] using splitCustom_lines (lines_refLines s) [] (.inl rfl)

/-- **`lines_custom` splits at LF, CR and CR LF** - nothing else ends a line, no byte of a line is lost -
    for every text that does not end in CR LF -/
theorem linesCustom_eq_refLines (s : Bytes) (h : ¬ ∃ p, s = p ++ [0x0D, 0x0A]) : linesCustom s = refLines s := by
  rw [linesCustom_eq, if_neg (fun ⟨p, hp⟩ => h ⟨p, hp.symm⟩), List.append_nil]

theorem mem_linesCustom {s l : Bytes} (h : l ∈ linesCustom s) : l ∈ refLines s ∨ l = [] := by
  rw [linesCustom_eq] at h
  refine (List.mem_append.1 h).imp_right fun h => ?_
  split at h
  · exact List.mem_singleton.1 h
  · cases h

theorem linesCustom_noNl (c : Bytes) : ∀ l ∈ linesCustom c, NoNl l := fun l hl =>
  (mem_linesCustom hl).elim (refLines_noNl c l) fun e => e ▸ NoNl.nil

theorem linesCustom_eq_nil {s : Bytes} (h : linesCustom s = []) : s = [] := by
  rw [linesCustom_eq] at h
  exact (lines_refLines s).eq_nil_iff.1 (List.append_eq_nil_iff.1 h).1

end Pasfmt
