/-
  What the wrapper stage does to ONE token, said once (`TokStep`, `tokStep_steps`): kind and ignored flag are kept, the
  text changes through applications of the re-indenter only (`MlsReach`), a token that is ignored or not a multi-line
  literal is untouched, and the leading whitespace is kept or dropped.  `TokStep` extends the relation of the chains of
  C12 (`ReachRel`, used in Proofs/MlsPipeline.lean) by the whitespace clause; the frame of C01/C07 (`StageRel`,
  Proofs/WrapStageProps.lean) and well-formed UTF-8 (C15, Proofs/Utf8Pipeline.lean) are readings of it; a property of
  texts that one application of the re-indenter keeps is kept along a chain (`MlsReach.lift`).
-/
import PasfmtModel.Proofs.StageSkeleton

namespace Pasfmt

theorem applyDec_ignored (f : FmtData) (first : Bool) (ind cont : Nat) (d : Dec) :
    (applyDec f first ind cont d).ignored = f.ignored := by rw [applyDec_eq]

namespace MlsPipe

/-! ### chains of applications of the re-indenter -/

/-- one application of the re-indenter, with some pair of counters, that changes the text -/
def MlsStep (S : Settings) (c c' : Bytes) : Prop := ∃ ind cont, mlsRewrite S c ind cont = some c'

/-- `c'` is obtained from `c` by exactly `k` successive applications of the re-indenter (each with its own counters) -/
inductive MlsChain (S : Settings) : Nat → Bytes → Bytes → Prop
  | zero (c : Bytes) : MlsChain S 0 c c
  | succ {k : Nat} {c c1 c2 : Bytes} : MlsChain S k c c1 → MlsStep S c1 c2 → MlsChain S (k + 1) c c2

/-- reflexive-transitive closure of `MlsStep` -/
def MlsReach (S : Settings) (c c' : Bytes) : Prop := ∃ k, MlsChain S k c c'

theorem MlsChain.trans {S : Settings} {k1 k2 : Nat} {a b c : Bytes} (h1 : MlsChain S k1 a b) (h2 : MlsChain S k2 b c) :
    MlsChain S (k1 + k2) a c := by
  induction h2 with
  | zero => exact h1
  | succ _ hs ih => exact MlsChain.succ (ih h1) hs

theorem MlsChain.one {S : Settings} {c c' : Bytes} (h : MlsStep S c c') : MlsChain S 1 c c' := .succ (.zero c) h

theorem MlsReach.refl (S : Settings) (c : Bytes) : MlsReach S c c := ⟨0, .zero c⟩

theorem MlsReach.trans {S : Settings} {a b c : Bytes} (h1 : MlsReach S a b) (h2 : MlsReach S b c) : MlsReach S a c := by
  obtain ⟨k1, h1⟩ := h1
  obtain ⟨k2, h2⟩ := h2
  exact ⟨k1 + k2, h1.trans h2⟩

theorem MlsReach.step {S : Settings} {c c' : Bytes} (h : MlsStep S c c') : MlsReach S c c' := ⟨1, .one h⟩

/-- a relation on texts that holds across every application of the re-indenter holds along a chain -/
theorem MlsReach.lift {S : Settings} {P : Bytes → Bytes → Prop} (refl : ∀ c, P c c)
    (trans : ∀ {a b c}, P a b → P b c → P a c) (step : ∀ {c c'}, MlsStep S c c' → P c c') {c c' : Bytes}
    (h : MlsReach S c c') : P c c' := by
  obtain ⟨k, h⟩ := h
  induction h with
  | zero => exact refl _
  | succ _ hs ih => exact trans ih (step hs)

/-! ### one token -/

/-- a step that leaves the token itself (text, blanks, kind) and the ignored flag alone -/
def FmtOnly (t t' : FTok) : Prop := t'.tok = t.tok ∧ t'.fmt.ignored = t.fmt.ignored

theorem FmtOnly.refl (t : FTok) : FmtOnly t t := ⟨rfl, rfl⟩

theorem FmtOnly.trans {a b c : FTok} (h1 : FmtOnly a b) (h2 : FmtOnly b c) : FmtOnly a c :=
  ⟨h2.1.trans h1.1, h2.2.trans h1.2⟩

theorem fmtOnly_dec : DecRel fun _ => FmtOnly where
  refl _ := FmtOnly.refl
  trans _ _ _ _ := FmtOnly.trans
  dec _ _ _ _ _ _ := ⟨rfl, applyDec_ignored ..⟩

theorem zeroTok_fmtOnly (t : FTok) :
    FmtOnly t (zeroTok t) ∧ (zeroTok t).fmt.ind = t.fmt.ind ∧ (zeroTok t).fmt.cont = t.fmt.cont := by
  unfold zeroTok
  split
  · exact ⟨⟨rfl, rfl⟩, rfl, rfl⟩
  · exact ⟨FmtOnly.refl t, rfl, rfl⟩

/-- one token before/after (part of) the wrapper stage: kind and ignored flag kept; the text changed by applications
    of the re-indenter only; the token untouched if it is ignored, not typed multi-line literal, or `b = false` -/
structure ReachRel (S : Settings) (b : Bool) (t t' : FTok) : Prop where
  kind : t'.tok.kind = t.tok.kind
  ign : t'.fmt.ignored = t.fmt.ignored
  reach : MlsReach S t.tok.content t'.tok.content
  frozen : (t.fmt.ignored = true ∨ isMlsKind t.tok.kind = false ∨ b = false) → t'.tok = t.tok

theorem ReachRel.trans {S : Settings} {b : Bool} {x y z : FTok} (h1 : ReachRel S b x y) (h2 : ReachRel S b y z) :
    ReachRel S b x z := by
  refine ⟨h2.kind.trans h1.kind, h2.ign.trans h1.ign, h1.reach.trans h2.reach, ?_⟩
  intro hf
  have e1 := h1.frozen hf
  have e2 := h2.frozen (by rw [h1.ign, h1.kind]; exact hf)
  exact e2.trans e1

theorem FmtOnly.reachRel (S : Settings) (b : Bool) {t t' : FTok} (h : FmtOnly t t') : ReachRel S b t t' :=
  ⟨by rw [h.1], h.2, by rw [h.1]; exact MlsReach.refl _ _, fun _ => h.1⟩

/-- `ReachRel`, and the leading whitespace is kept or dropped -/
structure TokStep (S : Settings) (b : Bool) (t t' : FTok) : Prop extends ReachRel S b t t' where
  ws : t'.tok.ws = t.tok.ws ∨ t'.tok.ws = []

theorem FmtOnly.tokStep (S : Settings) (b : Bool) {t t' : FTok} (h : FmtOnly t t') : TokStep S b t t' :=
  ⟨h.reachRel S b, Or.inl (by rw [h.1])⟩

theorem TokStep.trans {S : Settings} {b : Bool} {x y z : FTok} (h1 : TokStep S b x y) (h2 : TokStep S b y z) :
    TokStep S b x z :=
  ⟨h1.toReachRel.trans h2.toReachRel, h2.ws.elim (fun e => h1.ws.imp e.trans e.trans) Or.inr⟩

/-- solutions and the zeroing write counters; a string pass rewrites a live multi-line literal and drops its blanks -/
theorem tokStep_steps (S : Settings) : StepRel S fun _ => TokStep S true where
  refl _ t := (FmtOnly.refl t).tokStep S true
  trans _ _ _ _ := TokStep.trans
  dec _ _ _ _ _ _ := FmtOnly.tokStep S true ⟨rfl, applyDec_ignored ..⟩
  mls _ t := by
    rcases mlsUpd_cases S t with e | ⟨c, hni, hkind, hc, e⟩
    · rw [e]; exact (FmtOnly.refl t).tokStep S true
    rw [e]
    refine ⟨⟨rfl, rfl, MlsReach.step ⟨_, _, hc⟩, ?_⟩, Or.inr rfl⟩
    rintro (hf | hf | hf)
    · rw [hni] at hf; cases hf
    · rw [hkind] at hf; cases hf
    · cases hf
  zero _ t := (zeroTok_fmtOnly t).1.tokStep S true

end MlsPipe

end Pasfmt
