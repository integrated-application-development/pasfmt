/-
  The search breaks where it must: wherever `get_formatting_invariant` answers `MustBreak` for a token of a line, the
  decision of every solution `find_optimal_solution` returns (child-line solutions included) is a break: the search
  offers a `Continue` only at a token whose requirement is `MustNotBreak` or `Indifferent`, and there the invariant is
  not `MustBreak`.
-/
import PasfmtModel.Proofs.SearchInvariantsChildLines
import PasfmtModel.Proofs.SearchStage
import PasfmtModel.Proofs.SpacingForm
import PasfmtModel.Proofs.Run

namespace Pasfmt

/-- the decision `d` at token index `i` of `line` respects the invariant "must break" -/
def MBDec (O : Olf) (line : LineA) (i : Nat) (d : Dec) : Prop :=
  O.getFormattingInvariant i line = some .mustBreak → d.toRaw = .brk

/-- every decision of the solution of line `li`, and of every child solution below it, respects "must break" -/
inductive TreeMB (O : Olf) : Nat → FormattingSolution → Prop
  | mk (li : Nat) (ws : LineWhitespace) (decs : List TokenDecision) (pen len : Nat)
      (h : ∀ i d, decs[i]? = some d → MBDec O (O.lines[li]!) i d.decision)
      (hrec : ∀ d ∈ decs, ∀ x ∈ d.childSolutions, TreeMB O x.1 x.2) :
      TreeMB O li (.mk ws decs pen len)

def ChildListMB (O : Olf) (sols : List (Nat × FormattingSolution)) : Prop := ∀ x ∈ sols, TreeMB O x.1 x.2

theorem treeMB_iff_all (O : Olf) (li : Nat) (sol : FormattingSolution) :
    TreeMB O li sol ↔ TreeAll (fun li _ i d => MBDec O (O.lines[li]!) i d.decision) li sol := by
  constructor <;> intro h <;> induction h with
  | mk li ws decs pen len h _ ih => exact .mk li ws decs pen len h ih

theorem treeMB_iff (O : Olf) (li : Nat) (sol : FormattingSolution) :
    TreeMB O li sol ↔ ∀ i d, sol.decisions[i]? = some d →
      MBDec O (O.lines[li]!) i d.decision ∧ ChildListMB O d.childSolutions := by
  simp only [ChildListMB, treeMB_iff_all]
  exact treeAll_iff li sol

def CacheMB (O : Olf) (cache : ChildLineCache) : Prop :=
  ∀ (key : ChildLineInitialConditions) sols, cache[key]? = some sols → ChildListMB O sols

theorem getFormattingRequirement_mayCont (O : Olf) (i : Nat) (line : LineA) (stack : SpecificContextStack)
    (node : FormattingNode) (h : O.getFormattingRequirement i line stack node = .mustNotBreak ∨
      O.getFormattingRequirement i line stack node = .indifferent) :
    O.getFormattingInvariant i line ≠ some .mustBreak := by
  intro hinv
  unfold Olf.getFormattingRequirement at h
  split at h
  · rcases h with h | h <;> cases h
  · simp only [hinv] at h
    generalize parentsSupportBreak stack node = ps at h
    cases ps <;> rcases h with h | h <;> cases h

/-- `find_optimal_solution`, at every depth of the recursion over child lines: a `Continue` is offered only where the
    requirement is `MustNotBreak` or `Indifferent` -/
theorem findOptimalSolution_mb (O : Olf) :
    ∀ fuel : Nat, SolverAll (CacheMB O) (TreeMB O) (O.findOptimalSolution fuel) := by
  refine findOptimalSolution_all O (CacheMB O) (TreeMB O) fun fuel hT cache ws lineIdx fd hc => ?_
  refine findOptimalSolutionWith_each (treeMB_iff_all O)
    O _ hT ws lineIdx fd ?_ (fun _ _ _ _ hmb => hmb) cache hc
  intro n rd req cs tll cc ho hinv
  cases rd with
  | brk => rfl
  | cont =>
    exact absurd hinv (getFormattingRequirement_mayCont _ _ _ _ _ ho.cont)

/-- the search must break at a free token (Model/LayoutCheck.lean: behind a line comment that shares its line with code,
    of a type whose spacing rule can keep the input's spaces) -/
theorem invariant_of_free {ft : FT} {j : Nat} (hf : freeAtB ft j = true) (st : SearchState) (line : LineA) (i : Nat)
    (hi : line.tokens[i]? = some j) : (stageOlf st ft).getFormattingInvariant i line = some .mustBreak := by
  obtain ⟨h0, h1, t, ht, hk⟩ := freeAtB_iff.1 hf
  unfold Olf.getFormattingInvariant
  rw [getPrevTokenTypeForLineIndex_of hi, getTokenTypeForLineIndex_of hi, if_neg (Nat.ne_of_gt h0), stageOlf_getTokenType,
    stageOlf_getTokenType, kindAt, kindAt, h1, ht]
  dsimp only [Option.map_some]
  -- `keepsCur` admits no comment, so the first test fails; the second and the third both answer `MustBreak`
  split
  · rename_i h; rw [Option.some.inj h] at hk; cases hk
  · rename_i h; rw [Option.some.inj h] at hk; cases hk
  · simp only [Bool.false_eq_true, if_false]
    split <;> rfl

theorem TreeMB.congr {O O' : Olf} (h : SameView O O') {li : Nat} {sol : FormattingSolution} (hs : TreeMB O li sol) :
    TreeMB O' li sol :=
  (treeMB_iff_all O' li sol).2 (((treeMB_iff_all O li sol).1 hs).mono fun li _ i d hd => by
    unfold MBDec at hd ⊢
    rw [h.lines, getFormattingInvariant_congr h.kinds]
    exact hd)

theorem CacheMB.congr {O O' : Olf} (h : SameView O O') {cache : ChildLineCache} (hc : CacheMB O cache) :
    CacheMB O' cache :=
  fun key sols hk x hx => (hc key sols hk x hx).congr h

/-- the applied form of a solution: a free token never gets a `Continue`, at any depth -/
inductive SolBrk (lines : List Line) (F : Nat → Prop) : Nat → Sol → Prop
  | mk (li ind cont : Nat) (decs : List (Dec × List (Nat × Sol)))
      (h : ∀ l : Line, lines[li]? = some l → ∀ (i : Nat) (p : Dec × List (Nat × Sol)) (tok : Nat), decs[i]? = some p → l.tokens[i]? = some tok → F tok → p.1 ≠ .cont)
      (hrec : ∀ p ∈ decs, ∀ x ∈ p.2, SolBrk lines F x.1 x.2) :
      SolBrk lines F li (.mk ind cont decs)

theorem TreeMB.toSolBrk {O : Olf} {lines : List Line} {F : Nat → Prop} (hl : O.lines = (lines.map Line.toA).toArray)
    (hF : ∀ (line : LineA) i j, F j → line.tokens[i]? = some j → O.getFormattingInvariant i line = some .mustBreak) :
    ∀ (fuel li : Nat) (sol : FormattingSolution), TreeMB O li sol → SolBrk lines F li (sol.toSol fuel)
  | 0, li, .mk ws decs pen len, _ => by
    simp only [FormattingSolution.toSol]
    exact SolBrk.mk _ _ _ _ (fun l _ i p tok hp => by simp at hp) (fun p hp => by simp at hp)
  | fuel + 1, li, .mk ws decs pen len, h => by
    cases h with
    | mk _ _ _ _ _ h1 hrec =>
      simp only [FormattingSolution.toSol]
      refine SolBrk.mk _ _ _ _ ?_ ?_
      · intro l hl' i p tok hp htok hF'
        rw [List.getElem?_map] at hp
        obtain ⟨d, hd, rfl⟩ := Option.map_eq_some_iff.1 hp
        have htok' : (O.lines[li]!).tokens[i]? = some tok := by
          rw [lines_getElem!_toA O lines hl li l hl', toA_tokens, htok]
        have := h1 i d hd (hF _ i tok hF' htok')
        show d.decision ≠ .cont
        intro hc; rw [hc] at this; cases this
      · intro p hp x hx
        obtain ⟨d, hd, rfl⟩ := List.mem_map.mp hp
        obtain ⟨y, hy, rfl⟩ := List.mem_map.mp hx
        exact TreeMB.toSolBrk hl hF fuel y.1 y.2 (hrec d hd y hy)

/-- token `j` exists and starts a line -/
def nlpos (ft : FT) (j : Nat) : Prop := ∃ f, fmtAt ft j = some f ∧ f.nl > 0

theorem setFmt_brk (ft ft1 : FT) (tok : Nat) (b : Bool) (ind cont : Nat) (d : Dec)
    (h : setFmt ft tok (fun f => applyDec f b ind cont d) = some ft1) (j : Nat) (hd : tok = j → d ≠ .cont)
    (hj : nlpos ft j ∨ j = tok) : nlpos ft1 j := by
  obtain ⟨t, h1, rfl⟩ := setFmt_eq_some.1 h
  unfold nlpos fmtAt at hj ⊢
  by_cases hjt : j = tok
  · subst hjt
    rw [List.getElem?_set_self (getElem?_lt_of_some h1)]
    refine ⟨_, rfl, ?_⟩
    cases d with
    | cont => exact absurd rfl (hd rfl)
    | brk c =>
      simp only [applyDec_eq, nlc]
      split <;> omega
  · rw [List.getElem?_set_ne (Ne.symm hjt)]
    exact hj.resolve_right hjt

-- not an instance of `DecLift`: what holds of the token afterwards depends on which decision it got, and the premise
-- `SolBrk` is a predicate of the solution tree, so the induction has to follow that tree
mutual
theorem applySol_brk (lines : List Line) (F : Nat → Prop) (ft ft1 : FT) (s : Sol) (li : Nat)
    (hs : SolBrk lines F li s) (h : applySol lines ft s li = some ft1) (j : Nat) (hF : F j)
    (hj : nlpos ft j ∨ j ∈ solTokens lines s li) : nlpos ft1 j := by
  cases hs with
  | mk _ ind cont decs h1 hrec =>
    obtain ⟨l, hl, hd⟩ := applySol_eq_some.1 h
    rw [solTokens_mk hl] at hj
    exact applyDecs_brk lines F ind cont l.tokens 0 ft ft1 decs
      (fun k p tok hp htok => h1 l hl k p tok hp (by simpa using htok)) hrec hd j hF hj

theorem applyDecs_brk (lines : List Line) (F : Nat → Prop) (ind cont : Nat) (toks : List Nat) (i : Nat) (ft ft1 : FT)
    (decs : List (Dec × List (Nat × Sol)))
    (h1 : ∀ k p tok, decs[k]? = some p → toks[i + k]? = some tok → F tok → p.1 ≠ .cont)
    (hrec : ∀ p ∈ decs, ∀ x ∈ p.2, SolBrk lines F x.1 x.2)
    (h : applyDecs lines ind cont toks i ft decs = some ft1) (j : Nat) (hF : F j)
    (hj : nlpos ft j ∨ j ∈ decsTokens lines toks i decs) : nlpos ft1 j := by
  cases decs with
  | nil =>
    rw [applyDecs] at h; cases h
    exact hj.resolve_right (by simp [decsTokens])
  | cons dk rest =>
    obtain ⟨d, children⟩ := dk
    obtain ⟨tok, fta, ftb, htok, ha, hb, hc⟩ := applyDecs_cons_eq_some.1 h
    have hset : nlpos ft j ∨ j = tok → nlpos fta j :=
      setFmt_brk ft fta tok _ ind cont d ha j fun e => h1 0 (d, children) tok rfl (by simpa using htok) (e ▸ hF)
    have hch : nlpos fta j ∨ j ∈ childrenTokens lines children → nlpos ftb j :=
      applyChildren_brk lines F fta ftb children (hrec (d, children) List.mem_cons_self) hb j hF
    refine applyDecs_brk lines F ind cont toks (i + 1) ftb ft1 rest (fun k p tok' hp ht => ?_)
      (fun p hp => hrec p (List.mem_cons_of_mem _ hp)) hc j hF ?_
    · exact h1 (k + 1) p tok' (by simpa using hp) (by rw [← Nat.add_assoc, Nat.add_right_comm]; exact ht)
    · rw [mem_decsTokens_cons htok] at hj
      rcases hj with a | a | a | a
      · exact Or.inl (hch (Or.inl (hset (Or.inl a))))
      · exact Or.inl (hch (Or.inl (hset (Or.inr a))))
      · exact Or.inl (hch (Or.inr a))
      · exact Or.inr a

theorem applyChildren_brk (lines : List Line) (F : Nat → Prop) (ft ft1 : FT) (ks : List (Nat × Sol))
    (hrec : ∀ x ∈ ks, SolBrk lines F x.1 x.2)
    (h : applyChildren lines ft ks = some ft1) (j : Nat) (hF : F j)
    (hj : nlpos ft j ∨ j ∈ childrenTokens lines ks) : nlpos ft1 j := by
  cases ks with
  | nil =>
    rw [applyChildren] at h; cases h
    exact hj.resolve_right (by simp [childrenTokens])
  | cons k rest =>
    obtain ⟨li, s⟩ := k
    obtain ⟨fta, ha, hb⟩ := applyChildren_cons_eq_some.1 h
    have hsol : nlpos ft j ∨ j ∈ solTokens lines s li → nlpos fta j :=
      applySol_brk lines F ft fta s li (hrec (li, s) List.mem_cons_self) ha j hF
    refine applyChildren_brk lines F fta ft1 rest (fun x hx => hrec x (List.mem_cons_of_mem _ hx)) hb j hF ?_
    rw [mem_childrenTokens_cons] at hj
    rcases hj with a | a | a
    · exact Or.inl (hsol (Or.inl a))
    · exact Or.inl (hsol (Or.inr a))
    · exact Or.inr a
end

theorem wrapStageFull_free_broken (cfg : Config) (lines : List Line) (ft ftz : FT) (sols : List (Nat × Nat × Sol))
    (h : wrapStageFull cfg lines ft = some (ftz, sols)) (j : Nat) (hF : freeAtB ft j = true)
    (hw : ∃ x ∈ sols, Writes lines x j) : nlpos ftz j := by
  refine wrapStageFull_last_writer (fun f => f.nl > 0) (fun _ h => h) cfg lines ft ftz sols j h
    (fun x hx hwx fa fb ha => ?_) hw
  obtain ⟨sol, e, t⟩ := wrapStageFull_inv CacheMB TreeMB (fun hv hc => hc.congr hv) (fun hv h => h.congr hv)
    (fun O cache i hc => formatLine_all O _ _ (findOptimalSolution_mb O _) cache i hc) (fun O => cacheBy_empty _)
    cfg lines ft ftz sols h x hx
  unfold Writes at hwx
  rw [e] at ha hwx
  exact applySol_brk lines _ fa fb _ x.2.1 (TreeMB.toSolBrk rfl (fun line i _ hj => invariant_of_free hj _ line i) _ _ sol t) ha j hF (Or.inr hwx)

/-- a free token no solution of the search wrote before the stage is written by a solution of the stage
    (`allWritten`) and therefore starts a line at the end: the search must break there -/
theorem free_written_broken (cfg : Config) (lines : List Line) (ft ftz : FT) (sols : List (Nat × Nat × Sol))
    (h : wrapStageFull cfg lines ft = some (ftz, sols))
    (hall : allWritten lines (writtenBefore lines ft) ft.length sols = true) (j : Nat) (t : FTok)
    (ht : ftz[j]? = some t) (hfa : freeAtB ft j = true) (hwb : writtenBefore lines ft j = false) : 0 < t.fmt.nl := by
  have hlt : j < ft.length := wrapStageFull_length h ▸ getElem?_lt_of_some ht
  obtain ⟨x, hx, _, hxj⟩ := (allWritten_iff.1 hall j hlt).resolve_left (by rw [hwb]; exact Bool.false_ne_true)
  obtain ⟨f, hf, hpos⟩ := wrapStageFull_free_broken cfg lines ft ftz sols h j hfa ⟨x, hx, hxj⟩
  unfold fmtAt at hf
  rw [ht] at hf
  simp only [Option.map_some, Option.some.injEq] at hf
  subst hf
  exact hpos

/-- `freeBrokenB` follows from `allWritten` and `freeBeforeBrokenB`: a free token the search writes starts a line
    because the search must break there; only the free tokens the search never writes (verbatim, or the end-of-file
    token written by the end-of-file rule) are still looked at in the result -/
theorem freeBrokenB_of_stage' (cfg : Config) (lines : List Line) (ft ftz : FT) (sols : List (Nat × Nat × Sol))
    (h : wrapStageFull cfg lines ft = some (ftz, sols))
    (hall : allWritten lines (writtenBefore lines ft) ft.length sols = true)
    (hnb : freeBeforeBrokenB lines ft ftz = true) : freeBrokenB ft ftz = true := by
  refine (freeBrokenB_iff ft ftz).2 fun j t ht hfa => ?_
  cases hwb : writtenBefore lines ft j with
  | true => exact (freeBeforeBrokenB_iff lines ft ftz).1 hnb j t ht hfa hwb
  | false => exact free_written_broken cfg lines ft ftz sols h hall j t ht hfa hwb

theorem freeBeforeBrokenB_of_not (lines : List Line) (ft ftz : FT) (hlen : ftz.length ≤ ft.length)
    (hnb : freeNotBeforeB lines ft = true) : freeBeforeBrokenB lines ft ftz = true := by
  refine (freeBeforeBrokenB_iff lines ft ftz).2 fun j t ht hfa hwb => ?_
  unfold freeNotBeforeB at hnb
  have := List.all_eq_true.1 hnb j (List.mem_range.2 (Nat.lt_of_lt_of_le (getElem?_lt_of_some ht) hlen))
  simp [hfa, hwb] at this

theorem freeBeforeBrokenB_of_broken (lines : List Line) (ft ftz : FT) (h : freeBrokenB ft ftz = true) :
    freeBeforeBrokenB lines ft ftz = true :=
  (freeBeforeBrokenB_iff lines ft ftz).2 fun j t ht hfa _ => (freeBrokenB_iff ft ftz).1 h j t ht hfa

theorem freeBrokenB_of_stage (cfg : Config) (lines : List Line) (ft ftz : FT) (sols : List (Nat × Nat × Sol))
    (h : wrapStageFull cfg lines ft = some (ftz, sols))
    (hall : allWritten lines (writtenBefore lines ft) ft.length sols = true)
    (hnb : freeNotBeforeB lines ft = true) : freeBrokenB ft ftz = true :=
  freeBrokenB_of_stage' cfg lines ft ftz sols h hall (freeBeforeBrokenB_of_not lines ft ftz
    (Nat.le_of_eq (wrapStageFull_length h)) hnb)

/-- the premise set with `freeBeforeBrokenB` holds exactly where the one with `freeBrokenB` does -/
theorem layoutPremises_eq (cfg : Config) (alnum : Bytes → Bool) (s1 s2 : Bytes) :
    layoutPremisesB' cfg alnum s1 s2 = layoutPremisesB cfg alnum s1 s2 := by
  rw [layoutPremisesB'_eq, layoutPremisesB_eq]
  -- `congrArg`, not `congr`: that first tries to close the goal by unfolding both checks
  refine congrFun (congrArg Option.any (funext fun p => ?_)) _
  cases lex s2 with
  | none => rfl
  | some raw2 =>
    dsimp only
    refine congrArg (Bool.and _) ?_
    unfold stageHolds
    cases hw : wrapStageFull cfg p.lines p.ft with
    | none => rfl
    | some r =>
      dsimp only
      cases hall : allWritten p.lines (writtenBefore p.lines p.ft) p.ft.length r.2 with
      | false => rfl
      | true =>
        exact Bool.eq_iff_iff.2 ⟨fun h => freeBrokenB_of_stage' cfg _ _ r.1 r.2 hw hall h,
          fun h => freeBeforeBrokenB_of_broken _ _ r.1 h⟩

/-- the premise set with `freeBeforeBrokenB` implies the one with `freeBrokenB` -/
theorem layoutPremisesB_of' (cfg : Config) (alnum : Bytes → Bool) (s1 s2 : Bytes)
    (h : layoutPremisesB' cfg alnum s1 s2 = true) : layoutPremisesB cfg alnum s1 s2 = true :=
  layoutPremises_eq cfg alnum s1 s2 ▸ h

/-- the premise set with `freeBrokenB` implies the one with `freeBeforeBrokenB` -/
theorem layoutPremisesB'_of (cfg : Config) (alnum : Bytes → Bool) (s1 s2 : Bytes)
    (h : layoutPremisesB cfg alnum s1 s2 = true) : layoutPremisesB' cfg alnum s1 s2 = true :=
  (layoutPremises_eq cfg alnum s1 s2).symm ▸ h

end Pasfmt
