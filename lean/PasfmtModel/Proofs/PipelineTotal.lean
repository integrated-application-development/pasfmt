/-
  The closed model `formatFull` answers exactly when its parser stage answers (C04).

  `formatFull cfg alnum s` = scanner → parser model + the three consolidators → ignore marks, voided lines, token
  rules → wrapper stage with the search inside → reconstructor.  The scanner always answers (`lexWith_total`), the
  wrapper stage answers on well-formed lines (`wrapStageFull_total`), the other stages are total functions.  This
  file proves that the lines handed to the wrapper stage are well formed (`LinesOk`) whenever the parser model
  answers, so the parser model is the only stage whose `none` can surface: `formatFull` is the parametrised `format` at
  its own components wherever the parser stage answers (`formatFull_eq_format`).
-/
import PasfmtModel.Proofs.PreStage
import PasfmtModel.Proofs.StageTotalSearch
import PasfmtModel.Proofs.LexTotal
import PasfmtModel.Proofs.ParserParentsMutual
import PasfmtModel.Proofs.ConsolidatorsCdc
import PasfmtModel.Proofs.Run
import PasfmtModel.Proofs.WrapStageProps

namespace Pasfmt

/-! ### a frame rule for `LinesOk` -/

/-- every pass between the parser and the wrapper stage rewrites the lines one by one; `LinesOk` survives when a line
    keeps its parent and keeps its token indices below `n` -/
theorem linesOk_map {lines : List Line} {n : Nat} (f : Line → Line) (h : LinesOk lines n)
    (hf : ∀ l ∈ lines, (f l).parent = l.parent ∧ ((∀ t ∈ l.tokens, t < n) → ∀ t ∈ (f l).tokens, t < n)) :
    LinesOk (lines.map f) n := by
  rw [linesOk_iff]
  intro i l' hl'
  rw [List.getElem?_map] at hl'
  obtain ⟨l, hl, rfl⟩ := Option.map_eq_some_iff.1 hl'
  obtain ⟨hp, ht⟩ := hf l (List.mem_of_getElem? hl)
  exact ⟨ht (h.tokens hl), fun p hpp => h.parent hl (hp ▸ hpp)⟩

/-! ### voiding -/

/-- the void step of `format_into_buf` empties the token list of a line whose tokens are all ignored and retypes it; it
    keeps every other line, the number of lines and every parent -/
theorem voidLines_ok (marks : List Bool) (lines : List Line) (n : Nat) (h : LinesOk lines n) :
    LinesOk (voidLines marks lines) n := by
  unfold voidLines
  split
  · refine linesOk_map _ h fun l _ => ?_
    split
    · exact ⟨rfl, fun _ t ht => by simp at ht⟩
    · exact ⟨rfl, fun ht => ht⟩
  · exact h

/-! ### the parser model and the consolidators -/

/-- the conditional-directive consolidator keeps the number of lines and the parents; a line it expands becomes the
    range from its first to its last token (hence `hs`: sorted lines), a line it voids has no tokens -/
theorem cdcConsolidate_linesOk (kinds : List Kind) (lines : List Line) (n : Nat) (h : LinesOk lines n)
    (hs : ∀ l ∈ lines, l.tokens.Pairwise (· < ·)) : LinesOk (cdcConsolidate kinds lines) n := by
  rw [cdcConsolidate_eq, List.map_map]
  generalize (lines.map (cdcLine1 kinds.toArray)).flatMap (·.2) = D
  refine linesOk_map _ h fun l hl => ?_
  obtain ⟨hp, -, -, -, hb, -⟩ := (cdcLine_rel kinds.toArray D l (hs l hl)).keeps (hs l hl)
  exact ⟨hp, hb n⟩

/-- the package-directive rule changes levels only -/
theorem deindentPackage_linesOk (kinds : List Kind) (lines : List Line) (n : Nat) (h : LinesOk lines n) :
    LinesOk (deindentPackage kinds lines) n := by
  unfold deindentPackage
  split
  · exact linesOk_map _ h fun l _ => by split <;> exact ⟨rfl, fun ht => ht⟩
  · exact h

theorem parseFileFull_linesOk (toks : List (RawKind × Bool)) (o : ParseFullOut) (h : parseFileFull toks = some o) :
    LinesOk (o.lines.map PLine.toLine) toks.length ∧
    ∀ l ∈ o.lines.map PLine.toLine, l.tokens.Pairwise (· < ·) := by
  have hwf := Parents.final_lines_wellformed toks o h
  have hpar := Parents.final_parents toks o h
  constructor
  · rw [linesOk_iff]
    intro i l hl
    rw [List.getElem?_map] at hl
    obtain ⟨pl, hpl, rfl⟩ := Option.map_eq_some_iff.1 hl
    exact ⟨(hwf pl (List.mem_of_getElem? hpl)).2.2, fun p hp => (hpar i pl p hpl hp).1⟩
  · intro l hl
    obtain ⟨pl, hpl, rfl⟩ := List.mem_map.1 hl
    exact (hwf pl hpl).2.1

/-- the lines the parser model hands on, after the three consolidators (the generics consolidator does not touch
    lines) -/
theorem parse_lines_ok (raw : List RawTok) (po : ParserOut) (h : parseAndConsolidate raw = some po) :
    LinesOk po.lines raw.length := by
  obtain ⟨o, ho, rfl⟩ := parseAndConsolidate_eq_some.1 h
  obtain ⟨h1, h2⟩ := parseFileFull_linesOk _ o ho
  rw [maskFlags_length, List.length_map] at h1
  exact deindentPackage_linesOk _ _ _ (cdcConsolidate_linesOk _ _ _ h1 h2)

/-! ### lines and state before the wrapper stage -/

theorem preWrap_linesOk (O : Oracles) (raw : List RawTok) (h : LinesOk (O.parser raw).lines raw.length) :
    LinesOk (preWrap O raw).2.1 (preWrap O raw).2.2.length := by
  rw [preWrap_length]
  exact voidLines_ok _ _ _ h

/-! ### the whole closed model -/

attribute [local irreducible] wrapStageFull preWrap in
/-- **the closed model is the parametrised pipeline at its own components**, as an equation: the scanner always answers
    and the stage answers on the lines of a parse, so the only `none` is the parser model's, and every theorem about
    `format` under the wrapper contracts (`wrapFrame_full`, `wrapKeepsIgnored_full`) is one about `formatFull` -/
theorem formatFull_eq_format (cfg : Config) (alnum : Bytes → Bool) (s : Bytes) :
    formatFull cfg alnum s = (preStage alnum s).map fun p => formatTokens cfg (fullOracles alnum p.po) p.raw := by
  rw [formatFull_eq]
  cases hp : preStage alnum s with
  | none => rfl
  | some p =>
    obtain ⟨raw, po, _, hpo, rfl⟩ := preStage_eq_some.1 hp
    obtain ⟨⟨ftz, sols⟩, hr⟩ :=
      wrapStageFull_total cfg _ _ (preWrap_linesOk (preO alnum po) raw (parse_lines_ok raw po hpo))
    exact (Pre.run_eq_some.2 ⟨ftz, sols, hr, rfl⟩).trans (congrArg some (formatTokens_fullOracles hr).symm)

theorem formatFull_format {cfg : Config} {alnum : Bytes → Bool} {s out : Bytes} (h : formatFull cfg alnum s = some out) :
    ∃ po, format cfg (fullOracles alnum po) s = some out := by
  rw [formatFull_eq_format] at h
  obtain ⟨p, hp, rfl⟩ := Option.map_eq_some_iff.1 h
  obtain ⟨raw, po, hl, _, rfl⟩ := preStage_eq_some.1 hp
  exact ⟨po, format_of_lex hl⟩

/-- C04 for the closed model: the only `none` of `formatFull` is the parser model's `none` (a panic site of the real
    parser, or the model's fuel running out) -/
theorem formatFull_answers_iff_parser_answers (cfg : Config) (alnum : Bytes → Bool) (s : Bytes) :
    (∃ out, formatFull cfg alnum s = some out) ↔
      ∃ raw po, lex s = some raw ∧ parseAndConsolidate raw = some po := by
  simp only [formatFull_eq_format, Option.map_eq_some_iff, preStage_eq_some]
  exact ⟨fun ⟨_, _, ⟨raw, po, hl, hpo, _⟩, _⟩ => ⟨raw, po, hl, hpo⟩,
    fun ⟨raw, po, hl, hpo⟩ => ⟨_, _, ⟨raw, po, hl, hpo, rfl⟩, rfl⟩⟩

theorem formatFull_none_iff (cfg : Config) (alnum : Bytes → Bool) (s : Bytes) :
    formatFull cfg alnum s = none ↔ ∃ raw, lex s = some raw ∧ parseAndConsolidate raw = none := by
  obtain ⟨raw, hraw⟩ : ∃ raw, lex s = some raw := lexWith_total false s
  rw [← Option.not_isSome_iff_eq_none, Option.isSome_iff_exists, formatFull_answers_iff_parser_answers]
  simp [hraw, Option.eq_none_iff_forall_ne_some]

end Pasfmt
