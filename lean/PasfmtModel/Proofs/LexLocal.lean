/-
  Locality of the scanner.  Every sub-lexer is determined by the bytes of its token and at most three bytes of
  lookahead (`runSub_pd`; `PrefixDet`, `Proofs/ScanLemmas`): the identifier and number scanners here, the literal,
  comment and directive scanners through their specifications (`LexSpecs`, `LexSpecs2`).  `trim` (the length of the
  blank tail of the whole input, used only for tokens that run to the end of the input) must lie inside the part `s`
  that is being replaced.  `runSub_pd` and what follows it are stated for the scalar identifier routine
  (`simd = false`); `lexOne_simd` (`Proofs/Simd`) carries a statement over.

  `lexOne_local`: the token found at the head of `p ++ s` — its leading blanks, its end, its kind and
  the scanner state after it — is the same at the head of `p ++ s'` for every `s'`, provided it ends
  at least three bytes before the end of `p` (three bytes = one character of lookahead: U+3000) and
  the blank tail of `p ++ s` lies inside `s`.

  `relexFT_sound`: a successful windowed re-scan (`relexFT`) is the scan of the whole reconstructed text.
-/
import PasfmtModel.Proofs.LexTotal
import PasfmtModel.Model.Relex

namespace Pasfmt

/-! ### identifiers and numbers -/

theorem identAt_local (x s s' : Bytes) (h : 3 ≤ x.length) : identAt (x ++ s') = identAt (x ++ s) := by
  unfold identAt
  rw [headIs_local _ x s s' (by omega), isPrefixOf_append_of_le _ x s' (show u3000.length ≤ _ from h),
    isPrefixOf_append_of_le _ x s (show u3000.length ≤ _ from h)]

theorem identLen_pd : PrefixDet 3 id identLen :=
  (funext identLen_eq_span : identLen = _) ▸ spanLen_pd (by omega) identAt_local

theorem countHex_pd : PrefixDet 1 id countHex := countWhile_pd isHexByte

theorem countBinary_pd : PrefixDet 1 id countBinary := countWhile_pd isBinaryByte

theorem countFullDecimal_pd : PrefixDet 1 id countFullDecimal :=
  .cons fun b => by
    by_cases hb : b = 0x5F
    · subst hb; exact fun _ _ _ _ => rfl
    · simp only [countFullDecimal_cons_ne b _ hb]
      exact (countWhile_pd isDecimalByte).tail b

theorem fracLenF_pd : PrefixDet 2 id fracLenF :=
  .cons fun b => by
    by_cases hb : b = 0x2E
    · subst hb
      intro y s s' h
      simp only [fracLenF_dot, id] at h ⊢
      rw [countFullDecimal_pd y s s' (by simp only [id]; split at h <;> omega)]
    · simp only [fracLenF_not_dot b _ hb]; exact fun _ _ _ _ => rfl

theorem expLenF_pd : PrefixDet 1 id expLenF :=
  .cons fun b => .ite _ (fun y s s' h => by
    cases y with
    | nil => exfalso; cases s <;> simp only [List.nil_append, List.length_nil, id] at h <;> (try split at h) <;> omega
    | cons c y =>
      simp only [List.cons_append, List.length_cons, id] at h ⊢
      by_cases hc : (c == 0x2B || c == 0x2D) = true
      · simp only [hc, if_true] at h ⊢; rw [countFullDecimal_pd.nat y s s' (by omega)]
      · simp only [hc, Bool.false_eq_true, if_false] at h ⊢
        rw [(countFullDecimal_pd.tail c).nat y s s' (by omega)]) fun _ _ _ _ _ => rfl

theorem decNumberRest_pd : PrefixDet 3 id decNumberRest := by
  have key : PrefixDet 3 id (fun l => countDecimal l + (fracLenF (l.drop (countDecimal l))
      + expLenF ((l.drop (countDecimal l)).drop (fracLenF (l.drop (countDecimal l)))))) :=
    ((countWhile_pd isDecimalByte).mono (fun _ => Nat.add_le_add_left (by omega) _)).bind (c := (· + ·))
      (g := fun _ l => fracLenF l + expLenF (l.drop (fracLenF l)))
      (fun _ => (fracLenF_pd.mono (fun _ => Nat.add_le_add_left (by omega) _)).bind (c := (· + ·)) (g := fun _ => expLenF)
        (fun _ => expLenF_pd.mono (fun _ => Nat.add_le_add_left (by omega) _)) (fun _ _ => Nat.le_refl _))
      (fun _ _ => Nat.le_refl _)
  intro x s s' h
  have := key x s s' (by simpa only [decNumberRest_eq, Nat.add_assoc] using h)
  simpa only [decNumberRest_eq, Nat.add_assoc] using this

/-! ### the sub-lexers -/

theorem unicodeIdent_pd :
    PrefixDet 3 id (fun l => countWhile isCont l + identLen (l.drop (countWhile isCont l))) :=
  ((countWhile_pd isCont).mono (fun _ => Nat.add_le_add_left (by omega) _)).bind (c := (· + ·))
    (g := fun _ => identLen) (fun _ => identLen_pd) (fun _ _ => Nat.le_refl _)

/-- every follower of `&` is its first byte and a scan of fixed kind; only the test for U+3000 reads the text -/
theorem ampFollow_pd : PrefixDet 3 Prod.fst ampFollow :=
  .cons fun c =>
    .ite _ (countHex_pd.map (fun n => (1 + n, _)) fun _ => by simp only [id]; omega) fun _ =>
    .ite _ (countBinary_pd.map (fun n => (1 + n, _)) fun _ => by simp only [id]; omega) fun _ =>
    .ite _ (decNumberRest_pd.map (fun n => (1 + n, _)) fun _ => by simp only [id]; omega) fun _ =>
    .ite _ (identLen_pd.map (fun n => (1 + n, _)) fun _ => by simp only [id]; omega) fun _ y s s' h => by
      have hpre : ∀ t : Bytes, List.isPrefixOf [0xE3, 0x80, 0x80] (c :: (y ++ t)) = List.isPrefixOf [0xE3, 0x80, 0x80] (c :: y) :=
        fun t => isPrefixOf_append_of_le _ (c :: y) t (by simp only [List.length_cons, List.length_nil]; omega)
      simp only [hpre] at h ⊢
      split
      · rename_i hc
        simp only [hc, if_true] at h
        rw [unicodeIdent_pd.nat y s s' (by omega)]
      · rfl

theorem ampersandTok_pd : PrefixDet 3 (fun p => p.1 - 1) ampersandTok :=
  ((countWhile_pd (· == 0x26)).mono (fun _ => Nat.add_le_add_left (by omega) _)).bind
    (c := fun n a => (1 + n + a.1, a.2)) (g := fun _ => ampFollow) (fun _ => ampFollow_pd)
    (fun n a => by dsimp only; omega)

/-- `:`, `<`, `>`, `.` and, when no comment or directive starts there, `/` and `(` look at one more
    byte only -/
theorem runSub_head (st : LexState) (sub : SubLexer) (b a : UInt8) (t t' : Bytes) (nlb : Bool) (tF tF' : Unit → Nat)
    (simd : Bool)
    (hsub : sub = .colon ∨ sub = .r_angle ∨ sub = .l_angle ∨ sub = .dot ∨ (sub = .slash ∧ a ≠ 0x2F) ∨
      (sub = .l_paren ∧ a ≠ 0x2A)) :
    runSub st sub b (a :: t) nlb tF simd = runSub st sub b (a :: t') nlb tF' simd := by
  -- `c1 c2 : a ≠ …` let `simp` discharge the side conditions of the second and third alternative of a `match`
  rcases hsub with rfl | rfl | rfl | rfl | ⟨rfl, c1⟩ | ⟨rfl, c1⟩
  · by_cases c1 : a = 0x3D
    · subst c1; rfl
    · simp only [runSub, List.cons.injEq, c1, false_and, false_imp_iff, implies_true]
  · by_cases c1 : a = 0x3D
    · subst c1; rfl
    · simp only [runSub, List.cons.injEq, c1, false_and, false_imp_iff, implies_true]
  · by_cases c1 : a = 0x3D
    · subst c1; rfl
    by_cases c2 : a = 0x3E
    · subst c2; rfl
    · simp only [runSub, List.cons.injEq, c1, c2, false_and, false_imp_iff, implies_true]
  · by_cases c1 : a = 0x2E
    · subst c1; rfl
    by_cases c2 : a = 0x29
    · subst c2; rfl
    · simp only [runSub, List.cons.injEq, c1, c2, false_and, false_imp_iff, implies_true]
  · simp only [runSub, List.cons.injEq, c1, false_and, false_imp_iff, implies_true]
  · by_cases c2 : a = 0x2E
    · subst c2; rfl
    · simp only [runSub, List.cons.injEq, c1, c2, false_and, false_imp_iff, implies_true]

/-- **every sub-lexer is local**: `b` is the token's first byte, the rest of the input is
    `a1 :: a2 :: a3 :: y3` followed by `s`; the token ends at least three bytes before `s`. -/
theorem runSub_pd (st : LexState) (sub : SubLexer) (b a1 a2 a3 : UInt8) (y3 s s' : Bytes) (nlb : Bool)
    (tF tF' : Unit → Nat) (o : LexOut) (ht : tF () ≤ s.length)
    (h : runSub st sub b (a1 :: a2 :: a3 :: (y3 ++ s)) nlb tF false = some o)
    (hlen : o.len + 3 ≤ y3.length + 4) :
    runSub st sub b (a1 :: a2 :: a3 :: (y3 ++ s')) nlb tF' false = some o := by
  have hy : ∀ u : Bytes, a1 :: a2 :: a3 :: (y3 ++ u) = (a1 :: a2 :: a3 :: y3) ++ u := fun _ => rfl
  have hy2 : ∀ u : Bytes, a2 :: a3 :: (y3 ++ u) = (a2 :: a3 :: y3) ++ u := fun _ => rfl
  have hyl : (a1 :: a2 :: a3 :: y3).length = y3.length + 3 := by simp
  have htake : ∀ (n : Nat) (t : Bytes), n ≤ y3.length + 3 →
      (b :: ((a1 :: a2 :: a3 :: y3) ++ t)).take (1 + n) = (b :: a1 :: a2 :: a3 :: y3).take (1 + n) := by
    intro n t hn
    rw [← List.cons_append, List.take_append_of_le_length (by simp only [List.length_cons]; omega)]
  cases sub
  case colon | r_angle | l_angle | dot => exact (runSub_head st _ b a1 _ _ nlb tF' tF false (by simp)).trans h
  case slash =>
    by_cases c1 : a1 = 0x2F
    · subst c1
      simp only [runSub, Option.some.injEq] at h ⊢
      subst h
      rw [hy2 s] at hlen ⊢
      rw [hy2 s', lineCommentEnd_pd.nat (a2 :: a3 :: y3) s s' (by simp only [List.length_cons] at hlen ⊢; omega)]
    · exact (runSub_head st _ b a1 _ _ nlb tF' tF false (by simp [c1])).trans h
  case l_brace =>
    by_cases c1 : a1 = 0x24
    · subst c1
      simp only [runSub, Option.map_eq_some_iff] at h ⊢
      obtain ⟨x, hcd, rfl⟩ := h
      exact ⟨x, compilerDirective_pd [0x24] (a2 :: a3 :: y3) ht hcd (by simp only [List.length_cons] at hlen ⊢; omega), rfl⟩
    · simp only [runSub, List.cons.injEq, c1, false_and, false_imp_iff, implies_true, Option.some.injEq] at h ⊢
      generalize hx : blockComment (tF ()) .brace 1 _ nlb _ = x at h
      subst h
      exact blockComment_pd (trim' := tF' ()) [] (a1 :: a2 :: a3 :: y3) ht hx
        (by simp only [List.length_cons, List.length_nil] at hlen ⊢; omega) ▸ rfl
  case l_paren =>
    by_cases c1 : a1 = 0x2A
    · subst c1
      by_cases c2 : a2 = 0x24
      · subst c2
        simp only [runSub, Option.map_eq_some_iff] at h ⊢
        obtain ⟨x, hcd, rfl⟩ := h
        exact ⟨x, compilerDirective_pd [0x2A, 0x24] (a3 :: y3) ht hcd (by simp only [List.length_cons] at hlen ⊢; omega), rfl⟩
      · simp only [runSub, List.cons.injEq, c2, false_and, false_imp_iff, implies_true,
          Option.some.injEq] at h ⊢
        generalize hx : blockComment (tF ()) .parenStar 2 _ nlb _ = x at h
        subst h
        exact blockComment_pd (trim' := tF' ()) [0x2A] (a2 :: a3 :: y3) ht hx
          (by simp only [List.length_cons, List.length_nil] at hlen ⊢; omega) ▸ rfl
    · exact (runSub_head st _ b a1 _ _ nlb tF' tF false (by simp [c1])).trans h
  case ampersand =>
    rw [hy s, runSub_ampersand] at h
    rw [hy s', runSub_ampersand]
    cases h
    rw [ampersandTok_pd _ s s' (by dsimp only at hlen ⊢; omega)]
  case plus | minus | star | comma | semicolon | equal | caret | address_of | l_brack | r_brack | r_paren
      | unknown => exact h
  all_goals simp only [runSub, Bool.false_eq_true, if_false, hy s, hy s'] at h ⊢
  case text_literal =>
    cases h
    rw [← List.cons_append, ← List.cons_append, textLiteral_pd _ s s' (by
      simp only [List.cons_append, List.length_cons] at hlen ⊢; omega)]
  case binary_number_literal => cases h; rw [countBinary_pd.nat _ s s' (by simp only at hlen; omega)]
  case hex_number_literal => cases h; rw [countHex_pd.nat _ s s' (by simp only at hlen; omega)]
  case dec_number_literal => cases h; rw [decNumberRest_pd.nat _ s s' (by simp only at hlen; omega)]
  case identifier => cases h; rw [identLen_pd.nat _ s s' (by simp only at hlen; omega)]
  case unicode_identifier =>
    cases h
    rw [unicodeIdent_pd.nat _ s s' (by simp only at hlen; omega)]
  case identifier_or_keyword =>
    cases h
    simp only at hlen
    rw [identLen_pd.nat _ s s' (by omega), htake _ s (by omega), htake _ s' (by omega)]
  case asm_label => cases h; rw [(countWhile_pd _).nat _ s s' (by simp only at hlen; omega)]
  case asm_identifier =>
    have hid : identLen ((a1 :: a2 :: a3 :: y3) ++ s) + 1 ≤ o.len := by
      split at h
      · cases h; simp only; omega
      · split at h <;> (cases h; simp only; omega)
    rw [identLen_pd.nat _ s s' (by omega), htake _ s' (by omega)]
    rw [htake _ s (by omega)] at h
    exact h
  case asm_text_literal => cases h; rw [asmTextLiteralRest_pd _ s s' (by simp only at hlen; omega)]
  case asm_number_literal => cases h; rw [asmNumberRest_pd b _ s s' (by simp only at hlen; omega)]

/-! ### one scanner step -/

theorem NonBlankStart.local {y s s' : Bytes} (h : NonBlankStart (y ++ s)) (hy : 3 ≤ y.length) :
    NonBlankStart (y ++ s') := by
  obtain ⟨b, r, hc, hb, hp⟩ := h
  cases y with
  | nil => simp at hy
  | cons a y =>
    cases hc
    exact ⟨_, _, rfl, hb, fun hpre => hp (isPrefix_local (x := _ :: y) hy hpre)⟩

theorem countLeadingWs_pd : PrefixDet 3 id countLeadingWs := by
  intro x s s' (h : countLeadingWs (x ++ s) + 3 ≤ x.length)
  obtain ⟨hu, hr⟩ := countLeadingWs_split (x ++ s)
  generalize countLeadingWs (x ++ s) = n at h hu hr ⊢
  rw [List.take_append_of_le_length (by omega)] at hu
  rw [List.drop_append_of_le_length (by omega)] at hr
  have hn : NonBlankStart (x.drop n ++ s) := hr.resolve_left (by
    intro e; have := congrArg List.length e; simp only [List.length_append, List.length_drop, List.length_nil] at this; omega)
  have := countLeadingWs_append hu (Or.inr (hn.local (s' := s') (by simp only [List.length_drop]; omega)))
  rwa [← List.append_assoc, List.take_append_drop, List.length_take, Nat.min_eq_left (by omega)] at this
theorem lexOne_local (st : LexState) (p s s' : Bytes) (ws e : Nat) (k : RawKind) (st' : LexState)
    (ht : countTrailingWs (p ++ s) ≤ s.length)
    (h : lexOne false st (p ++ s) = some (some (ws, e, k, st'))) (he : e + 3 ≤ p.length) :
    lexOne false st (p ++ s') = some (some (ws, e, k, st')) := by
  obtain ⟨b, r, o, hdrop, ho, _, hpos, rfl, rfl, rfl, rfl⟩ := lexOne_inv h
  have hpos := hpos.pos
  -- the blanks before the token, and with them everything `lexOne` derives from them
  have hcl := countLeadingWs_pd.nat p s s' (by omega)
  have hd : ∀ t : Bytes, (p ++ t).drop (countLeadingWs (p ++ s)) = p.drop (countLeadingWs (p ++ s)) ++ t :=
    fun t => List.drop_append_of_le_length (by omega)
  have hnl : nlBeforeOf st (p ++ s') = nlBeforeOf st (p ++ s) := by
    unfold nlBeforeOf
    rw [hcl, List.take_append_of_le_length (by omega), List.take_append_of_le_length (by omega)]
  rw [hd s] at hdrop
  -- the token's first byte and at least three more lie in `p`
  obtain ⟨a1, a2, a3, y3, hp⟩ : ∃ a1 a2 a3 y3, p.drop (countLeadingWs (p ++ s)) = b :: a1 :: a2 :: a3 :: y3 := by
    have hl : (p.drop (countLeadingWs (p ++ s))).length ≥ 4 := by simp only [List.length_drop]; omega
    match hq : p.drop (countLeadingWs (p ++ s)), hl with
    | c :: a1 :: a2 :: a3 :: y3, _ =>
      rw [hq] at hdrop
      simp only [List.cons_append, List.cons.injEq] at hdrop
      exact ⟨a1, a2, a3, y3, by rw [hdrop.1]⟩
  have hy3 : y3.length + 4 + countLeadingWs (p ++ s) = p.length := by
    have hl := congrArg List.length hp
    simp only [List.length_drop, List.length_cons] at hl
    omega
  rw [hp] at hdrop
  simp only [List.cons_append, List.cons.injEq, true_and] at hdrop
  subst hdrop
  have key := runSub_pd st _ b a1 a2 a3 y3 s s' _ (fun _ => countTrailingWs (p ++ s))
    (fun _ => countTrailingWs (p ++ s')) o ht ho (by omega)
  rw [← hcl]
  exact lexOne_of_runSub _ (by rw [hcl, hd s', hp]; rfl) rfl (by rw [hnl]; exact key)

/-! ### the windowed re-scan -/

theorem reconTake_eq (S : Settings) (ft : FT) (n : Nat) (mb : Bool) :
    reconTake S ft n mb = (reconGo S mb ft).take n := by
  fun_induction reconTake S ft n mb with
  | case1 => rw [reconGo, List.take_nil]
  | case2 t r n mb x h => rw [reconGo, List.take_append_of_le_length h]
  | case3 t r n mb x h ih =>
    rw [reconGo, ih, List.take_append, List.take_of_length_le (Nat.le_of_not_le h)]

theorem countTrailingWs_sentinel (x : Bytes) : countTrailingWs (x ++ [0x41]) = 0 := by
  simp [countTrailingWs, countLeadingWsRev]

/-- one step: the window result transfers to the real rest of the text -/
theorem lexOne_window (st : LexState) (g c rest : Bytes) (ws e : Nat) (k : RawKind) (st' : LexState)
    (h : lexOne false st (g ++ c ++ windowOf (rest.take 3)) = some (some (ws, e, k, st')))
    (he : e = g.length + c.length) :
    lexOne false st (g ++ c ++ rest) = some (some (ws, e, k, st')) := by
  unfold windowOf at h
  by_cases hl : ((rest.take 3).length == 3) = true
  · simp only [hl, if_true] at h
    have hl' : (rest.take 3).length = 3 := by simpa using hl
    have := lexOne_local st (g ++ c ++ rest.take 3) [0x41] (rest.drop 3) ws e k st'
      (by rw [countTrailingWs_sentinel]; simp)
      (by simpa [List.append_assoc] using h)
      (by simp only [List.length_append, hl']; omega)
    simpa [List.append_assoc, List.take_append_drop] using this
  · simp only [hl, Bool.false_eq_true, if_false] at h
    have hlt : rest.length < 3 := by
      have : (rest.take 3).length = min 3 rest.length := List.length_take
      simp at hl
      omega
    rw [List.take_of_length_le (by omega)] at h
    exact h

theorem relexFT_scan (S : Settings) (ft : FT) (st : LexState) (mb : Bool) (ks : List RawKind)
    (h : relexFT S st mb ft = some ks) : Scan false st (reconGo S mb ft) (relexToks S mb ft ks) := by
  fun_induction relexFT S st mb ft generalizing ks
  case case2 st mb t hc heq =>
    cases h
    simp only [reconGo, List.isEmpty_iff.1 hc, List.append_nil, relexToks]
    exact .eof heq
  case case5 st mb t t2 r ws e k st' hone hc ih =>
    obtain ⟨ks', hks, rfl⟩ := Option.map_eq_some_iff.1 h
    simp only [Bool.and_eq_true, beq_iff_eq] at hc
    obtain ⟨rfl, he⟩ := hc
    rw [reconGo, relexToks]
    exact .cons (lexOne_window st _ _ _ _ e k st' (reconTake_eq .. ▸ hone) he) he (ih ks' hks)
  all_goals cases h

theorem relexFT_sound (S : Settings) : ∀ (ft : FT) (st : LexState) (mb : Bool) (ks : List RawKind) (fuel : Nat),
    relexFT S st mb ft = some ks → (reconGo S mb ft).length < fuel →
    lexFuel false fuel st (reconGo S mb ft) = some (relexToks S mb ft ks) :=
  fun ft st mb ks fuel h hf => (relexFT_scan S ft st mb ks h).fuel fuel hf

end Pasfmt
