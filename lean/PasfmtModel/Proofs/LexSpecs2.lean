/-
  Declarative specifications, in the vocabulary of `LexSpecs.lean`, of the sub-lexers that need more
  than a byte class: compiler directives (name, kind, and where the directive ends — for `{$if …}` /
  `{$elseif …}` a grammar of skipped constructs, `DirEnd`, proved equivalent to the expression
  scanner), ampersand tokens, assembler numbers and assembler text literals; with the bounds, `Ends` offsets and
  locality that follow from them.  Where the model (= the Rust code) departs from the naive lexical rule, the doc
  comment of the specification says so.
-/
import PasfmtModel.Proofs.LexSpecs
import PasfmtModel.Proofs.Simd

namespace Pasfmt

/-! ## compiler directives

### name and kind -/

/-- the directive names that make a *conditional* directive token, in lower case, with their kinds -/
def conditionalDirectiveTable : List (Bytes × ConditionalDirectiveKind) :=
  [ ([0x69, 0x66], .dIf),                                   -- if
    ([0x69, 0x66, 0x64, 0x65, 0x66], .dIfdef),              -- ifdef
    ([0x69, 0x66, 0x6E, 0x64, 0x65, 0x66], .dIfndef),       -- ifndef
    ([0x69, 0x66, 0x6F, 0x70, 0x74], .dIfopt),              -- ifopt
    ([0x65, 0x6C, 0x73, 0x65, 0x69, 0x66], .dElseif),       -- elseif
    ([0x65, 0x6C, 0x73, 0x65], .dElse),                     -- else
    ([0x69, 0x66, 0x65, 0x6E, 0x64], .dIfend),              -- ifend
    ([0x65, 0x6E, 0x64, 0x69, 0x66], .dEndif) ]             -- endif

/-- the name of a directive: the maximal run of name bytes after `{$` / `(*$` -/
def directiveName (l : Bytes) : Bytes := l.takeWhile isDirectiveNameByte

/-- kind of the directive called `name`: the table entry spelled like the lower-cased name -/
def directiveKindSpec (name : Bytes) : Option ConditionalDirectiveKind :=
  (conditionalDirectiveTable.find? (fun e => e.1 == asciiLower name)).map (·.2)

theorem conditionalDirectiveType_fst (l : Bytes) :
    (conditionalDirectiveType l).1 = countWhile isDirectiveNameByte l := rfl

/-- looking a key up in an association list, written as the chain of comparisons it performs -/
theorem find?_key_cons {α β : Type} [BEq α] [LawfulBEq α] (a : α) (b : β) (t : List (α × β)) (w : α) :
    (((a, b) :: t).find? (fun e => e.1 == w)).map (·.2) =
      if w == a then some b else (t.find? (fun e => e.1 == w)).map (·.2) := by
  rw [List.find?_cons]
  by_cases h : w = a
  · subst h; simp
  · have : (a == w) = false := by simpa using fun h' => h h'.symm
    simp [this, h]

theorem conditionalDirectiveType_snd (l : Bytes) :
    (conditionalDirectiveType l).2 = directiveKindSpec (directiveName l) := by
  unfold directiveName
  rw [← take_countWhile]
  have e1 : "if".toUTF8.toList = [0x69, 0x66] := by decide +kernel
  have e2 : "ifdef".toUTF8.toList = [0x69, 0x66, 0x64, 0x65, 0x66] := by decide +kernel
  have e3 : "ifndef".toUTF8.toList = [0x69, 0x66, 0x6E, 0x64, 0x65, 0x66] := by decide +kernel
  have e4 : "ifopt".toUTF8.toList = [0x69, 0x66, 0x6F, 0x70, 0x74] := by decide +kernel
  have e5 : "elseif".toUTF8.toList = [0x65, 0x6C, 0x73, 0x65, 0x69, 0x66] := by decide +kernel
  have e6 : "else".toUTF8.toList = [0x65, 0x6C, 0x73, 0x65] := by decide +kernel
  have e7 : "ifend".toUTF8.toList = [0x69, 0x66, 0x65, 0x6E, 0x64] := by decide +kernel
  have e8 : "endif".toUTF8.toList = [0x65, 0x6E, 0x64, 0x69, 0x66] := by decide +kernel
  -- both sides become the same chain of eight comparisons
  simp only [conditionalDirectiveType, e1, e2, e3, e4, e5, e6, e7, e8, directiveKindSpec, conditionalDirectiveTable,
    find?_key_cons, List.find?_nil, Option.map_none]

theorem conditionalDirectiveTable_lower :
    conditionalDirectiveTable.all (fun e => asciiLower e.1 == e.1) = true := by decide +kernel

/-- relational reading of the table lookup: the kind is `k` exactly when the name is, up to ASCII
    letter case, the spelling of the table entry for `k` -/
theorem directiveKindSpec_some_iff (name : Bytes) (k : ConditionalDirectiveKind) :
    directiveKindSpec name = some k ↔
      ∃ w, (w, k) ∈ conditionalDirectiveTable ∧ eqIgnoreCase name w = true := by
  have hlow := conditionalDirectiveTable_lower
  rw [List.all_eq_true] at hlow
  unfold directiveKindSpec
  constructor
  · intro h
    rw [Option.map_eq_some_iff] at h
    obtain ⟨e, he, rfl⟩ := h
    refine ⟨e.1, List.mem_of_find?_eq_some he, ?_⟩
    have h1 := List.find?_some he
    have h2 := hlow e (List.mem_of_find?_eq_some he)
    simp only [beq_iff_eq] at h1 h2
    unfold eqIgnoreCase
    rw [h2, h1]; simp
  · rintro ⟨w, hw, hic⟩
    have h2 := hlow (w, k) hw
    simp only [beq_iff_eq] at h2
    unfold eqIgnoreCase at hic
    rw [h2] at hic
    rw [beq_iff_eq.1 hic]
    -- the spellings of the table are pairwise different, so the lookup finds this very entry
    clear hic h2
    simp only [conditionalDirectiveTable, List.mem_cons, Prod.mk.injEq, List.not_mem_nil, or_false] at hw
    rcases hw with ⟨rfl, rfl⟩ | ⟨rfl, rfl⟩ | ⟨rfl, rfl⟩ | ⟨rfl, rfl⟩ | ⟨rfl, rfl⟩ | ⟨rfl, rfl⟩ | ⟨rfl, rfl⟩ | ⟨rfl, rfl⟩ <;>
      decide +kernel

theorem directiveKindSpec_case (name : Bytes) :
    directiveKindSpec (asciiLower name) = directiveKindSpec name ∧
    directiveKindSpec (asciiUpper name) = directiveKindSpec name := by
  unfold directiveKindSpec
  rw [asciiLower_idem, asciiLower_upper]
  exact ⟨rfl, rfl⟩

/-! ### plain directives (every name except `if` / `elseif`) -/

theorem no_closer_in_name (k : BlockCommentKind) (l : Bytes) (j : Nat)
    (hj : j < countWhile isDirectiveNameByte l) : ¬ OccursAt (closer k) l j := by
  intro hc
  have hb : ∀ c p, closer k = c :: p → isDirectiveNameByte c = false := by
    intro c p h; cases k <;> (simp only [closer, List.cons.injEq] at h; rw [← h.1]; decide)
  cases hk : closer k with
  | nil => exact closer_ne_nil k hk
  | cons c p =>
    rw [hk] at hc
    have h1 := occursAt_head c p l j hc
    have h2 := countWhile_all isDirectiveNameByte l j hj c h1
    rw [hb c p hk] at h2
    exact absurd h2 (by simp)

/-- is `name` (any letter case) one of the two directives whose body is an expression:
    `if`, `elseif` -/
def isExprName (name : Bytes) : Bool := isExprDirective (directiveKindSpec name)

/-- declarative result `(token length, kind)` of scanning a directive whose name is not `if` /
    `elseif`; `l` = the text after `{$` resp. `(*$`, `openLen` = 2 resp. 3, `tokLen` = number of
    bytes from the opener to the end of the text, `trim` = blank run at the end of the text -/
inductive PlainDirectiveSpec (kind : BlockCommentKind) (trim openLen tokLen : Nat) (l : Bytes) :
    Nat × Option ConditionalDirectiveKind → Prop
  /-- terminated: the token ends right after the first occurrence of the closer in `l` -/
  | closed (i : Nat) (h : FirstOcc (closer kind) l i) :
      PlainDirectiveSpec kind trim openLen tokLen l
        (openLen + (i + (closer kind).length), directiveKindSpec (directiveName l))
  /-- unterminated: to the end of the text minus the trailing blanks -/
  | unterminated (h : ∀ j, ¬ OccursAt (closer kind) l j) :
      PlainDirectiveSpec kind trim openLen tokLen l (tokLen - trim, directiveKindSpec (directiveName l))

theorem directiveName_length (l : Bytes) : (directiveName l).length = (conditionalDirectiveType l).1 := by
  unfold directiveName; rw [← countWhile_eq_takeWhile]; rfl

theorem PlainDirectiveSpec.unique {kind : BlockCommentKind} {trim openLen tokLen : Nat} {l : Bytes}
    {x y : Nat × Option ConditionalDirectiveKind}
    (hx : PlainDirectiveSpec kind trim openLen tokLen l x) (hy : PlainDirectiveSpec kind trim openLen tokLen l y) :
    x = y := by
  cases hx with
  | closed i hi =>
    cases hy with
    | closed j hj => rw [FirstOcc.unique hi hj]
    | unterminated h => exact absurd hi.occurs (h i)
  | unterminated h =>
    cases hy with
    | closed j hj => exact absurd hj.occurs (h j)
    | unterminated _ => rfl

/-! ### one round of the directive expression scanner -/

/-- the model's scan for the end of a directive body -/
def dirEndFn (trim fuel : Nat) (kind : BlockCommentKind) (expr : Bool) (l : Bytes) : Option (Option Nat) :=
  if expr then findDirectiveExprEnd trim fuel kind l else some (findBlockCommentEnd kind l)

/-- the scan of a directive body `r` (the text after `{$` / `(*$`) behind its name, in the vocabulary of the grammar -/
def nestedInner (trim f : Nat) (k2 : BlockCommentKind) (r : Bytes) : Option (Option Nat) :=
  dirEndFn trim f k2 (isExprName (directiveName r)) (r.drop (directiveName r).length)

theorem isExprName_eq (body : Bytes) :
    isExprName (directiveName body) = isExprDirective (conditionalDirectiveType body).2 := by
  unfold isExprName; rw [conditionalDirectiveType_snd]

/-- … is what the model computes with `conditionalDirectiveType` -/
theorem nestedInner_eq (trim f : Nat) (k2 : BlockCommentKind) (r : Bytes) :
    dirEndFn trim f k2 (isExprDirective (conditionalDirectiveType r).2) (r.drop (conditionalDirectiveType r).1) =
      nestedInner trim f k2 r := by
  unfold nestedInner; rw [isExprName_eq, directiveName_length]

def contAt (trim f : Nat) (kind : BlockCommentKind) (l : Bytes) (n : Nat) : Option (Option Nat) :=
  shiftEnd n (findDirectiveExprEnd trim f kind (l.drop n))

def nestedAt (trim f : Nat) (kind : BlockCommentKind) (l : Bytes) (skip : Nat) (k2 : BlockCommentKind) (r : Bytes) : Option (Option Nat) :=
  match nestedInner trim f k2 r with
  | none => none
  | some none => some none
  | some (some e) => contAt trim f kind l (skip + (directiveName r).length + e)

/-- the length of the item at the head of the text, by the shapes of the grammar (`DirItem`) -/
def dirItemLen (trim : Nat) : Bytes → Nat
  | 0x28 :: 0x2A :: r => 2 + blockCommentEndOrEof .parenStar trim r
  | 0x7B :: r => 1 + blockCommentEndOrEof .brace trim r
  | 0x27 :: r => (textLiteral (0x27 :: r)).1
  | 0x2F :: 0x2F :: r => 2 + lineCommentEnd r
  | _ => 1

/-- one round of the scanner on a text that does not start with the directive's own closer, by the shapes of the
    grammar (`DirEnd`); its case principle `fdeRound.fun_cases` is the case analysis of how the text goes on -/
def fdeRound (trim f : Nat) (kind : BlockCommentKind) : Bytes → Option (Option Nat)
  | [] => some none
  | 0x28 :: 0x2A :: 0x24 :: body => nestedAt trim f kind (0x28 :: 0x2A :: 0x24 :: body) 3 .parenStar body
  | 0x7B :: 0x24 :: body => nestedAt trim f kind (0x7B :: 0x24 :: body) 2 .brace body
  | l => contAt trim f kind l (dirItemLen trim l)

/-- the side conditions of the grammar ("not followed by `c`") as the model tests them -/
theorem ne_cons_iff_head? {r : Bytes} {c : UInt8} : (∀ t, r ≠ c :: t) ↔ ¬ r.head? = some c := by
  cases r <;> simp

/-- **one round of the model's scanner, in the shapes of the grammar**: the only place where the model's byte tests
    (`head?`, `tail.head?`) are compared with list patterns -/
theorem fde_succ (trim f : Nat) (kind : BlockCommentKind) (l : Bytes) :
    findDirectiveExprEnd trim (f + 1) kind l =
      if closer kind <+: l then some (some (closer kind).length) else fdeRound trim f kind l := by
  have hno : ∀ (b : UInt8) r, b ≠ 0x2A → b ≠ 0x7D → ¬ closer kind <+: b :: r := by
    intro b r h1 h2; cases kind <;> simp [closer, Ne.symm h1, Ne.symm h2]
  fun_cases fdeRound trim f kind l
  · cases kind <;> simp [closer, findDirectiveExprEnd]
  · rw [if_neg (hno _ _ (by decide) (by decide))]; unfold nestedAt; rw [← nestedInner_eq, directiveName_length]
    cases kind <;> rfl
  · rw [if_neg (hno _ _ (by decide) (by decide))]; unfold nestedAt; rw [← nestedInner_eq, directiveName_length]
    cases kind <;> rfl
  · rename_i h1 h2 h3
    fun_cases dirItemLen trim l
    · simp only [← ne_eq, ne_cons_iff_head?, List.cons.injEq, true_and] at h2
      rw [if_neg (hno _ _ (by decide) (by decide)), findDirectiveExprEnd]
      simp [h2, contAt]
    · simp only [← ne_eq, ne_cons_iff_head?, List.cons.injEq, true_and] at h3
      rw [if_neg (hno _ _ (by decide) (by decide)), findDirectiveExprEnd]
      simp [h3, contAt]
    · rw [if_neg (hno _ _ (by decide) (by decide)), findDirectiveExprEnd]
      simp [contAt]
    · rw [if_neg (hno _ _ (by decide) (by decide)), findDirectiveExprEnd]
      simp [contAt]
    · rename_i h4 h5 h6 h7
      cases l with
      | nil => exact absurd rfl h1
      | cons b r =>
        have c5 : (b == 0x28 && r.head? == some 0x2A) = false := by
          simpa using fun hb => ne_cons_iff_head?.1 fun t ht => h4 t (by rw [hb, ht])
        have c8 : (b == 0x2F && r.head? == some 0x2F) = false := by
          simpa using fun hb => ne_cons_iff_head?.1 fun t ht => h7 t (by rw [hb, ht])
        have c6 : (b == 0x7B) = false := by simpa using fun hb => h5 r (by rw [hb])
        have c7 : (b == 0x27) = false := by simpa using fun hb => h6 r (by rw [hb])
        rw [findDirectiveExprEnd]
        simp only [c5, c6, c7, c8, Bool.false_and, Bool.false_eq_true, if_false]
        cases kind <;> cases r <;> simp [closer, contAt, @eq_comm _ b, @eq_comm _ (0x29 : UInt8)]

/-! ### the expression scanner of `{$if …}` / `{$elseif …}` -/

/-- the opening delimiter of the two kinds of block comment: `{` and `(*` -/
def opener : BlockCommentKind → Bytes
  | .brace => [0x7B]
  | .parenStar => [0x28, 0x2A]

/-- a construct at the head of the text that the expression scanner skips as a whole, with its
    length (nested directives `{$…}` / `(*$…*)` are not items, see `DirEnd`) -/
inductive DirItem (trim : Nat) : Bytes → Nat → Prop
  /-- a block comment `{…}` / `(*…*)` (opener not followed by `$`), up to its first closer -/
  | comment (k : BlockCommentKind) (r : Bytes) (i : Nat) (hnd : ∀ t, r ≠ 0x24 :: t)
      (h : FirstOcc (closer k) r i) :
      DirItem trim (opener k ++ r) ((opener k).length + (i + (closer k).length))
  /-- an unterminated block comment: everything up to the trailing blanks of the text -/
  | commentOpen (k : BlockCommentKind) (r : Bytes) (hnd : ∀ t, r ≠ 0x24 :: t)
      (h : ∀ j, ¬ OccursAt (closer k) r j) :
      DirItem trim (opener k ++ r) ((opener k).length + (r.length - trim))
  /-- a text literal that starts with `'`, as scanned by `text_literal` (`TextLiteralSpec`), whatever
      its kind: with its `#` escapes and further quoted segments, multi-line, or unterminated (then
      up to the end of the line) -/
  | text (r : Bytes) (n : Nat) (tk : TextLiteralKind) (h : TextLiteralSpec (0x27 :: r) (n, tk)) :
      DirItem trim (0x27 :: r) n
  /-- a `//` comment up to (not including) the end of the line -/
  | lineComment (r : Bytes) (n : Nat) (h : LongestPrefixIn NoLineBreak r n) :
      DirItem trim (0x2F :: 0x2F :: r) (2 + n)
  /-- any other single byte (one that does not open one of the constructs above) -/
  | other (b : UInt8) (r : Bytes) (hb : b ≠ 0x7B ∧ b ≠ 0x27) (h1 : b = 0x28 → ∀ t, r ≠ 0x2A :: t)
      (h2 : b = 0x2F → ∀ t, r ≠ 0x2F :: t) :
      DirItem trim (b :: r) 1

/-- **Where a directive ends.**  `DirEnd trim kind expr l res`: for a directive written with the
    brackets of `kind` whose text after the name is `l`, the end offset (relative to `l`, just after
    the closer) is `res`; `none` = the directive is not terminated.  `expr` tells whether the
    directive is `$if` / `$elseif` (its body is an expression) or any other directive. -/
inductive DirEnd (trim : Nat) : BlockCommentKind → Bool → Bytes → Option Nat → Prop
  /-- not an expression directive: right after the first closer -/
  | plainClosed (kind : BlockCommentKind) (l : Bytes) (i : Nat) (h : FirstOcc (closer kind) l i) :
      DirEnd trim kind false l (some (i + (closer kind).length))
  /-- … and unterminated if there is none -/
  | plainOpen (kind : BlockCommentKind) (l : Bytes) (h : ∀ j, ¬ OccursAt (closer kind) l j) :
      DirEnd trim kind false l none
  /-- expression: the end of the text is reached: unterminated -/
  | eof (kind : BlockCommentKind) : DirEnd trim kind true [] none
  /-- expression: the closer of the directive's own bracket kind at the head: the end -/
  | close (kind : BlockCommentKind) (l : Bytes) (h : closer kind <+: l) :
      DirEnd trim kind true l (some (closer kind).length)
  /-- expression: an item at the head is skipped -/
  | skip (kind : BlockCommentKind) (l : Bytes) (n : Nat) (res : Option Nat) (hc : ¬ closer kind <+: l)
      (hi : DirItem trim l n) (hr : DirEnd trim kind true (l.drop n) res) :
      DirEnd trim kind true l (res.map (n + ·))
  /-- expression: a nested directive (either bracket kind, any name) is skipped up to *its* end,
      determined by the same rules (recursively for a nested `$if` / `$elseif`) -/
  | nested (kind k2 : BlockCommentKind) (body : Bytes) (e : Nat) (res : Option Nat)
      (hn : DirEnd trim k2 (isExprName (directiveName body)) (body.drop (directiveName body).length) (some e))
      (hr : DirEnd trim kind true (body.drop ((directiveName body).length + e)) res) :
      DirEnd trim kind true (opener k2 ++ 0x24 :: body)
        (res.map (((opener k2).length + 1 + (directiveName body).length + e) + ·))
  /-- expression: an unterminated nested directive makes the outer one unterminated -/
  | nestedOpen (kind k2 : BlockCommentKind) (body : Bytes)
      (hn : DirEnd trim k2 (isExprName (directiveName body)) (body.drop (directiveName body).length) none) :
      DirEnd trim kind true (opener k2 ++ 0x24 :: body) none

theorem shiftEnd_some_map (n : Nat) (res : Option Nat) : shiftEnd n (some res) = some (res.map (n + ·)) := by
  cases res <;> rfl

theorem bcee_closed (k : BlockCommentKind) (trim : Nat) (r : Bytes) (i : Nat) (h : FirstOcc (closer k) r i) :
    blockCommentEndOrEof k trim r = i + (closer k).length := by
  unfold blockCommentEndOrEof
  rw [(findBlockCommentEnd_some_iff k r _).2 ⟨i, rfl, h⟩]

theorem bcee_open (k : BlockCommentKind) (trim : Nat) (r : Bytes) (h : ∀ j, ¬ OccursAt (closer k) r j) :
    blockCommentEndOrEof k trim r = r.length - trim := by
  unfold blockCommentEndOrEof
  rw [(findBlockCommentEnd_none_iff k r).2 h]

theorem dirItem_comment (trim : Nat) (k : BlockCommentKind) (r : Bytes) (hnd : ∀ t, r ≠ 0x24 :: t) :
    DirItem trim (opener k ++ r) ((opener k).length + blockCommentEndOrEof k trim r) := by
  unfold blockCommentEndOrEof
  rcases findBlockCommentEnd_cases k r with ⟨i, he, hi⟩ | ⟨he, hn⟩ <;> rw [he]
  · exact .comment k r i hnd hi
  · exact .commentOpen k r hnd hn

/-- the model's item length satisfies the item grammar (when the text neither ends nor starts with a nested directive) -/
theorem dirItem_sat (trim : Nat) (l : Bytes) (h1 : l ≠ []) (h2 : ∀ body, l ≠ 0x28 :: 0x2A :: 0x24 :: body)
    (h3 : ∀ body, l ≠ 0x7B :: 0x24 :: body) : DirItem trim l (dirItemLen trim l) := by
  fun_cases dirItemLen trim l
  · exact dirItem_comment trim .parenStar _ (fun t ht => h2 t (by rw [ht]))
  · exact dirItem_comment trim .brace _ (fun t ht => h3 t (by rw [ht]))
  · exact .text _ _ _ (textLiteral_sat _)
  · exact .lineComment _ _ (lineCommentEnd_longest _)
  · rename_i h4 h5 h6 h7
    cases l with
    | nil => exact absurd rfl h1
    | cons b r =>
      exact .other b r ⟨fun hb => h5 r (by rw [hb]), fun hb => h6 r (by rw [hb])⟩
        (fun hb t ht => h4 t (by rw [hb, ht])) (fun hb t ht => h7 t (by rw [hb, ht]))

/-- … and the item grammar determines the length, excludes the end of the text and a nested directive at the head,
    and every item is non-empty -/
theorem dirItem_only (trim : Nat) (l : Bytes) (n : Nat) (h : DirItem trim l n) :
    l ≠ [] ∧ (∀ body, l ≠ 0x28 :: 0x2A :: 0x24 :: body) ∧ (∀ body, l ≠ 0x7B :: 0x24 :: body) ∧
      n = dirItemLen trim l ∧ 1 ≤ n := by
  have comment : ∀ k r, (∀ t, r ≠ 0x24 :: t) → (opener k ++ r ≠ [] ∧ (∀ body, opener k ++ r ≠ 0x28 :: 0x2A :: 0x24 :: body) ∧
      (∀ body, opener k ++ r ≠ 0x7B :: 0x24 :: body)) ∧
      (opener k).length + blockCommentEndOrEof k trim r = dirItemLen trim (opener k ++ r) ∧ 1 ≤ (opener k).length := by
    intro k r hnd
    cases k with
    | parenStar => exact ⟨⟨nofun, fun body hb => hnd body (by simpa [opener] using hb), by simp [opener]⟩, rfl, by decide⟩
    | brace => exact ⟨⟨nofun, by simp [opener], fun body hb => hnd body (by simpa [opener] using hb)⟩, rfl, by decide⟩
  cases h with
  | comment k r i hnd h =>
    obtain ⟨hs, hn, hp⟩ := comment k r hnd
    rw [bcee_closed k trim r i h] at hn
    exact ⟨hs.1, hs.2.1, hs.2.2, hn, by omega⟩
  | commentOpen k r hnd h =>
    obtain ⟨hs, hn, hp⟩ := comment k r hnd
    rw [bcee_open k trim r h] at hn
    exact ⟨hs.1, hs.2.1, hs.2.2, hn, by omega⟩
  | text r n tk h =>
    have hn : n = (textLiteral (0x27 :: r)).1 := by rw [← textLiteral_only _ _ h]
    exact ⟨nofun, nofun, nofun, hn, hn ▸ textLiteral_pos 0x27 r (Or.inl rfl)⟩
  | lineComment r n h =>
    refine ⟨nofun, nofun, nofun, ?_, by omega⟩
    rw [LongestPrefixIn.unique h (lineCommentEnd_longest r)]
    rfl
  | other b r hb h1 h2 =>
    refine ⟨nofun, fun body hx => ?_, fun body hx => ?_, ?_, Nat.le_refl _⟩
    · cases hx; exact h1 rfl _ rfl
    · cases hx; exact hb.1 rfl
    · symm
      apply dirItemLen.eq_5
      · rintro t ht; cases ht; exact h1 rfl _ rfl
      · rintro t ht; cases ht; exact hb.1 rfl
      · rintro t ht; cases ht; exact hb.2 rfl
      · rintro t ht; cases ht; exact h2 rfl _ rfl

theorem DirItem.pos {trim : Nat} {l : Bytes} {n : Nat} (h : DirItem trim l n) : 1 ≤ n ∧ 1 ≤ l.length := by
  obtain ⟨h1, -, -, -, hpos⟩ := dirItem_only trim l n h
  exact ⟨hpos, List.length_pos_iff.2 h1⟩

/-- an item is skipped -/
theorem fde_item {trim : Nat} (f : Nat) {kind : BlockCommentKind} {l : Bytes} {n : Nat} (hc : ¬ closer kind <+: l)
    (hi : DirItem trim l n) : findDirectiveExprEnd trim (f + 1) kind l = contAt trim f kind l n := by
  obtain ⟨h1, h2, h3, rfl, -⟩ := dirItem_only trim l n hi
  rw [fde_succ, if_neg hc, fdeRound.eq_4 trim f kind l h1 h2 h3]

theorem fde_nested (trim f : Nat) (kind k2 : BlockCommentKind) (body : Bytes) :
    findDirectiveExprEnd trim (f + 1) kind (opener k2 ++ 0x24 :: body) =
      nestedAt trim f kind (opener k2 ++ 0x24 :: body) ((opener k2).length + 1) k2 body := by
  rw [fde_succ, if_neg (by cases kind <;> cases k2 <;> simp [closer, opener])]
  cases k2 <;> rfl

theorem contAt_of (trim f : Nat) (kind : BlockCommentKind) (l : Bytes) (n : Nat) (res : Option Nat)
    (h : findDirectiveExprEnd trim f kind (l.drop n) = some res) :
    contAt trim f kind l n = some (res.map (n + ·)) := by
  unfold contAt; rw [h, shiftEnd_some_map]

/-- behind a nested directive `opener $ name body…` of which `a + e` bytes after the `$` are consumed -/
theorem drop_nested (k2 : BlockCommentKind) (body : Bytes) (a e : Nat) :
    (opener k2 ++ 0x24 :: body).drop ((opener k2).length + 1 + a + e) = body.drop (a + e) := by
  rw [show (opener k2).length + 1 + a + e = (opener k2).length + (1 + (a + e)) by omega, ← List.drop_drop,
    List.drop_left, Nat.add_comm 1, List.drop_succ_cons]

theorem dirEnd_plain (trim : Nat) (kind : BlockCommentKind) (l : Bytes) :
    DirEnd trim kind false l (findBlockCommentEnd kind l) := by
  rcases findBlockCommentEnd_cases kind l with ⟨i, he, hi⟩ | ⟨he, hn⟩ <;> rw [he]
  · exact .plainClosed kind l i hi
  · exact .plainOpen kind l hn

/-- how the text goes on, in the vocabulary of the grammar: it ends, starts with the directive's own closer, with a
    nested directive, or with an item -/
inductive FdeHead (trim : Nat) (kind : BlockCommentKind) : Bytes → Prop
  | nil : FdeHead trim kind []
  | close (l : Bytes) (h : closer kind <+: l) : FdeHead trim kind l
  | nested (k2 : BlockCommentKind) (body : Bytes) : FdeHead trim kind (opener k2 ++ 0x24 :: body)
  | item (l : Bytes) (n : Nat) (hc : ¬ closer kind <+: l) (hi : DirItem trim l n) : FdeHead trim kind l

theorem fdeHead (trim : Nat) (kind : BlockCommentKind) (l : Bytes) : FdeHead trim kind l := by
  by_cases hc : closer kind <+: l
  · exact .close l hc
  induction l using fdeRound.fun_cases with
  | case1 => exact .nil
  | case2 body => exact .nested .parenStar body
  | case3 body => exact .nested .brace body
  | case4 l h1 h2 h3 => exact .item l _ hc (dirItem_sat trim l h1 h2 h3)

theorem contAt_eq_some (trim f : Nat) (kind : BlockCommentKind) (l : Bytes) (n : Nat) (res : Option Nat)
    (h : contAt trim f kind l n = some res) :
    ∃ r', findDirectiveExprEnd trim f kind (l.drop n) = some r' ∧ res = r'.map (n + ·) := by
  unfold contAt at h
  cases hx : findDirectiveExprEnd trim f kind (l.drop n) with
  | none => rw [hx] at h; cases h
  | some r' => rw [hx, shiftEnd_some_map] at h; exact ⟨r', rfl, (Option.some.inj h).symm⟩

/-- whatever the fuel, a result of the scanner is allowed by the grammar -/
theorem dirEnd_sound (trim : Nat) : ∀ (f : Nat) (kind : BlockCommentKind) (expr : Bool) (l : Bytes) (res : Option Nat),
    dirEndFn trim f kind expr l = some res → DirEnd trim kind expr l res := by
  intro f
  induction f with
  | zero =>
    intro kind expr l res h
    cases expr with
    | false => cases h; exact dirEnd_plain trim kind l
    | true => simp [dirEndFn, findDirectiveExprEnd] at h
  | succ f ih =>
    intro kind expr l res h
    cases expr with
    | false => cases h; exact dirEnd_plain trim kind l
    | true =>
      simp only [dirEndFn, if_true] at h
      have cont : ∀ n res, contAt trim f kind l n = some res →
          ∃ r', res = r'.map (n + ·) ∧ DirEnd trim kind true (l.drop n) r' := by
        intro n res hres
        obtain ⟨r', h1, h2⟩ := contAt_eq_some _ _ _ _ _ _ hres
        exact ⟨r', h2, ih kind true _ r' (by simpa [dirEndFn] using h1)⟩
      cases fdeHead trim kind l with
      | nil => simp only [findDirectiveExprEnd, Option.some.injEq] at h; exact h ▸ .eof kind
      | close l hcl => rw [fde_succ, if_pos hcl] at h; cases h; exact .close kind _ hcl
      | nested k2 body =>
        rw [fde_nested] at h
        unfold nestedAt nestedInner at h
        cases hi : dirEndFn trim f k2 (isExprName (directiveName body)) (body.drop (directiveName body).length) with
        | none => rw [hi] at h; cases h
        | some o =>
          rw [hi] at h
          have hn := ih k2 _ _ o hi
          cases o with
          | none => cases h; exact .nestedOpen kind k2 body hn
          | some e =>
            obtain ⟨r', rfl, hr⟩ := cont _ _ h
            rw [drop_nested] at hr
            exact .nested kind k2 body e r' hn hr
      | item l n hc hi =>
        rw [fde_item f hc hi] at h
        obtain ⟨r', rfl, hr⟩ := cont _ _ h
        exact .skip kind _ _ r' hc hi hr

/-- **the grammar determines the model's result** -/
theorem dirEnd_only (trim : Nat) (kind : BlockCommentKind) (expr : Bool) (l : Bytes) (res : Option Nat)
    (h : DirEnd trim kind expr l res) : ∀ f, l.length < f → dirEndFn trim f kind expr l = some res := by
  induction h with
  | plainClosed kind l i h =>
    intro f _
    simp only [dirEndFn, Bool.false_eq_true, if_false]
    rw [(findBlockCommentEnd_some_iff kind l _).2 ⟨i, rfl, h⟩]
  | plainOpen kind l h =>
    intro f _
    simp only [dirEndFn, Bool.false_eq_true, if_false]
    rw [(findBlockCommentEnd_none_iff kind l).2 h]
  | eof kind =>
    intro f hf
    cases f with
    | zero => omega
    | succ f => simp [dirEndFn, findDirectiveExprEnd]
  | close kind l h =>
    intro f hf
    cases f with
    | zero => omega
    | succ f =>
      simp only [dirEndFn, if_true]
      rw [fde_succ, if_pos h]
  | skip kind l n res hc hi hr ih =>
    intro f hf
    cases f with
    | zero => omega
    | succ f =>
      simp only [dirEndFn, if_true] at ih ⊢
      rw [fde_item f hc hi]
      exact contAt_of _ _ _ _ _ _ (ih f (by have := hi.pos; simp only [List.length_drop] at hf ⊢; omega))
  | nested kind k2 body e res hn hr ihn ihr =>
    intro f hf
    cases f with
    | zero => omega
    | succ f =>
      simp only [dirEndFn, if_true] at ihr ⊢
      have hlen : (opener k2 ++ 0x24 :: body).length = (opener k2).length + 1 + body.length := by simp; omega
      have hin := ihn f (by simp only [List.length_drop]; omega)
      have hd := drop_nested k2 body (directiveName body).length e
      have hcont := contAt_of trim f kind (opener k2 ++ 0x24 :: body)
        ((opener k2).length + 1 + (directiveName body).length + e) res (by
          rw [hd]; exact ihr f (by simp only [List.length_drop]; omega))
      have hnest : nestedAt trim f kind (opener k2 ++ 0x24 :: body) ((opener k2).length + 1) k2 body =
          some (res.map (((opener k2).length + 1 + (directiveName body).length + e) + ·)) := by
        unfold nestedAt nestedInner; rw [hin]; exact hcont
      exact (fde_nested trim f kind k2 body).trans hnest
  | nestedOpen kind k2 body hn ihn =>
    intro f hf
    cases f with
    | zero => omega
    | succ f =>
      simp only [dirEndFn, if_true]
      have hlen : (opener k2 ++ 0x24 :: body).length = (opener k2).length + 1 + body.length := by simp; omega
      have hin := ihn f (by simp only [List.length_drop]; omega)
      have hnest : nestedAt trim f kind (opener k2 ++ 0x24 :: body) ((opener k2).length + 1) k2 body = some none := by
        unfold nestedAt nestedInner; rw [hin]
      exact (fde_nested trim f kind k2 body).trans hnest

/-- the grammar allows a result for every text: the case analysis of the head of the text, in the grammar's terms -/
theorem DirEnd.total (trim : Nat) : ∀ (n : Nat) (kind : BlockCommentKind) (expr : Bool) (l : Bytes), l.length < n →
    ∃ res, DirEnd trim kind expr l res := by
  intro n
  induction n with
  | zero => intro _ _ l h; omega
  | succ n ih =>
    intro kind expr l hl
    cases expr with
    | false => exact ⟨_, dirEnd_plain trim kind l⟩
    | true =>
      cases fdeHead trim kind l with
      | nil => exact ⟨_, .eof kind⟩
      | close l h => exact ⟨_, .close kind l h⟩
      | nested k2 body =>
        have hlen : (opener k2 ++ 0x24 :: body).length = (opener k2).length + 1 + body.length := by simp; omega
        obtain ⟨r0, h0⟩ := ih k2 (isExprName (directiveName body)) (body.drop (directiveName body).length)
          (by simp only [List.length_drop]; omega)
        cases r0 with
        | none => exact ⟨_, .nestedOpen kind k2 body h0⟩
        | some e =>
          obtain ⟨r1, h1⟩ := ih kind true (body.drop ((directiveName body).length + e))
            (by simp only [List.length_drop]; omega)
          exact ⟨_, .nested kind k2 body e r1 h0 h1⟩
      | item l n hc hi =>
        obtain ⟨r1, h1⟩ := ih kind true (l.drop n) (by have := hi.pos; simp only [List.length_drop]; omega)
        exact ⟨_, .skip kind l n r1 hc hi h1⟩

/-- **the scanner computes exactly the grammar**: with more fuel than bytes (the model always supplies
    `2·len + 2`), the result is `res` iff the grammar allows `res`; in particular the grammar is
    deterministic and total -/
theorem dirEnd_iff (trim f : Nat) (kind : BlockCommentKind) (expr : Bool) (l : Bytes) (res : Option Nat)
    (hf : l.length < f) : dirEndFn trim f kind expr l = some res ↔ DirEnd trim kind expr l res :=
  ⟨dirEnd_sound trim f kind expr l res, fun h => dirEnd_only trim kind expr l res h f hf⟩

/-- a terminated directive always ends right after a closer of its own bracket kind, inside the text -/
theorem dirEnd_ends_with_closer (trim : Nat) (kind : BlockCommentKind) (expr : Bool) (l : Bytes) (res : Option Nat)
    (h : DirEnd trim kind expr l res) :
    ∀ e, res = some e → ∃ i, e = i + (closer kind).length ∧ OccursAt (closer kind) l i := by
  induction h with
  | plainClosed kind l i h => intro e he; cases he; exact ⟨i, rfl, h.1⟩
  | plainOpen kind l h => intro e he; cases he
  | eof kind => intro e he; cases he
  | close kind l h => intro e he; cases he; exact ⟨0, by simp, by simpa [OccursAt] using h⟩
  | skip kind l n res hc hi hr ih =>
    intro e he
    cases res with
    | none => cases he
    | some e' =>
      simp only [Option.map_some, Option.some.injEq] at he
      obtain ⟨i, hi1, hi2⟩ := ih e' rfl
      exact ⟨n + i, by omega, (occursAt_drop _ _ _ _).1 hi2⟩
  | nested kind k2 body e0 res hn hr ihn ihr =>
    intro e he
    cases res with
    | none => cases he
    | some e' =>
      simp only [Option.map_some, Option.some.injEq] at he
      obtain ⟨i, hi1, hi2⟩ := ihr e' rfl
      refine ⟨(opener k2).length + 1 + (directiveName body).length + e0 + i, by omega, ?_⟩
      rw [← occursAt_drop, drop_nested]
      exact hi2
  | nestedOpen kind k2 body hn ihn => intro e he; cases he

theorem DirEnd.endsIn {trim : Nat} {kind : BlockCommentKind} {expr : Bool} {l : Bytes} {e : Nat}
    (h : DirEnd trim kind expr l (some e)) : 1 ≤ e ∧ EndsIn l e := by
  obtain ⟨i, rfl, hi⟩ := dirEnd_ends_with_closer trim kind expr l _ h e rfl
  exact closer_occurs_endsIn kind l i hi

/-! ### the whole directive token -/

theorem parseDirectiveExpr_eq (trim fuel : Nat) (kind : BlockCommentKind) (l : Bytes) :
    parseDirectiveExpr trim fuel kind l =
      ((conditionalDirectiveType l).2, shiftEnd (conditionalDirectiveType l).1 (nestedInner trim fuel kind l)) := by
  rw [← nestedInner_eq]
  unfold parseDirectiveExpr dirEndFn
  by_cases hx : isExprDirective (conditionalDirectiveType l).2 = true
  · simp only [hx, if_true]
  · simp only [hx, Bool.false_eq_true, if_false]

/-- declarative result `(token length, kind)` of scanning a directive; `l` = the text after `{$` resp.
    `(*$`, `openLen` = 2 resp. 3, `tokLen` = number of bytes from the opener to the end of the text,
    `trim` = length of the blank run at the end of the text.  The name is the maximal run of name
    bytes, the kind is looked up in the table, the end is given by `DirEnd` applied to the text after
    the name; an unterminated directive runs to the end of the text minus the trailing blanks. -/
inductive DirectiveSpec (kind : BlockCommentKind) (trim openLen tokLen : Nat) (l : Bytes) :
    Nat × Option ConditionalDirectiveKind → Prop
  | closed (e : Nat)
      (h : DirEnd trim kind (isExprName (directiveName l)) (l.drop (directiveName l).length) (some e)) :
      DirectiveSpec kind trim openLen tokLen l
        (openLen + ((directiveName l).length + e), directiveKindSpec (directiveName l))
  | unterminated
      (h : DirEnd trim kind (isExprName (directiveName l)) (l.drop (directiveName l).length) none) :
      DirectiveSpec kind trim openLen tokLen l (tokLen - trim, directiveKindSpec (directiveName l))

theorem compilerDirective_eq (trim : Nat) (kind : BlockCommentKind) (openLen tokLen : Nat) (l : Bytes) :
    compilerDirective trim kind openLen tokLen l =
      match dirEndFn trim (directiveFuel l) kind (isExprName (directiveName l)) (l.drop (directiveName l).length) with
      | none => none
      | some (some e) => some (openLen + ((directiveName l).length + e), directiveKindSpec (directiveName l))
      | some none => some (tokLen - trim, directiveKindSpec (directiveName l)) := by
  unfold compilerDirective
  rw [parseDirectiveExpr_eq, conditionalDirectiveType_snd, ← directiveName_length]
  unfold nestedInner
  cases dirEndFn trim (directiveFuel l) kind (isExprName (directiveName l)) (l.drop (directiveName l).length) with
  | none => rfl
  | some o => cases o <;> rfl

theorem directiveFuel_enough (l : Bytes) (n : Nat) : (l.drop n).length < directiveFuel l := by
  unfold directiveFuel; simp only [List.length_drop]; omega

/-- **the directive scanner computes exactly `DirectiveSpec`** -/
theorem compilerDirective_iff (trim : Nat) (kind : BlockCommentKind) (openLen tokLen : Nat) (l : Bytes)
    (x : Nat × Option ConditionalDirectiveKind) :
    compilerDirective trim kind openLen tokLen l = some x ↔ DirectiveSpec kind trim openLen tokLen l x := by
  rw [compilerDirective_eq]
  constructor
  · intro h
    cases hd : dirEndFn trim (directiveFuel l) kind (isExprName (directiveName l)) (l.drop (directiveName l).length) with
    | none => rw [hd] at h; cases h
    | some res =>
      have h2 := dirEnd_sound trim _ kind _ _ res hd
      rw [hd] at h
      cases res with
      | none => cases h; exact .unterminated h2
      | some e => cases h; exact .closed e h2
  · intro h
    cases h with
    | closed e h => rw [dirEnd_only trim kind _ _ _ h _ (directiveFuel_enough l _)]
    | unterminated h => rw [dirEnd_only trim kind _ _ _ h _ (directiveFuel_enough l _)]

theorem directiveSpec_total (trim : Nat) (kind : BlockCommentKind) (openLen tokLen : Nat) (l : Bytes) :
    ∃ x, DirectiveSpec kind trim openLen tokLen l x := by
  obtain ⟨res, h⟩ := DirEnd.total trim _ kind (isExprName (directiveName l)) (l.drop (directiveName l).length)
    (Nat.lt_succ_self _)
  cases res with
  | none => exact ⟨_, .unterminated h⟩
  | some e => exact ⟨_, .closed e h⟩

theorem compilerDirective_ne_none (trim : Nat) (kind : BlockCommentKind) (openLen tokLen : Nat) (l : Bytes) :
    compilerDirective trim kind openLen tokLen l ≠ none := by
  obtain ⟨x, h⟩ := directiveSpec_total trim kind openLen tokLen l
  rw [(compilerDirective_iff trim kind openLen tokLen l x).2 h]
  nofun

/-- for a name other than `if` / `elseif`, `DirectiveSpec` says what `PlainDirectiveSpec` says: the closer is
    searched from the end of the name on, and the name contains none -/
theorem DirectiveSpec.plain {kind : BlockCommentKind} {trim openLen tokLen : Nat} {l : Bytes}
    {x : Nat × Option ConditionalDirectiveKind} (h : DirectiveSpec kind trim openLen tokLen l x)
    (hx : isExprName (directiveName l) = false) : PlainDirectiveSpec kind trim openLen tokLen l x := by
  have hno : ∀ j, j < (directiveName l).length → ¬ OccursAt (closer kind) l j :=
    fun j hj => no_closer_in_name kind l j (by rw [directiveName_length] at hj; exact hj)
  cases h with
  | closed e h =>
    rw [hx] at h
    cases h with
    | plainClosed _ _ i hi =>
      rw [show openLen + ((directiveName l).length + (i + (closer kind).length)) =
        openLen + ((directiveName l).length + i + (closer kind).length) by omega]
      exact .closed _ (firstOcc_drop hno hi)
  | unterminated h =>
    rw [hx] at h
    cases h with
    | plainOpen _ _ hn => exact .unterminated (noOcc_drop hno hn)

theorem DirectiveSpec.endsIn {kind : BlockCommentKind} {trim openLen tokLen : Nat} {l : Bytes}
    {x : Nat × Option ConditionalDirectiveKind} (h : DirectiveSpec kind trim openLen tokLen l x) :
    x.1 = tokLen - trim ∨ ∃ e, x.1 = openLen + e ∧ 1 ≤ e ∧ EndsIn l e := by
  cases h with
  | closed e h =>
    obtain ⟨hpos, he⟩ := h.endsIn
    exact Or.inr ⟨_, rfl, by omega, he.shift hpos⟩
  | unterminated h => exact Or.inl rfl

/-! ### locality, read off the grammar -/

theorem directiveName_local {x s s' : Bytes} (h : (directiveName (x ++ s)).length < x.length) :
    directiveName (x ++ s') = directiveName (x ++ s) := by
  unfold directiveName at h ⊢
  rw [← countWhile_eq_takeWhile] at h
  rw [← take_countWhile, ← take_countWhile, countWhile_pd isDirectiveNameByte x s s' h,
    List.take_append_of_le_length (by omega), List.take_append_of_le_length (by omega)]

theorem DirItem.local {trim trim' : Nat} {x s s' : Bytes} {n : Nat} (ht : trim ≤ s.length)
    (h : DirItem trim (x ++ s) n) (hn : n + 2 ≤ x.length) : DirItem trim' (x ++ s') n := by
  generalize hl : x ++ s = l at h
  cases h with
  | comment k r i hnd h =>
    obtain ⟨c, x', rfl, rfl⟩ := append_cut (n := (opener k).length) hl (Nat.le_refl _) (by omega)
    simp only [List.length_append] at hn
    rw [List.append_assoc]
    exact .comment k _ i (fun t ht => by cases ht; exact hnd _ rfl) (h.local (x := c :: x') (by omega))
  | commentOpen k r hnd h =>
    obtain ⟨c, x', rfl, rfl⟩ := append_cut (n := (opener k).length) hl (Nat.le_refl _) (by omega)
    simp only [List.length_append, List.length_cons] at hn ht
    omega
  | text r n tk h =>
    have hpos := textLiteral_pos 0x27 r (Or.inl rfl)
    rw [← textLiteral_only _ _ h] at hpos
    obtain ⟨c, x', rfl, rfl⟩ := append_cut (a := [0x27]) hl hpos (by omega)
    exact .text (c :: (x' ++ s')) n tk (h.local (x := 0x27 :: c :: x') hn)
  | lineComment r n h =>
    obtain ⟨c, x', rfl, rfl⟩ := append_cut (a := [0x2F, 0x2F]) hl (Nat.le_add_right 2 n) (by omega)
    have e : n = lineCommentEnd (c :: x' ++ s) := LongestPrefixIn.unique h (lineCommentEnd_longest _)
    have hpd := lineCommentEnd_pd.nat (c :: x') s s' (by rw [← e]; simp at hn ⊢; omega)
    exact .lineComment (c :: x' ++ s') _ (by rw [e, ← hpd]; exact lineCommentEnd_longest _)
  | other b r hb h1 h2 =>
    obtain ⟨c, x', rfl, rfl⟩ := append_cut (a := [b]) hl (Nat.le_refl 1) (by omega)
    exact .other b _ hb (fun hb t ht => by cases ht; exact h1 hb _ rfl) (fun hb t ht => by cases ht; exact h2 hb _ rfl)

theorem DirEnd.local {trim trim' : Nat} {kind : BlockCommentKind} {expr : Bool} {x s s' : Bytes} {e : Nat}
    (ht : trim ≤ s.length) (h : DirEnd trim kind expr (x ++ s) (some e)) (he : e + 2 ≤ x.length) :
    DirEnd trim' kind expr (x ++ s') (some e) := by
  generalize hl : x ++ s = l at h
  generalize hr : some e = res at h
  induction h generalizing x e with
  | plainClosed kind l i h => cases hr; subst hl; exact .plainClosed kind _ i (h.local (by omega))
  | plainOpen | eof | nestedOpen => cases hr
  | close kind l h => cases hr; subst hl; exact .close kind _ (isPrefix_local (by omega) h)
  | skip kind l n res hc hi hr' ih =>
    subst hl
    cases res with
    | none => cases hr
    | some e' =>
      simp only [Option.map_some, Option.some.injEq] at hr
      subst hr
      have hpos := hr'.endsIn.1
      have hd : ∀ t : Bytes, (x ++ t).drop n = x.drop n ++ t := fun t => List.drop_append_of_le_length (by omega)
      have := ih (x := x.drop n) (by simp only [List.length_drop]; omega) (hd s).symm rfl
      have hcl : (closer kind).length ≤ 2 := by cases kind <;> decide
      exact .skip kind _ n (some e') (fun hp => hc (isPrefix_local (by omega) hp))
        (hi.local ht (by omega)) (hd s' ▸ this)
  | nested kind k2 body e0 res hn hr' ihn ihr =>
    cases res with
    | none => cases hr
    | some e' =>
      simp only [Option.map_some, Option.some.injEq] at hr
      subst hr
      have hpos := hr'.endsIn.1
      obtain ⟨x', rfl, rfl⟩ := append_split (a := opener k2 ++ [0x24]) (b := body) (by simpa using hl.symm)
        (by simp only [List.length_append, List.length_cons, List.length_nil]; omega)
      simp only [List.length_append, List.length_cons, List.length_nil] at he
      have hname := directiveName_local (x := x') (s := s) (s' := s') (by omega)
      have hd : ∀ (m : Nat) (t : Bytes), m ≤ x'.length → (x' ++ t).drop m = x'.drop m ++ t :=
        fun m t hm => List.drop_append_of_le_length hm
      have h1 := ihn (x := x'.drop (directiveName (x' ++ s)).length) (e := e0)
        (by simp only [List.length_drop]; omega) (hd _ s (by omega)).symm rfl
      have h2 := ihr (x := x'.drop ((directiveName (x' ++ s)).length + e0)) (e := e')
        (by simp only [List.length_drop]; omega) (hd _ s (by omega)).symm rfl
      rw [← hd _ s' (by omega), ← hname] at h1 h2
      have := DirEnd.nested kind k2 (x' ++ s') e0 (some e') h1 h2
      rw [hname] at this
      simpa using this

/-- the statement of `fde_pd` for one fuel `f1` of the first run: a second run, on `y ++ s'` with any sufficient fuel,
    ends where the first ends -/
def FdeIH (trim trim' f1 : Nat) : Prop :=
  ∀ (f2 : Nat) (kind : BlockCommentKind) (y s s' : Bytes) (e : Nat),
    trim ≤ s.length → (y ++ s').length < f2 →
    findDirectiveExprEnd trim f1 kind (y ++ s) = some (some e) → e + 2 ≤ y.length →
    findDirectiveExprEnd trim' f2 kind (y ++ s') = some (some e)

/-- the expression scanner is local, whatever the fuel of the first run: its result is allowed by the grammar
    (`dirEnd_sound`), the grammar is local, and the grammar determines the second run -/
theorem fde_pd (trim trim' : Nat) : ∀ f1 : Nat, FdeIH trim trim' f1 :=
  fun f1 f2 kind _ _ _ _ ht hf h he =>
    dirEnd_only trim' kind true _ _ ((dirEnd_sound trim f1 kind true _ _ h).local ht he) f2 hf

/-- **a directive token that ends two bytes before `s` does not depend on `s`** - read off the specification -/
theorem compilerDirective_pd {trim trim' : Nat} {kind : BlockCommentKind} (pre y : Bytes) {s s' : Bytes}
    {x : Nat × Option ConditionalDirectiveKind} (ht : trim ≤ s.length)
    (h : compilerDirective trim kind (pre.length + 1) ((pre ++ (y ++ s)).length + 1) (y ++ s) = some x)
    (hn : x.1 + 2 ≤ pre.length + 1 + y.length) :
    compilerDirective trim' kind (pre.length + 1) ((pre ++ (y ++ s')).length + 1) (y ++ s') = some x := by
  have htok : (pre ++ (y ++ s)).length + 1 = pre.length + 1 + (y ++ s).length := by
    simp only [List.length_append]; omega
  generalize pre.length + 1 = openLen at *
  generalize (pre ++ (y ++ s)).length + 1 = tokLen at *
  generalize (pre ++ (y ++ s')).length + 1 = tokLen'
  obtain ⟨n, k⟩ := x
  rw [compilerDirective_iff] at h ⊢
  generalize hx : (n, k) = a at h
  cases h with
  | closed e h =>
    cases hx
    have hname := directiveName_local (x := y) (s := s) (s' := s') (by omega)
    have hd : ∀ t : Bytes, (y ++ t).drop (directiveName (y ++ s)).length = y.drop (directiveName (y ++ s)).length ++ t :=
      fun t => List.drop_append_of_le_length (by omega)
    rw [hd s] at h
    have := DirectiveSpec.closed (trim := trim') (openLen := openLen) (tokLen := tokLen') (l := y ++ s') e
      (by rw [hname, hd s']; exact h.local ht (by simp only [List.length_drop]; omega))
    rwa [hname] at this
  | unterminated h =>
    cases hx
    simp only [List.length_append] at htok
    omega

/-! ## ampersand tokens -/

/-- what follows the run of ampersands: `(bytes consumed after the run, kind)` -/
def ampFollow : Bytes → Nat × RawKind
  | c :: r' =>
    if c == 0x24 then (1 + countHex r', .rNumberLiteral .nHex)
    else if c == 0x25 then (1 + countBinary r', .rNumberLiteral .nBinary)
    else if isDigit c then (1 + decNumberRest r', .rNumberLiteral .nDecimal)
    else if isAlpha c || c == 0x5F then (1 + identLen r', .rIdentifier)
    else if c ≥ 0x80 && !(List.isPrefixOf [0xE3, 0x80, 0x80] (c :: r')) then
      (1 + (countWhile isCont r' + identLen (r'.drop (countWhile isCont r'))), .rIdentifier)
    else (0, .rUnknown)
  | [] => (0, .rUnknown)

/-- the model's `ampersand` sub-lexer; `r` = the bytes after the first `&`: `(token length, kind)` -/
def ampersandTok (r : Bytes) : Nat × RawKind :=
  (1 + countWhile (· == 0x26) r + (ampFollow (r.drop (countWhile (· == 0x26) r))).1,
    (ampFollow (r.drop (countWhile (· == 0x26) r))).2)

theorem runSub_ampersand (st : LexState) (b : UInt8) (r : Bytes) (nlb : Bool) (tF : Unit → Nat) (simd : Bool) :
    runSub st .ampersand b r nlb tF simd =
      some { len := (ampersandTok r).1, kind := (ampersandTok r).2, inAsm := st.inAsm } := by
  unfold ampersandTok
  simp only [runSub, idLen_eq]
  generalize r.drop (countWhile (· == 0x26) r) = d
  fun_cases ampFollow d <;> simp only [*, Bool.false_eq_true, if_true, if_false, Nat.add_assoc, Nat.add_zero]

/-- what the text after the run of ampersands starts with ↦ `(bytes consumed after the run, kind)` -/
inductive AmpFollower : Bytes → Nat × RawKind → Prop
  /-- `$` + the longest run of hex digits and `_`: a hex literal -/
  | hex (r : Bytes) (n : Nat) (h : LongestPrefixIn (AllBytes isHexByte) r n) :
      AmpFollower (0x24 :: r) (1 + n, .rNumberLiteral .nHex)
  /-- `%` + the longest run of `0`, `1`, `_`: a binary literal -/
  | binary (r : Bytes) (n : Nat) (h : LongestPrefixIn (AllBytes isBinaryByte) r n) :
      AmpFollower (0x25 :: r) (1 + n, .rNumberLiteral .nBinary)
  /-- a digit + the longest decimal tail: a decimal literal -/
  | decimal (d : UInt8) (r : Bytes) (n : Nat) (hd : isDigit d = true) (h : LongestPrefixIn DecTail r n) :
      AmpFollower (d :: r) (1 + n, .rNumberLiteral .nDecimal)
  /-- an ASCII letter or `_` + the identifier run: an identifier (never a keyword) -/
  | ident (c : UInt8) (r : Bytes) (n : Nat) (hc : isAlpha c = true ∨ c = 0x5F) (h : IsIdentRun r n) :
      AmpFollower (c :: r) (1 + n, .rIdentifier)
  /-- a non-ASCII byte that does not start U+3000, the continuation bytes after it, and the
      identifier run after them: an identifier -/
  | unicode (c : UInt8) (r : Bytes) (k n : Nat) (hc : c ≥ 0x80) (hu : ¬ u3000 <+: c :: r)
      (hk : LongestPrefixIn (AllBytes isCont) r k) (h : IsIdentRun (r.drop k) n) :
      AmpFollower (c :: r) (1 + (k + n), .rIdentifier)
  /-- anything else (end of text, blank, U+3000, operator, quote, …): nothing is consumed and the
      ampersands alone form an "unknown" token -/
  | other (l : Bytes)
      (h : ∀ c r, l = c :: r → c ≠ 0x24 ∧ c ≠ 0x25 ∧ isDigit c = false ∧ isAlpha c = false ∧ c ≠ 0x5F ∧
        (c ≥ 0x80 → u3000 <+: l)) :
      AmpFollower l (0, .rUnknown)

theorem u3000_isPrefixOf (l : Bytes) : List.isPrefixOf [0xE3, 0x80, 0x80] l = true ↔ u3000 <+: l :=
  List.isPrefixOf_iff_prefix

theorem ampFollow_sat (l : Bytes) : AmpFollower l (ampFollow l) := by
  fun_cases ampFollow l
  case case1 c r h => rw [beq_iff_eq.1 h]; exact .hex r _ (countWhile_longest isHexByte r)
  case case2 c r _ h => rw [beq_iff_eq.1 h]; exact .binary r _ (countWhile_longest isBinaryByte r)
  case case3 c r _ _ h => exact .decimal c r _ h (decNumberRest_longest r)
  case case4 c r _ _ _ h => exact .ident c r _ (by simpa using h) ((isIdentRun_iff _ _).2 rfl)
  case case5 c r _ _ _ _ h =>
    simp only [Bool.and_eq_true, decide_eq_true_eq, Bool.not_eq_true', ← Bool.not_eq_true, u3000_isPrefixOf] at h
    exact .unicode c r _ _ h.1 h.2 (countWhile_longest isCont r) ((isIdentRun_iff _ _).2 rfl)
  case case6 c r h1 h2 h3 h4 h5 =>
    refine .other _ fun c' r' heq => ?_
    cases heq
    simp only [Bool.or_eq_true, beq_iff_eq, not_or] at h4
    simp only [Bool.and_eq_true, decide_eq_true_eq, not_and, Bool.not_eq_true', Bool.not_eq_false, u3000_isPrefixOf] at h5
    exact ⟨by simpa using h1, by simpa using h2, by simpa using h3, by simpa using h4.1, h4.2, h5⟩
  case case7 => exact .other [] nofun

theorem ampFollow_only (l : Bytes) (x : Nat × RawKind) (h : AmpFollower l x) : x = ampFollow l := by
  cases h with
  | hex r n h =>
    rw [LongestPrefixIn.unique h (countWhile_longest isHexByte r)]; rfl
  | binary r n h =>
    rw [LongestPrefixIn.unique h (countWhile_longest isBinaryByte r)]; rfl
  | decimal d r n hd h =>
    rw [LongestPrefixIn.unique h (decNumberRest_longest r)]
    have := (byteClass_disjoint d).1 hd
    simp only [ampFollow, this.1, this.2.1, hd, Bool.false_eq_true, if_false, if_true]
  | ident c r n hc h =>
    rw [(isIdentRun_iff _ _).1 h]
    have := (byteClass_disjoint c).2.1 hc
    have h4 : (isAlpha c || c == 0x5F) = true := by simpa using hc
    simp only [ampFollow, this.1, this.2.1, this.2.2, h4, Bool.false_eq_true, if_false, if_true]
  | unicode c r k n hc hu hk h =>
    rw [(isIdentRun_iff _ _).1 h, LongestPrefixIn.unique hk (countWhile_longest isCont r)]
    have := (byteClass_disjoint c).2.2 hc
    have h4 : (isAlpha c || c == 0x5F) = false := by rw [this.2.2.2.1, this.2.2.2.2]; rfl
    have h5 : (decide (c ≥ 0x80) && !(List.isPrefixOf [0xE3, 0x80, 0x80] (c :: r))) = true := by
      have : List.isPrefixOf [0xE3, 0x80, 0x80] (c :: r) = false := by
        apply (Bool.not_eq_true _).mp; rw [u3000_isPrefixOf]; exact hu
      simp [this, hc]
    simp only [ampFollow, this.1, this.2.1, this.2.2.1, h4, h5, Bool.false_eq_true, if_false, if_true]
  | other l h =>
    cases l with
    | nil => rfl
    | cons c r =>
      obtain ⟨h1, h2, h3, h4, h5, h6⟩ := h c r rfl
      have h45 : (isAlpha c || c == 0x5F) = false := by simp [h4, h5]
      have h7 : (decide (c ≥ 0x80) && !(List.isPrefixOf [0xE3, 0x80, 0x80] (c :: r))) = false := by
        by_cases hge : c ≥ 0x80
        · simp [(u3000_isPrefixOf _).2 (h6 hge)]
        · simp [hge]
      have h1' : (c == 0x24) = false := by simpa using h1
      have h2' : (c == 0x25) = false := by simpa using h2
      simp only [ampFollow, h1', h2', h3, h45, h7, Bool.false_eq_true, if_false]

/-- declarative result `(token length, kind)` of a token that starts with `&`; `r` = the text after
    that first `&`: all directly following ampersands belong to the token, then comes what
    `AmpFollower` allows -/
inductive AmpersandSpec (r : Bytes) : Nat × RawKind → Prop
  | mk (amps rest : Bytes) (n : Nat) (k : RawKind) (hsplit : r = amps ++ rest) (ha : ∀ b ∈ amps, b = 0x26)
      (hstop : ∀ t, rest ≠ 0x26 :: t) (hf : AmpFollower rest (n, k)) :
      AmpersandSpec r (1 + amps.length + n, k)

theorem ampersandTok_sat (r : Bytes) : AmpersandSpec r (ampersandTok r) := by
  have ha := (countWhile_longest (· == 0x26) r)
  have hlen : (r.take (countWhile (· == 0x26) r)).length = countWhile (· == 0x26) r := by
    simp only [List.length_take]; have := ha.le; omega
  have := AmpersandSpec.mk (r := r) (r.take (countWhile (· == 0x26) r)) (r.drop (countWhile (· == 0x26) r))
    (ampFollow (r.drop (countWhile (· == 0x26) r))).1 (ampFollow (r.drop (countWhile (· == 0x26) r))).2
    (List.take_append_drop _ r).symm
    (fun b hb => by simpa using ha.mem b hb)
    (fun t ht => by
      have h0 : r[countWhile (· == 0x26) r]? = some 0x26 := by
        have : (r.drop (countWhile (· == 0x26) r))[0]? = some 0x26 := by rw [ht]; rfl
        simpa using this
      have := countWhile_stop (· == 0x26) r 0x26 h0
      simp at this)
    (ampFollow_sat _)
  rw [hlen] at this
  exact this

theorem ampersandTok_only (r : Bytes) (x : Nat × RawKind) (h : AmpersandSpec r x) : x = ampersandTok r := by
  cases h with
  | mk amps rest n k hsplit ha hstop hf =>
    subst hsplit
    have hcw : countWhile (· == 0x26) (amps ++ rest) = amps.length :=
      countWhile_append_stop _ amps rest (fun b hb => by simp [ha b hb])
        (fun b t hbt => by
          apply (Bool.not_eq_true _).mp
          intro hb
          rw [beq_iff_eq.1 hb] at hbt
          exact hstop t hbt)
    unfold ampersandTok
    rw [hcw, List.drop_left]
    rw [← ampFollow_only rest (n, k) hf]

/-! ## assembler numbers -/

/-- declarative result `(bytes consumed after the first digit, kind)` of an assembler number whose
    first digit is `first` and whose following text is `r` -/
inductive AsmNumberSpec (first : UInt8) (r : Bytes) : Nat × NumberLiteralKind → Prop
  /-- the hex-digit run is followed by `o`/`O`: the suffix is consumed, octal -/
  | octal (n : Nat) (hn : LongestPrefixIn (AllBytes isHexByte) r n) (c : UInt8) (hc : r[n]? = some c)
      (ho : c = 0x4F ∨ c = 0x6F) : AsmNumberSpec first r (n + 1, .nOctal)
  /-- … followed by `h`/`H`: the suffix is consumed, hexadecimal -/
  | hex (n : Nat) (hn : LongestPrefixIn (AllBytes isHexByte) r n) (c : UInt8) (hc : r[n]? = some c)
      (hh : c = 0x48 ∨ c = 0x68) : AsmNumberSpec first r (n + 1, .nHex)
  /-- no suffix and the last byte of the run (index `n` of the token) is `b`/`B`: binary -/
  | binary (n : Nat) (hn : LongestPrefixIn (AllBytes isHexByte) r n)
      (hs : ∀ c, r[n]? = some c → c ≠ 0x4F ∧ c ≠ 0x6F ∧ c ≠ 0x48 ∧ c ≠ 0x68)
      (p : UInt8) (hp : (first :: r)[n]? = some p) (hb : p = 0x42 ∨ p = 0x62) : AsmNumberSpec first r (n, .nBinary)
  /-- no suffix and the last byte of the run is not `b`/`B`: decimal -/
  | decimal (n : Nat) (hn : LongestPrefixIn (AllBytes isHexByte) r n)
      (hs : ∀ c, r[n]? = some c → c ≠ 0x4F ∧ c ≠ 0x6F ∧ c ≠ 0x48 ∧ c ≠ 0x68)
      (p : UInt8) (hp : (first :: r)[n]? = some p) (hb : p ≠ 0x42 ∧ p ≠ 0x62) : AsmNumberSpec first r (n, .nDecimal)

theorem asm_last_digit (first : UInt8) (r : Bytes) (n : Nat) (hn : n ≤ r.length) :
    (first :: r)[n]? = some (if n == 0 then first else r.getD (n - 1) 0) := by
  cases n with
  | zero => rfl
  | succ m =>
    have hm : m < r.length := by omega
    simp [List.getD_eq_getElem?_getD, List.getElem?_eq_getElem hm]

/-- closed form of the four cases -/
def asmNumberOf (n : Nat) (next : Option UInt8) (last : UInt8) : Nat × NumberLiteralKind :=
  if next = some 0x4F ∨ next = some 0x6F then (n + 1, .nOctal)
  else if next = some 0x48 ∨ next = some 0x68 then (n + 1, .nHex)
  else if last = 0x42 ∨ last = 0x62 then (n, .nBinary) else (n, .nDecimal)

theorem asmNumberRest_eq (first : UInt8) (r : Bytes) :
    asmNumberRest first r =
      asmNumberOf (countHex r) r[countHex r]? (if countHex r == 0 then first else r.getD (countHex r - 1) 0) := by
  unfold asmNumberRest asmNumberOf
  simp only [← List.head?_drop]
  cases r.drop (countHex r) with
  | nil => simp
  | cons c t => simp only [List.head?_cons, Option.some.injEq, Bool.or_eq_true, beq_iff_eq]

theorem asmNumberRest_sat (first : UInt8) (r : Bytes) : AsmNumberSpec first r (asmNumberRest first r) := by
  have hn : LongestPrefixIn (AllBytes isHexByte) r (countHex r) := countWhile_longest isHexByte r
  have hp := asm_last_digit first r (countHex r) hn.le
  rw [asmNumberRest_eq, asmNumberOf]
  generalize (if countHex r == 0 then first else r.getD (countHex r - 1) 0) = p at hp
  split
  · rename_i h
    rcases h with h | h
    · exact .octal _ hn _ h (Or.inl rfl)
    · exact .octal _ hn _ h (Or.inr rfl)
  split
  · rename_i h
    rcases h with h | h
    · exact .hex _ hn _ h (Or.inl rfl)
    · exact .hex _ hn _ h (Or.inr rfl)
  rename_i h1 h2
  have hs : ∀ c, r[countHex r]? = some c → c ≠ 0x4F ∧ c ≠ 0x6F ∧ c ≠ 0x48 ∧ c ≠ 0x68 := by
    intro c hc
    rw [hc] at h1 h2
    simpa [not_or, and_assoc] using And.intro h1 h2
  split
  · exact .binary _ hn hs _ hp ‹_›
  · exact .decimal _ hn hs _ hp (not_or.1 ‹_›)

theorem AsmNumberSpec.normal {first : UInt8} {r : Bytes} {x : Nat × NumberLiteralKind}
    (h : AsmNumberSpec first r x) :
    ∃ n p, LongestPrefixIn (AllBytes isHexByte) r n ∧ (first :: r)[n]? = some p ∧ x = asmNumberOf n r[n]? p := by
  have noSuffix : ∀ {n : Nat}, (∀ c, r[n]? = some c → c ≠ 0x4F ∧ c ≠ 0x6F ∧ c ≠ 0x48 ∧ c ≠ 0x68) →
      ¬ (r[n]? = some 0x4F ∨ r[n]? = some 0x6F) ∧ ¬ (r[n]? = some 0x48 ∨ r[n]? = some 0x68) := by
    intro n hs
    constructor <;> (rintro (h | h) <;> (have := hs _ h; simp at this))
  cases h with
  | octal n hn c hc ho =>
    refine ⟨n, _, hn, asm_last_digit first r n hn.le, ?_⟩
    rcases ho with rfl | rfl <;> simp [asmNumberOf, hc]
  | hex n hn c hc hh =>
    refine ⟨n, _, hn, asm_last_digit first r n hn.le, ?_⟩
    rcases hh with rfl | rfl <;> simp [asmNumberOf, hc]
  | binary n hn hs p hp hb =>
    refine ⟨n, p, hn, hp, ?_⟩
    simp only [asmNumberOf, (noSuffix hs).1, (noSuffix hs).2, if_false, hb, if_true]
  | decimal n hn hs p hp hb =>
    refine ⟨n, p, hn, hp, ?_⟩
    have h3 : ¬ (p = 0x42 ∨ p = 0x62) := by rintro (h | h) <;> simp [h] at hb
    simp only [asmNumberOf, (noSuffix hs).1, (noSuffix hs).2, h3, if_false]

theorem AsmNumberSpec.unique {first : UInt8} {r : Bytes} {x y : Nat × NumberLiteralKind}
    (hx : AsmNumberSpec first r x) (hy : AsmNumberSpec first r y) : x = y := by
  obtain ⟨n, p, hn, hp, rfl⟩ := hx.normal
  obtain ⟨m, q, hm, hq, rfl⟩ := hy.normal
  have := LongestPrefixIn.unique hn hm
  subst this
  rw [hp] at hq
  simp only [Option.some.injEq] at hq
  rw [hq]

theorem asmNumberRest_pd (first : UInt8) : PrefixDet 1 Prod.fst (asmNumberRest first) := by
  intro x s s' (h : (asmNumberRest first (x ++ s)).1 + 1 ≤ x.length)
  obtain ⟨n, p, hn, hp, e⟩ := (asmNumberRest_sat first (x ++ s)).normal
  obtain ⟨m, q, hm, hq, e'⟩ := (asmNumberRest_sat first (x ++ s')).normal
  have hle : n ≤ (asmNumberRest first (x ++ s)).1 := by rw [e, asmNumberOf]; (repeat' split) <;> simp
  have hn' := LongestPrefixIn.unique hn (countWhile_longest isHexByte _)
  have hm' := LongestPrefixIn.unique hm (countWhile_longest isHexByte _)
  have hmn : m = n := by rw [hm', hn', (countWhile_pd isHexByte).nat x s s' (by omega)]
  subst hmn
  rw [← List.cons_append, List.getElem?_append_left (by simp only [List.length_cons]; omega)] at hp hq
  rw [e, e', List.getElem?_append_left (by omega), List.getElem?_append_left (by omega), Option.some.inj (hq.symm.trans hp)]

theorem asmNumberRest_ascii (first : UInt8) (r : Bytes) : AsciiUpTo r (asmNumberRest first r).1 := by
  obtain ⟨n, p, hn, _, hx⟩ := (asmNumberRest_sat first r).normal
  have hh : AsciiUpTo r n := fun i hi =>
    have hil : i < r.length := Nat.lt_of_lt_of_le hi hn.le
    ⟨r[i], by simp [hil], isHexByte_ascii (hn.mem _ (List.mem_take_iff_getElem.2 ⟨i, by omega, rfl⟩))⟩
  -- with a suffix `o`/`O`/`h`/`H` one more ASCII byte
  have suffix : ∀ c : UInt8, r[n]? = some c → c < 0x80 → AsciiUpTo r (n + 1) := fun c hc hlt i hi =>
    if hin : i < n then hh i hin else (show i = n by omega) ▸ ⟨c, hc, hlt⟩
  rw [hx, asmNumberOf]
  split
  · rename_i h; rcases h with h | h <;> exact suffix _ h (by decide)
  split
  · rename_i h; rcases h with h | h <;> exact suffix _ h (by decide)
  split <;> exact hh

/-! ## assembler text literals `"…"` -/

/-- the inside of a `"…"` literal: any sequence of escape pairs (`\` + any byte, even `"`, CR or LF)
    and of bytes other than `\`, `"`, CR, LF -/
inductive AsmStrBody : Bytes → Prop
  | nil : AsmStrBody []
  | esc (c : UInt8) (t : Bytes) (h : AsmStrBody t) : AsmStrBody (0x5C :: c :: t)
  | plain (b : UInt8) (t : Bytes) (hb : b ≠ 0x5C ∧ b ≠ 0x22 ∧ b ≠ 0x0A ∧ b ≠ 0x0D) (h : AsmStrBody t) :
      AsmStrBody (b :: t)

/-- declarative result `(bytes consumed after the opening quote, kind)`; the argument is the text
    after the opening `"` -/
inductive AsmTextSpec : Bytes → Nat × TextLiteralKind → Prop
  /-- closed by the first `"` that is not the second byte of an escape pair -/
  | closed (body rest : Bytes) (hb : AsmStrBody body) :
      AsmTextSpec (body ++ 0x22 :: rest) (body.length + 1, .tAsm)
  /-- cut by CR, LF (not consumed) or the end of the text: unterminated -/
  | cut (body rest : Bytes) (hb : AsmStrBody body)
      (hr : rest = [] ∨ ∃ c t, rest = c :: t ∧ (c = 0x0A ∨ c = 0x0D)) :
      AsmTextSpec (body ++ rest) (body.length, .tUnterminated)
  /-- the text ends with a lone `\` (consumed): unterminated -/
  | cutEsc (body : Bytes) (hb : AsmStrBody body) :
      AsmTextSpec (body ++ [0x5C]) (body.length + 1, .tUnterminated)

theorem asmTextLiteralRest_other (b : UInt8) (h1 : b ≠ 0x5C) (h2 : b ≠ 0x22) (t : Bytes) :
    asmTextLiteralRest (b :: t) =
      if b == 0x0A || b == 0x0D then (0, .tUnterminated)
      else ((asmTextLiteralRest t).1 + 1, (asmTextLiteralRest t).2) := by
  rw [asmTextLiteralRest] <;> first
    | (split
       · rfl
       · cases asmTextLiteralRest t; rfl)
    | (intros; simp_all)

theorem asmText_esc (c : UInt8) (t : Bytes) :
    asmTextLiteralRest (0x5C :: c :: t) = ((asmTextLiteralRest t).1 + 2, (asmTextLiteralRest t).2) := by
  rw [asmTextLiteralRest]

theorem asmText_quote (t : Bytes) : asmTextLiteralRest (0x22 :: t) = (1, .tAsm) := by
  simp [asmTextLiteralRest]

theorem asmText_body (body tail : Bytes) (hb : AsmStrBody body) :
    asmTextLiteralRest (body ++ tail) =
      (body.length + (asmTextLiteralRest tail).1, (asmTextLiteralRest tail).2) := by
  induction hb with
  | nil => simp
  | esc c t h ih =>
    simp only [List.cons_append, asmText_esc, ih, List.length_cons]
    congr 1; omega
  | plain b t hb h ih =>
    have hnl : (b == 0x0A || b == 0x0D) = false := by simp [hb.2.2.1, hb.2.2.2]
    simp only [List.cons_append, asmTextLiteralRest_other b hb.1 hb.2.1, hnl, Bool.false_eq_true, if_false, ih,
      List.length_cons]
    congr 1; omega

/-- the tail at which the body of a `"…"` literal stops -/
def AsmStrTail (tail : Bytes) : Prop :=
  tail = [] ∨ tail = [0x5C] ∨ ∃ c t, tail = c :: t ∧ (c = 0x22 ∨ c = 0x0A ∨ c = 0x0D)

theorem asmText_decompose : ∀ (n : Nat) (r : Bytes), r.length ≤ n →
    ∃ body tail, r = body ++ tail ∧ AsmStrBody body ∧ AsmStrTail tail
  | _, [], _ => ⟨[], [], rfl, .nil, Or.inl rfl⟩
  | 0, _ :: _, h => by simp at h
  | n + 1, b :: t, h => by
    by_cases h1 : b = 0x5C
    · subst h1
      cases t with
      | nil => exact ⟨[], [0x5C], rfl, .nil, Or.inr (Or.inl rfl)⟩
      | cons c u =>
        obtain ⟨body, tail, rfl, hb, ht⟩ := asmText_decompose n u (by simp only [List.length_cons] at h; omega)
        exact ⟨0x5C :: c :: body, tail, rfl, .esc c body hb, ht⟩
    · by_cases hs : b = 0x22 ∨ b = 0x0A ∨ b = 0x0D
      · exact ⟨[], b :: t, rfl, .nil, Or.inr (Or.inr ⟨b, t, rfl, hs⟩)⟩
      · obtain ⟨body, tail, rfl, hb, ht⟩ := asmText_decompose n t (by simp only [List.length_cons] at h; omega)
        simp only [not_or] at hs
        exact ⟨b :: body, tail, rfl, .plain b body ⟨h1, hs.1, hs.2.1, hs.2.2⟩ hb, ht⟩

theorem asmText_nl (c : UInt8) (t : Bytes) (hc : c = 0x0A ∨ c = 0x0D) :
    asmTextLiteralRest (c :: t) = (0, .tUnterminated) := by
  rcases hc with rfl | rfl
  · rw [asmTextLiteralRest_other _ (by decide) (by decide)]; rfl
  · rw [asmTextLiteralRest_other _ (by decide) (by decide)]; rfl

theorem asmTextLiteralRest_sat (r : Bytes) : AsmTextSpec r (asmTextLiteralRest r) := by
  obtain ⟨body, tail, rfl, hb, ht⟩ := asmText_decompose r.length r (Nat.le_refl _)
  rw [asmText_body body tail hb]
  rcases ht with rfl | rfl | ⟨c, t, rfl, hc | hc⟩
  · exact .cut body [] hb (Or.inl rfl)
  · exact .cutEsc body hb
  · subst hc; rw [asmText_quote]; exact .closed body t hb
  · rw [asmText_nl c t hc]; exact .cut body (c :: t) hb (Or.inr ⟨c, t, rfl, hc⟩)

theorem asmTextLiteralRest_only (r : Bytes) (x : Nat × TextLiteralKind) (h : AsmTextSpec r x) :
    x = asmTextLiteralRest r := by
  cases h with
  | closed body rest hb => rw [asmText_body body _ hb, asmText_quote]
  | cut body rest hb hr =>
    rw [asmText_body body _ hb]
    rcases hr with rfl | ⟨c, t, rfl, hc⟩
    · rfl
    · rw [asmText_nl c t hc]; rfl
  | cutEsc body hb => rw [asmText_body body _ hb]; rfl

theorem AsmTextSpec.endsIn {r : Bytes} {x : Nat × TextLiteralKind} (h : AsmTextSpec r x) : EndsIn r x.1 := by
  cases h with
  | closed body rest hb =>
    exact ⟨by simp, Ends.of_asciiAt ⟨0x22, by simp, by decide⟩⟩
  | cut body rest hb hr =>
    refine ⟨by simp, ?_⟩
    rcases hr with rfl | ⟨c, t, rfl, hc⟩
    · exact Ends.of_ge (by simp)
    · exact Ends.of_ascii_here ⟨c, by simp, by rcases hc with rfl | rfl <;> decide⟩
  | cutEsc body hb => exact ⟨by simp, Ends.of_ge (by simp)⟩

theorem AsmTextSpec.local {x s s' : Bytes} {a : Nat × TextLiteralKind} (h : AsmTextSpec (x ++ s) a)
    (hn : a.1 + 1 ≤ x.length) : AsmTextSpec (x ++ s') a := by
  generalize hl : x ++ s = l at h
  cases h with
  | closed body rest hb =>
    obtain ⟨c, x', rfl, hr⟩ := append_cut (a := body) hl (Nat.le_succ _) hn
    cases hr
    simpa using AsmTextSpec.closed body (x' ++ s') hb
  | cut body rest hb hr =>
    obtain ⟨c, x', rfl, rfl⟩ := append_cut (a := body) hl (Nat.le_refl _) hn
    rcases hr with hr | ⟨c', t, hr, hc⟩
    · cases hr
    · cases hr
      simpa using AsmTextSpec.cut body (c :: (x' ++ s')) hb (Or.inr ⟨c, _, rfl, hc⟩)
  | cutEsc body hb =>
    obtain ⟨c, x', -, hr⟩ := append_cut (a := body ++ [0x5C]) (r := []) (by simpa using hl) (by simp) hn
    cases hr

theorem asmTextLiteralRest_pd : PrefixDet 1 Prod.fst asmTextLiteralRest :=
  fun x s _ h => (asmTextLiteralRest_only _ _ ((asmTextLiteralRest_sat (x ++ s)).local h)).symm

end Pasfmt
