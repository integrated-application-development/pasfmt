/-
  C15, the clause "every reported cursor lies on a character boundary".  The reconstructor's output is a chain of
  well-formed pieces - token texts, and gaps that are ASCII in front of non-ignored tokens - so every piece starts on
  a boundary (`isCharBoundary` is Rust's `str::is_char_boundary`), and a boundary of a token's text is a boundary of
  the output; relocated cursors land on such offsets.
-/
import PasfmtModel.Proofs.Utf8
import PasfmtModel.Proofs.CursorModel
import PasfmtModel.Proofs.Settings
import PasfmtModel.Proofs.FlatText

namespace Pasfmt

theorem gapOf_ascii (S : Settings) (t : FTok) (mb : Bool) (hS : AsciiSettings S)
    (hi : t.fmt.ignored = false) : AllAscii (gapOf S t mb) :=
  (Concat.of_pred allAscii_nil allAscii_append).gap (S' := S) ⟨hS.1, hS.2.1, hS.2.2, allAscii_replicate 1 _ (by decide)⟩
    (t' := t) rfl rfl (fun h => by rw [hi] at h; cases h) mb

/-- every token text is well-formed UTF-8, and so is the verbatim whitespace of every ignored token
    (both hold for the tokens the scanner produces from well-formed input, `lexWith_char_boundaries`) -/
def PiecesValid (ft : FT) : Prop :=
  ∀ t ∈ ft, ValidUtf8 t.tok.content ∧ (t.fmt.ignored = true → ValidUtf8 t.tok.ws)

/-- executable form of `PiecesValid`, for concrete token lists -/
def piecesValidB (ft : FT) : Bool :=
  ft.all fun t => validUtf8 t.tok.content && (!t.fmt.ignored || validUtf8 t.tok.ws)

theorem piecesValid_of_b (ft : FT) (h : piecesValidB ft = true) : PiecesValid ft := by
  intro t ht
  unfold piecesValidB at h
  rw [List.all_eq_true] at h
  have := h t ht
  simp only [Bool.and_eq_true, Bool.or_eq_true, Bool.not_eq_true'] at this
  refine ⟨this.1, fun hi => ?_⟩
  rcases this.2 with h2 | h2
  · rw [hi] at h2; cases h2
  · exact h2

theorem reconGo_valid (S : Settings) (mb : Bool) (ft : FT) (hS : AsciiSettings S) (hv : PiecesValid ft) :
    validUtf8 (reconGo S mb ft) = true :=
  (Concat.of_pred validUtf8_nil validUtf8_append).recon_self (S' := S)
    ⟨validUtf8_of_ascii _ hS.1, validUtf8_of_ascii _ hS.2.1, validUtf8_of_ascii _ hS.2.2,
      validUtf8_of_ascii _ (allAscii_replicate 1 _ (by decide))⟩ ft mb hv

theorem PiecesValid.drop {ft : FT} (hv : PiecesValid ft) (k : Nat) : PiecesValid (ft.drop k) :=
  fun t ht => hv t (List.mem_of_mem_drop ht)

theorem gap_offsets_boundary (S : Settings) (ft : FT) (k : Nat) (t : FTok) (r : Nat)
    (hk : ft[k]? = some t) (hi : t.fmt.ignored = false)
    (hS : AsciiSettings S) (hv : PiecesValid ft) (hsn : noSafetyNetGo false ft = true)
    (h1 : r ≤ offsetForToken S ft k) (h2 : offsetForToken S ft k ≤ r + wsLen S t) :
    isCharBoundary (reconstruct S ft) r = true := by
  obtain ⟨A, mb', hAB, hA, hg⟩ := reconGo_split S ft false k t hk hsn
  have hr : r = A.length + (r - A.length) := by omega
  unfold reconstruct
  rw [hAB, hr]
  exact isCharBoundary_append A _ _ _ (by omega) (validUtf8_of_ascii _ (allAscii_drop _ _ (gapOf_ascii S t mb' hS hi)))
    (validUtf8_append _ _ (hv t (List.mem_of_getElem? hk)).1 (reconGo_valid S _ _ hS (hv.drop _)))

theorem token_offsets_boundary (S : Settings) (ft : FT) (k o : Nat) (t : FTok)
    (hk : ft[k]? = some t) (ho : o ≤ t.tok.content.length)
    (hb : isCharBoundary t.tok.content o = true)
    (hS : AsciiSettings S) (hv : PiecesValid ft) (hsn : noSafetyNetGo false ft = true) :
    isCharBoundary (reconstruct S ft) (offsetForToken S ft k + o) = true := by
  obtain ⟨A, mb', hAB, hA, hg⟩ := reconGo_split S ft false k t hk hsn
  unfold reconstruct
  rw [hAB, ← List.append_assoc]
  have : offsetForToken S ft k + o = (A ++ gapOf S t mb').length + o := by
    simp only [List.length_append]; omega
  rw [this]
  exact isCharBoundary_append _ t.tok.content _ o ho (valid_split_of_boundary _ o (hv t (List.mem_of_getElem? hk)).1 hb).2
    (reconGo_valid S _ _ hS (hv.drop _))

theorem flatText_split (raw : List RawTok) (k : Nat) (t : RawTok) (hk : raw[k]? = some t) :
    ∃ P Q, flatText raw = P ++ (t.content ++ Q) ∧
      P.length = ((raw.take k).map RawTok.strLen).sum + t.ws.length := by
  induction raw generalizing k with
  | nil => cases hk
  | cons x r ih =>
    cases k with
    | zero => cases hk; exact ⟨t.ws, flatText r, by simp [flatText, RawTok.text], by simp⟩
    | succ k =>
      obtain ⟨P, Q, hPQ, hP⟩ := ih k (by simpa using hk)
      refine ⟨x.text ++ P, Q, ?_, by simp [RawTok.text, RawTok.strLen, hP]; omega⟩
      unfold flatText at hPQ ⊢
      rw [List.flatMap_cons, hPQ, List.append_assoc]

theorem input_boundary_in_token (raw : List RawTok) (k o : Nat) (t : RawTok)
    (hk : raw[k]? = some t) (ho : o ≤ t.content.length)
    (hb : isCharBoundary (flatText raw) (((raw.take k).map RawTok.strLen).sum + t.ws.length + o) = true) :
    isCharBoundary t.content o = true := by
  obtain ⟨P, Q, hPQ, hP⟩ := flatText_split raw k t hk
  rw [hPQ, ← hP] at hb
  exact isCharBoundary_of_append P t.content Q o ho hb

/-- **"On a character boundary" for any token, single-line or multi-line.**  A cursor on a character boundary of
    the input, `o` bytes into the text of input token `k`, when token `k` of the final token list still has the same
    text, is reported at `offset_for_token(k) + o`, on a character boundary of the output. -/
theorem trackCursors_unchanged_on_boundary (S : Settings) (raw : List RawTok) (ft : FT) (k o : Nat)
    (t : RawTok) (t' : FTok)
    (hk : raw[k]? = some t) (hk' : ft[k]? = some t') (hsame : t'.tok.content = t.content)
    (ho : o ≤ t.content.length) (hfirst : 0 < o ∨ 0 < t.ws.length ∨ k = 0)
    (hfit : PosFits (isMultilineRawKind t.kind) t.content o)
    (hS : AsciiSettings S) (hv : PiecesValid ft)
    (hsn : noSafetyNetGo false ft = true)
    (hsmall : (reconstruct S ft).length < 4294967296)
    (hb : isCharBoundary (flatText raw) (((raw.take k).map RawTok.strLen).sum + t.ws.length + o) = true) :
    trackCursors S raw ft [((raw.take k).map RawTok.strLen).sum + t.ws.length + o]
        = [some (offsetForToken S ft k + o)] ∧
      isCharBoundary (reconstruct S ft) (offsetForToken S ft k + o) = true := by
  have hle := offset_add_content_le S ft false k t' hk'
  have hbo := input_boundary_in_token raw k o t hk ho hb
  refine ⟨trackCursors_unchanged S raw ft k o t t' hk hk' hsame ho hfirst hfit
      (by unfold reconstruct at hsmall; rw [← hsame]; omega), ?_⟩
  exact token_offsets_boundary S ft k o t' hk' (by rw [hsame]; exact ho) (by rw [hsame]; exact hbo)
    hS hv hsn

end Pasfmt
