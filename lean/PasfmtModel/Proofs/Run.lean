/-
  The closed model up to the wrapper stage, named once: `preStage alnum s` = scanner, parser with consolidators, ignore
  marks, voided lines and token rules.  It does not read the configuration.  `formatFull` and every function of the model
  that spells the pipeline out again (the final state, the decidable premises of Model/LayoutCheck.lean and
  Model/CrlfCheck.lean) is a function of it (`*_eq`), so a theorem about one of them is a theorem about the wrapper stage
  at `preStage`'s lines and tokens.  The parser stage inside it is opened once as well (`parseAndConsolidate_eq_some`).
-/
import PasfmtModel.Model.BytesCheck
import PasfmtModel.Model.CrlfCheck

namespace Pasfmt

/-! ### the parser stage -/

/-- the parser stage opened once: the parser model on the masked flags, then the three consolidators; a theorem about the
    stage is a fact about `parseFileFull` and a frame of the consolidators -/
theorem parseAndConsolidate_eq_some {raw : List RawTok} {po : ParserOut} :
    parseAndConsolidate raw = some po ↔
      ∃ o, parseFileFull (maskFlags false (raw.map fun t => (t.kind, wsHasBreak t.ws))) = some o ∧
        consolidators { kinds := o.kinds.map (·.toTokenType), lines := o.lines.map PLine.toLine } = po := by
  unfold parseAndConsolidate parseFileMasked
  cases parseFileFull _ <;> simp

/-- masking rewrites the flags; the kinds, hence the number of tokens, are kept -/
theorem maskFlags_fst (b : Bool) (toks : List (RawKind × Bool)) : (maskFlags b toks).map (·.1) = toks.map (·.1) := by
  induction toks generalizing b with
  | nil => rfl
  | cons x r ih =>
    obtain ⟨k, f⟩ := x
    simp [maskFlags, ih]

theorem maskFlags_length (b : Bool) (toks : List (RawKind × Bool)) : (maskFlags b toks).length = toks.length := by
  simpa using congrArg List.length (maskFlags_fst b toks)

/-! ### the state before the wrapper stage -/

/-- what the wrapper stage starts from, with the scan and the parse it came from -/
structure Pre where
  raw : List RawTok
  po : ParserOut
  marks : List Bool
  lines : List Line
  ft : FT

def Pre.of (alnum : Bytes → Bool) (raw : List RawTok) (po : ParserOut) : Pre :=
  ⟨raw, po, (preWrap (preO alnum po) raw).1, (preWrap (preO alnum po) raw).2.1, (preWrap (preO alnum po) raw).2.2⟩

def preStage (alnum : Bytes → Bool) (s : Bytes) : Option Pre :=
  match lex s with
  | none => none
  | some raw =>
    match parseAndConsolidate raw with
    | none => none
    | some po => some (Pre.of alnum raw po)

theorem preStage_eq_some {alnum : Bytes → Bool} {s : Bytes} {p : Pre} :
    preStage alnum s = some p ↔
      ∃ raw po, lex s = some raw ∧ parseAndConsolidate raw = some po ∧ Pre.of alnum raw po = p := by
  unfold preStage
  cases lex s with
  | none => simp
  | some raw =>
    dsimp only
    cases hpo : parseAndConsolidate raw <;> simp [hpo]

/-- the stage on `p`, and a function of its result -/
def Pre.run {α : Type} (cfg : Config) (p : Pre) (f : FT → List (Nat × Nat × Sol) → α) : Option α :=
  match wrapStageFull cfg p.lines p.ft with | none => none | some (ftz, sols) => some (f ftz sols)

theorem Pre.run_eq_some {α : Type} {cfg : Config} {p : Pre} {f : FT → List (Nat × Nat × Sol) → α} {x : α} :
    p.run cfg f = some x ↔ ∃ ftz sols, wrapStageFull cfg p.lines p.ft = some (ftz, sols) ∧ f ftz sols = x := by
  unfold Pre.run
  cases wrapStageFull cfg p.lines p.ft with
  | none => simp
  | some r => exact ⟨fun h => ⟨r.1, r.2, rfl, Option.some.inj h⟩, fun ⟨_, _, e, h⟩ => by cases e; exact congrArg some h⟩

/-- the stage answers and its result passes the check -/
def stageHolds (cfg : Config) (p : Pre) (f : FT → List (Nat × Nat × Sol) → Bool) : Bool :=
  match wrapStageFull cfg p.lines p.ft with | none => false | some (ftz, sols) => f ftz sols

theorem stageHolds_eq_true {cfg : Config} {p : Pre} {f : FT → List (Nat × Nat × Sol) → Bool} :
    stageHolds cfg p f = true ↔ ∃ ftz sols, wrapStageFull cfg p.lines p.ft = some (ftz, sols) ∧ f ftz sols = true := by
  unfold stageHolds
  cases wrapStageFull cfg p.lines p.ft with
  | none => simp
  | some r => exact ⟨fun h => ⟨r.1, r.2, rfl, h⟩, fun ⟨_, _, e, h⟩ => by cases e; exact h⟩

/-! ### the model's functions through `preStage` -/

-- the equations hold by unfolding the pipeline around the stage, and what follows them compares calls of the stage:
-- neither is looked into (why that matters: `preWrap_congr`, Proofs/PreStage.lean)
attribute [local irreducible] wrapStageFull preWrap

theorem formatTokensFull_run (cfg : Config) (alnum : Bytes → Bool) (raw : List RawTok) :
    formatTokensFull cfg alnum raw = (parseAndConsolidate raw).bind fun po =>
      (Pre.of alnum raw po).run cfg fun ftz _ => reconstruct cfg.settings ftz := by
  unfold formatTokensFull
  cases parseAndConsolidate raw <;> rfl

theorem formatFull_eq (cfg : Config) (alnum : Bytes → Bool) (s : Bytes) :
    formatFull cfg alnum s = (preStage alnum s).bind fun p => p.run cfg fun ftz _ => reconstruct cfg.settings ftz := by
  unfold formatFull preStage formatTokensFull
  cases lex s with
  | none => rfl
  | some raw => dsimp only; cases parseAndConsolidate raw <;> rfl

theorem formatFull_eq_some {cfg : Config} {alnum : Bytes → Bool} {s out : Bytes} :
    formatFull cfg alnum s = some out ↔ ∃ p ftz sols, preStage alnum s = some p ∧
      wrapStageFull cfg p.lines p.ft = some (ftz, sols) ∧ reconstruct cfg.settings ftz = out := by
  simp [formatFull_eq, Option.bind_eq_some_iff, Pre.run_eq_some]

/-- the run from its stages -/
theorem formatFull_of {cfg : Config} {alnum : Bytes → Bool} {s : Bytes} {raw : List RawTok} {po : ParserOut} {ftz : FT}
    {sols : List (Nat × Nat × Sol)} (hl : lex s = some raw) (hpo : parseAndConsolidate raw = some po)
    (hw : wrapStageFull cfg (preWrap (preO alnum po) raw).2.1 (preWrap (preO alnum po) raw).2.2 = some (ftz, sols)) :
    formatFull cfg alnum s = some (reconstruct cfg.settings ftz) :=
  formatFull_eq_some.2 ⟨_, ftz, sols, preStage_eq_some.2 ⟨raw, po, hl, hpo, rfl⟩, hw, rfl⟩

theorem finalStateFull_eq (cfg : Config) (alnum : Bytes → Bool) (s : Bytes) :
    finalStateFull cfg alnum s = (preStage alnum s).bind fun p => p.run cfg fun ftz _ => ftz := by
  unfold finalStateFull preStage
  cases lex s with
  | none => rfl
  | some raw => dsimp only; cases parseAndConsolidate raw <;> rfl

theorem canonPremisesB_eq (cfg : Config) (alnum : Bytes → Bool) (s : Bytes) :
    canonPremisesB cfg alnum s = (preStage alnum s).any fun p => preStageOkB p.lines p.ft &&
      stageHolds cfg p fun _ sols => allWritten p.lines (writtenBefore p.lines p.ft) p.ft.length sols := by
  unfold canonPremisesB preStage
  cases lex s with
  | none => rfl
  | some raw => dsimp only; cases parseAndConsolidate raw <;> rfl

theorem canonPremisesB'_eq (cfg : Config) (alnum : Bytes → Bool) (s : Bytes) :
    canonPremisesB' cfg alnum s = (preStage alnum s).any fun p => preStageOkB' p.lines p.ft &&
      stageHolds cfg p fun _ sols => allWritten p.lines (writtenBefore p.lines p.ft) p.ft.length sols := by
  unfold canonPremisesB' preStage
  cases lex s with
  | none => rfl
  | some raw => dsimp only; cases parseAndConsolidate raw <;> rfl

theorem crlfOk_eq (cfg : Config) (alnum : Bytes → Bool) (s : Bytes) :
    CrlfFull.crlfOk cfg alnum s =
      (preStage alnum s).all fun p => CrlfFull.crlfStageOk cfg p.lines p.ft := by
  unfold CrlfFull.crlfOk preStage
  cases lex s with
  | none => rfl
  | some raw => dsimp only; cases parseAndConsolidate raw <;> rfl

theorem crlfOk23_eq (cfg : Config) (alnum : Bytes → Bool) (s : Bytes) :
    CrlfFull.crlfOk23 cfg alnum s =
      (preStage alnum s).all fun p => CrlfFull.crlfStageOk23 cfg p.lines p.ft := by
  unfold CrlfFull.crlfOk23 preStage
  cases lex s with
  | none => rfl
  | some raw => dsimp only; cases parseAndConsolidate raw <;> rfl

/-- the premises of the layout theorem for a pair: the first input reaches the stage, the second is scanned -/
theorem layoutPremisesB_eq (cfg : Config) (alnum : Bytes → Bool) (s1 s2 : Bytes) :
    layoutPremisesB cfg alnum s1 s2 = (preStage alnum s1).any fun p =>
      match lex s2 with
      | none => false
      | some raw2 =>
        (maskFlags false (p.raw.map fun t => (t.kind, wsHasBreak t.ws)) ==
          maskFlags false (raw2.map fun t => (t.kind, wsHasBreak t.ws))) &&
        sameLayoutB p.po.kinds p.marks p.raw raw2 &&
        stageHolds cfg p fun ftz sols =>
          allWritten p.lines (writtenBefore p.lines p.ft) p.ft.length sols && freeBrokenB p.ft ftz := by
  unfold layoutPremisesB preStage
  cases lex s1 with
  | none => rfl
  | some raw1 =>
    cases lex s2 with
    | none => dsimp only; cases parseAndConsolidate raw1 <;> rfl
    | some raw2 => dsimp only; cases parseAndConsolidate raw1 <;> rfl

theorem layoutPremisesB'_eq (cfg : Config) (alnum : Bytes → Bool) (s1 s2 : Bytes) :
    layoutPremisesB' cfg alnum s1 s2 = (preStage alnum s1).any fun p =>
      match lex s2 with
      | none => false
      | some raw2 =>
        (maskFlags false (p.raw.map fun t => (t.kind, wsHasBreak t.ws)) ==
          maskFlags false (raw2.map fun t => (t.kind, wsHasBreak t.ws))) &&
        sameLayoutB p.po.kinds p.marks p.raw raw2 &&
        stageHolds cfg p fun ftz sols =>
          allWritten p.lines (writtenBefore p.lines p.ft) p.ft.length sols && freeBeforeBrokenB p.lines p.ft ftz := by
  unfold layoutPremisesB' preStage
  cases lex s1 with
  | none => rfl
  | some raw1 =>
    cases lex s2 with
    | none => dsimp only; cases parseAndConsolidate raw1 <;> rfl
    | some raw2 => dsimp only; cases parseAndConsolidate raw1 <;> rfl

end Pasfmt
