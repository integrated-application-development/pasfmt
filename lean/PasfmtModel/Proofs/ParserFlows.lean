/-
  What every function of the parser model is made of.  The functions of the model are terms of the state monad: there
  is no syntax of programs to induct on.  The derivations of `Flows P V σ x` are that syntax: `x` is built by `>>=`,
  `if`, `get` … from the primitives, each under its side condition, given what is known where `x` starts (`V`: the parent
  references that are meaningful; `P`: a reference just taken, meaningful after the `next_token` that follows; `σ`: a
  snapshot of the state that the current token's type has not left since).  Every function has a derivation (`allBuilt`:
  one traversal), and a fact about the control flow is one induction over derivations whose cases are its rules
  (`Flows.good`: parent references stay meaningful; `Flows.kinds`: no write retypes or makes a text literal).
-/
import PasfmtModel.Proofs.ParserParentsFlow
import PasfmtModel.Proofs.ParserLiteralsRules

namespace Pasfmt.Parents

open PFull ParserLit

/-- the tail of `finish_logical_line`; its parent reference comes from the open contexts, not from `V` -/
abbrev finishTail : PM Unit :=
  get >>= fun s => match s.getContextLevel with | (parent, contextLevel) => prim (.finish parent contextLevel)

inductive Flows : {α : Type} → Option LineParent → List LineParent → Option PS → PM α → Prop
  | reads {α : Type} {V σ} (x : PM α) [Reads x] : Flows none V σ x
  /-- a fact about a function, proved where less was known -/
  | sub {α : Type} {V V' σ} {x : PM α} (h : Flows none V none x) (hs : ∀ p ∈ V, p ∈ V') : Flows none V' σ x
  /-- `x` leaves the snapshot valid -/
  | bind_frame {α β : Type} {V σ} {x : PM α} {f : α → PM β} (hfr : Frame x) (hx : Flows none V σ x)
      (hf : ∀ a, Flows none V σ (f a)) : Flows none V σ (x >>= f)
  | bind {α β : Type} {V σ} {x : PM α} {f : α → PM β} (hx : Flows none V σ x)
      (hf : ∀ a, Flows none V none (f a)) : Flows none V σ (x >>= f)
  /-- `x` starts by consuming the current token: `p` is meaningful from there on -/
  | bindP {α β : Type} {p V σ} {x : PM α} {f : α → PM β} (hx : Flows (some p) V σ x)
      (hf : ∀ a, Flows none (p :: V) none (f a)) : Flows (some p) V σ (x >>= f)
  | get_bind {α : Type} {V σ} {f : PS → PM α} (h : ∀ s, Flows none V (some s) (f s)) : Flows none V σ (get >>= f)
  | liftOpt_bind {α β : Type} {V σ} {o : Option α} {f : α → PM β} (h : ∀ a, o = some a → Flows none V σ (f a)) :
      Flows none V σ (liftOpt o >>= f)
  | ite {α : Type} {P V σ} {c : Prop} [Decidable c] {x y : PM α} (hx : c → Flows P V σ x) (hy : ¬c → Flows P V σ y) :
      Flows P V σ (if c then x else y)
  | getLP {α : Type} {V σ} {rest : LineParent → PM α} (h : ∀ p, Flows (some p) V σ (rest p)) :
      Flows none V σ (getLineParentOfCurrentToken >>= rest)
  | next {P V σ} : Flows P V σ nextToken
  | panic {α : Type} {P V σ} : Flows P V σ (panic_ : PM α)
  | pushCtx {V σ} (c : ParserContext) (hc : lvlIn V c.level) : Flows none V σ (pushCtx c)
  | popCtx {V σ} : Flows none V σ popCtx
  | updateStatuses {V σ} (i : Nat) : Flows none V σ (updateStatuses i)
  | prim {V σ} (op : POp) (hp : ∀ p, opParent op = some p → p ∈ V) (hE : op ≠ .setType .lEof) : Flows none V σ (prim op)
  | finishTail {V σ} : Flows none V σ finishTail
  | setKind {V s} (i : Nat) (k : RawKind) (hn : NotLit s.kinds[i]?) (hk : NotLit (some k)) :
      Flows none V (some s) (setKind i k)
  | setCur {V s} (k : RawKind) (hc : NotLit s.getCurrentTokenType) (hk : NotLit (some k)) :
      Flows none V (some s) (setCurrentTokenType k)

/-- what `Flows P V σ x` says about parent references -/
def GoodQ {α : Type} (E : EofSpec) : Option LineParent → List LineParent → PM α → Prop
  | none, V, x => Good E V x
  | some p, V, x => GoodP E p V x

/-- **a computation built from the primitives under their side conditions keeps parent references meaningful** -/
theorem Flows.good (E : EofSpec) {α : Type} {P : Option LineParent} {V : List LineParent} {σ : Option PS} {x : PM α}
    (h : Flows P V σ x) : GoodQ E P V x := by
  induction h with
  | reads x => exact Good.reader E _ Reads.same
  | sub _ hs ih => exact Good.mono ih hs
  | bind_frame _ _ _ ihx ihf => exact Good.bind ihx ihf
  | bind _ _ ihx ihf => exact Good.bind ihx ihf
  | bindP _ _ ihx ihf => exact GoodP.bind ihx ihf
  | get_bind _ ih => exact Good.bind (Good.get E _) ih
  | @liftOpt_bind _ _ V σ o f _ ih =>
    cases o with
    | none => exact fun s b s' _ _ h => nomatch (h : (none : Option _) = some _)
    | some a => exact fun s b s' hi hv h => ih a rfl s b s' hi hv h
  | @ite _ P V σ c _ x y _ _ ihx ihy =>
    by_cases hc : c
    · rw [if_pos hc]; exact ihx hc
    · rw [if_neg hc]; exact ihy hc
  | getLP _ ih => exact Good.getLP ih
  | @next P V σ =>
    cases P with
    | none => exact good_nextToken E V
    | some p => exact goodP_nextToken E p V
  | @panic _ P V σ =>
    cases P with
    | none => exact Good.panic E V
    | some p => exact fun _ _ _ _ _ _ h => nomatch h
  | pushCtx c hc => exact good_pushCtx E _ c hc
  | popCtx => exact good_popCtx E _
  | updateStatuses i => exact good_updateStatuses E _ i
  | prim op hp hE => exact good_prim E _ op hp (fun _ => hE)
  | finishTail => exact good_finishTail E _
  | setKind i k _ _ => exact good_setKind E _ i k
  | setCur k _ _ => exact good_setCurrentTokenType E _ k

/-- **a computation built from the primitives under their side conditions neither retypes nor makes a text literal** -/
theorem Flows.kinds {α : Type} {P : Option LineParent} {V : List LineParent} {σ : Option PS} {x : PM α}
    (h : Flows P V σ x) : Kinds σ x := by
  induction h with
  | reads x => exact Frame.kinds IsFrame.out
  | sub _ _ ih => exact ih.of_none
  | bind_frame hfr _ _ _ ihf => exact .bind_frame hfr ihf
  | bind _ _ ihx ihf => exact .bind ihx ihf
  | bindP _ _ ihx ihf => exact .bind ihx ihf
  | get_bind _ ih => exact .get_bind ih
  | liftOpt_bind _ ih => exact .liftOpt_bind ih
  | ite _ _ ihx ihy => exact .ite ihx ihy
  | getLP _ ih => exact .bind_frame IsFrame.out ih
  | next => exact kinds_nextToken
  | panic => exact Frame.kinds IsFrame.out
  | pushCtx c _ => exact (frame_pushCtx c).kinds
  | popCtx => exact frame_popCtx.kinds
  | updateStatuses i => exact (frame_updateStatuses i).kinds
  | prim op _ _ => exact kinds_prim op
  | finishTail => exact .get_bind fun s => by split; exact kinds_prim _
  | setKind i k hn hk => exact .setKind i k hn hk
  | setCur k hc hk => exact .setCurrentTokenType k hc hk

/-- the derivation of a function of the model, found by the function's name -/
class Built {α : Type} (x : PM α) : Prop where
  out : Flows none [] none x

section
variable {α β : Type} {P : Option LineParent} {V : List LineParent} {σ : Option PS}

theorem Flows.call (x : PM α) [Built x] : Flows none V σ x := .sub Built.out (fun _ h => nomatch h)

theorem Built.good (E : EofSpec) (V : List LineParent) {x : PM α} [Built x] : Good E V x :=
  (Flows.call (σ := none) x).good E

theorem Built.kinds {x : PM α} [Built x] : Kinds σ x := (Flows.call (V := []) x).kinds

instance (x : PM α) [Reads x] : Built x := ⟨.reads x⟩
instance : Built popCtx := ⟨.popCtx⟩
instance (i : Nat) : Built (updateStatuses i) := ⟨.updateStatuses i⟩

theorem Flows.prim0 (op : POp) (hp : opParent op = none) (hE : op ≠ .setType .lEof) : Flows none V σ (PFull.prim op) :=
  .prim op (by intro p h; rw [hp] at h; cases h) hE

/-- a join point `y` of a `do` block, dealt with once before the block that jumps to it from several places: without
    the snapshot (`σ' = none`), so that the fact serves at every jump, unless `y` needs it -/
theorem Flows.join (σ' : Option PS) {x : PM α} (y : PM β) (hy : Flows none V σ' y)
    (hx : Flows none V σ' y → Flows P V σ x) : Flows P V σ x := hx hy

/-- The rule that takes `x` apart at its head, or the fact about `x` if it is a primitive or a function dealt with
    before; `prem` is what is left to show.  Instance resolution finds the rule by the head of `x`: a traversal looks
    it up at every node instead of trying the rules one after the other.  The lookup runs under `with_reducible`, so a
    call of a function of the model is not unfolded: it is a leaf, answered by the function's `Built` instance (for a
    recursive call by the hypothesis `ih` of the induction, which is a local instance).  Where several rules fit `>>=`
    the priorities decide: the rules for `get`, `cur`, `liftOpt` and `get_line_parent_of_current_token` go before the
    rule for a frame, which fits them too (they only read) but does not learn what was read; the rule that drops the
    snapshot comes last.  The rules for `x >>= f` look the rule for `x` up in the same resolution (`x` is a call or a
    primitive nearly always) and leave its premise, which saves the traversal a node. -/
class Rule {α : Type} (P : Option LineParent) (V : List LineParent) (σ : Option PS) (x : PM α) (prem : outParam Prop) :
    Prop where
  out : prem → Flows P V σ x

/-- a fact with a side condition is proved where nothing else is known -/
theorem Rule.of_none {x : PM α} {c : Prop} (h : c → Flows none V none x) : Rule none V σ x c :=
  ⟨fun hc => .sub (h hc) (fun _ h => h)⟩

instance (priority := high) {f : PS → PM α} : Rule none V σ (get >>= f) (∀ s, Flows none V (some s) (f s)) :=
  ⟨Flows.get_bind⟩
/-- `cur >>= f` is `get >>= fun s => f s.getCurrentTokenType` -/
instance (priority := high) {f : Option RawKind → PM α} :
    Rule none V σ (cur >>= f) (∀ s, Flows none V (some s) (f s.getCurrentTokenType)) :=
  ⟨fun h => (Flows.get_bind h : Flows none V σ (get >>= fun s => f s.getCurrentTokenType))⟩
instance (priority := high) {o : Option β} {f : β → PM α} :
    Rule none V σ (liftOpt o >>= f) (∀ a, o = some a → Flows none V σ (f a)) := ⟨Flows.liftOpt_bind⟩
instance (priority := high) {rest : LineParent → PM α} :
    Rule none V σ (getLineParentOfCurrentToken >>= rest) (∀ p, Flows (some p) V σ (rest p)) := ⟨Flows.getLP⟩
/-- `finishTail` is an `abbrev`, so that the body of `finish_logical_line` ends in it as it stands; declared after the
    rule for `get`, it is tried first -/
instance (priority := high) : Rule none V σ finishTail True := ⟨fun _ => .finishTail⟩
instance {p : LineParent} {x : PM β} {f : β → PM α} :
    Rule (some p) V σ (x >>= f) (Flows (some p) V σ x ∧ ∀ a, Flows none (p :: V) none (f a)) :=
  ⟨fun h => .bindP h.1 h.2⟩
instance {x : PM β} {f : β → PM α} {px : Prop} [Rule none V σ x px] :
    Rule none V σ (x >>= f) (px ∧ ∀ a, Flows none V none (f a)) :=
  ⟨fun h => .bind (Rule.out h.1) h.2⟩
/-- declared after the rule that drops the snapshot, it is tried first -/
instance {s : PS} {x : PM β} {f : β → PM α} {px : Prop} [Rule none V (some s) x px] [IsFrame x] :
    Rule none V (some s) (x >>= f) (px ∧ ∀ a, Flows none V (some s) (f a)) :=
  ⟨fun h => .bind_frame IsFrame.out (Rule.out h.1) h.2⟩
instance {c : Prop} [Decidable c] {x y : PM α} :
    Rule P V σ (if c then x else y) ((c → Flows P V σ x) ∧ (¬c → Flows P V σ y)) := ⟨fun h => .ite h.1 h.2⟩
instance {b : Bool} {m : PM Bool} : Rule none V σ (PFull.andM b m) (Flows none V σ m) :=
  ⟨fun h => Flows.ite (fun _ => h) (fun _ => .reads _)⟩
/-- below the rule for `>>=`, so that a block of readers is not looked through again at every node -/
instance (priority := 10) {x : PM α} [Built x] : Rule none V σ x True := ⟨fun _ => .call x⟩
instance : Rule P V σ nextToken True := ⟨fun _ => .next⟩
instance : Rule P V σ (panic_ : PM α) True := ⟨fun _ => .panic⟩
instance {c : ParserContext} : Rule none V σ (pushCtx c) (lvlIn V c.level) := ⟨.pushCtx c⟩
instance {op : POp} : Rule none V σ (PFull.prim op) (opParent op = none ∧ (op == .setType .lEof) = false) :=
  ⟨fun h => .prim0 op h.1 (by intro e; rw [e] at h; exact absurd h.2 (by decide))⟩
instance {t : LogicalLineType} : Rule none V σ (setLogicalLineType t) ((t == .lEof) = false) :=
  ⟨fun h => .prim0 _ rfl (by intro e; cases e; exact absurd h (by decide))⟩
instance {s : PS} {i : Nat} {k : RawKind} :
    Rule none V (some s) (setKind i k) (NotLit s.kinds[i]? ∧ NotLit (some k)) := ⟨fun h => .setKind i k h.1 h.2⟩
instance {s : PS} {k : RawKind} :
    Rule none V (some s) (setCurrentTokenType k) (NotLit s.getCurrentTokenType ∧ NotLit (some k)) :=
  ⟨fun h => .setCur k h.1 h.2⟩

/-- closes the side condition `lvlIn V lvl` or `p ∈ V`: computed (`.level _` has no parent reference; for
    `.parent p _`, `V` is `p :: _`), or a hypothesis, possibly about the level inside `mkCtx` -/
macro "lvl_side" : tactic =>
  `(tactic| first
    | exact trivial
    | assumption
    | exact List.mem_cons_self
    | (simp only [mkCtx]; assumption)
    | (simp [lvlIn, mkCtx, *]; done))

macro "kgood_struct" : tactic => `(tactic| with_reducible refine Rule.out ?_)

/-- The code after an `if` or `match` without result is a join point (`have __do_jp : Unit → _ := ..`) that every
    branch jumps to: it is taken out of the goal and dealt with once (`Flows.join`), under the snapshot `σ`, since
    unfolding it at every jump multiplies the work by the number of branches. -/
macro "flow_join" σ:term : tactic =>
  `(tactic| (extract_lets -underBinder +onlyGivenNames jp
             with_reducible refine Flows.join $σ (jp ()) ?_ (fun _ => ?_)
             dsimp -zeta only [jp]
             all_goals clear_value jp))

/-- One step: what a rule has left is taken apart, a join point is taken out (without the snapshot, so that its fact
    serves at every jump), or the rule for the head of the goal is looked up - in this order: the lookup would look
    through the `have` of a join point. -/
macro "good_struct" : tactic =>
  `(tactic| first
    | intro _
    | (with_reducible refine And.intro ?_ ?_)
    | (with_reducible exact trivial)
    | flow_join none
    | kgood_struct)

/-- what a write of a token type leaves to show: the guards in the context say that the token is not a text literal -/
macro "kgood_leaf" : tactic => `(tactic| (show NotLit _; first | exact rfl | notlit_side))

/-- what a rule leaves to show about parent references and line types, or a join point dealt with before (possibly
    before `V` grew) -/
macro "good_leaf" : tactic =>
  `(tactic| first
    | (show lvlIn _ _; lvl_side)
    | (show _ = _; first | exact rfl | decide)
    | (with_reducible assumption)
    | (with_reducible exact Flows.sub ‹_› (fun _ h => h))
    | (with_reducible exact Flows.sub ‹_› (fun _ => List.mem_cons_of_mem _))
    | kgood_leaf)

macro "kgood_fallback" : tactic => `(tactic| split)

/-- the traversal: finds the derivation of the function whose body is the goal -/
macro "flow" : tactic => `(tactic| repeat' (first | good_struct | good_leaf | kgood_fallback))

instance : Built isDirectiveAfterPrevToken := ⟨by unfold isDirectiveAfterPrevToken; flow⟩
instance : Built consolidateCurrentIdent := ⟨by unfold consolidateCurrentIdent; flow⟩
instance : Built consolidateCurrentKeyword := ⟨by unfold consolidateCurrentKeyword; flow⟩
instance : Built consolidatePrevKeyword := ⟨by unfold consolidatePrevKeyword; flow⟩
instance (k : DeclKind) : Built (setCurrentDeclKind k) := ⟨by unfold setCurrentDeclKind; flow⟩
instance : Built consolidateCurrentCaretToType := ⟨by unfold consolidateCurrentCaretToType; flow⟩
instance : Built consolidateClassOpIn := ⟨by unfold consolidateClassOpIn; flow⟩
instance : Built skipToken := ⟨by unfold skipToken; flow⟩

instance built_consolidatePortabilityDirectivesGo (lineTokens : Array Nat) :
    ∀ (fuel lineIndex : Nat), Built (consolidatePortabilityDirectivesGo lineTokens fuel lineIndex)
  | 0, _ => ⟨.panic⟩
  | fuel + 1, lineIndex => ⟨by
    rw [consolidatePortabilityDirectivesGo]
    have ih := built_consolidatePortabilityDirectivesGo lineTokens fuel (lineIndex - 1)
    -- the join point that writes tests the snapshot: where the fact without it cannot be had, it is dealt with under it
    repeat' first
      | (flow_join none; · flow)
      | flow_join (some ‹_›)
      | good_struct | good_leaf | kgood_fallback⟩

instance : Built consolidatePortabilityDirectives := ⟨by unfold consolidatePortabilityDirectives; flow⟩
instance : Built finishLogicalLine := ⟨by unfold finishLogicalLine; flow⟩
instance : Built makeUnfinishedLine := ⟨by unfold makeUnfinishedLine; flow⟩

instance built_skipPairGo (a b c : Nat) : ∀ fuel, Built (skipPairGo a b c fuel)
  | 0 => ⟨.panic⟩
  | fuel + 1 => ⟨by
    rw [skipPairGo]
    have ih := built_skipPairGo a b c fuel
    flow⟩
instance (fuel : Nat) : Built (skipPair fuel) := ⟨by unfold skipPair; flow⟩

instance built_takeUntil (pred : PS → Bool) : ∀ fuel, Built (takeUntil pred fuel)
  | 0 => ⟨.panic⟩
  | fuel + 1 => ⟨by
    rw [takeUntil]
    have ih := built_takeUntil pred fuel
    flow⟩

instance built_parseExpressionGo : ∀ fuel, Built (parseExpressionGo fuel)
  | 0 => ⟨.panic⟩
  | fuel + 1 => ⟨by
    rw [parseExpressionGo]
    have ih := built_parseExpressionGo fuel
    flow⟩
instance (fuel : Nat) : Built (parseExpression fuel) := ⟨by unfold parseExpression; flow⟩

instance built_fixNextEqGo : ∀ fuel index, Built (fixNextEqGo fuel index)
  | 0, _ => ⟨.panic⟩
  | fuel + 1, index => ⟨by
    rw [fixNextEqGo]
    have ih := built_fixNextEqGo fuel (index + 1)
    flow⟩
instance (fuel : Nat) : Built (fixNextEq fuel) := ⟨by unfold fixNextEq; flow⟩

instance built_parseParameterListGo (a b : Nat) : ∀ fuel, Built (parseParameterListGo a b fuel)
  | 0 => ⟨.panic⟩
  | fuel + 1 => ⟨by
    rw [parseParameterListGo]
    have ih := built_parseParameterListGo a b fuel
    flow⟩
instance (fuel : Nat) : Built (parseParameterList fuel) := ⟨by unfold parseParameterList; flow⟩
instance (fuel : Nat) : Built (parseExports fuel) := ⟨by unfold parseExports; flow⟩
instance (fuel : Nat) : Built (routineHeaderOp fuel) := ⟨by unfold routineHeaderOp; flow⟩
instance (fuel : Nat) : Built (propertyDeclarationOp fuel) := ⟨by unfold propertyDeclarationOp; flow⟩
instance (fuel : Nat) (op : UntilOp) : Built (runUntilOp fuel op) := ⟨by cases op <;> (unfold runUntilOp; flow)⟩

instance built_opUntil (pred : PS → Bool) (op : UntilOp) : ∀ fuel, Built (opUntil pred op fuel)
  | 0 => ⟨.panic⟩
  | fuel + 1 => ⟨by
    rw [opUntil]
    have ih := built_opUntil pred op fuel
    flow⟩
instance (fuel : Nat) : Built (parseRoutineHeader fuel) := ⟨by unfold parseRoutineHeader; flow⟩
instance (fuel : Nat) : Built (parsePropertyDeclaration fuel) := ⟨by unfold parsePropertyDeclaration; flow⟩
instance : Built addAsmInstructionLine := ⟨by unfold addAsmInstructionLine; flow⟩

instance built_parseAsmInstructionsGo : ∀ fuel, Built (parseAsmInstructionsGo fuel)
  | 0 => ⟨.panic⟩
  | fuel + 1 => ⟨by
    rw [parseAsmInstructionsGo]
    have ih := built_parseAsmInstructionsGo fuel
    flow⟩
instance (fuel : Nat) : Built (parseAsmInstructions fuel) := ⟨by unfold parseAsmInstructions; flow⟩

instance (fuel : Nat) (level : ParserContextLevel) :
    Rule none V σ (takeSeparatorsOnLastLine fuel level) (lvlIn V level) :=
  .of_none fun hl => by unfold takeSeparatorsOnLastLine; flow

/-- the derivations of all functions of the mutual block, called with fuel `n`.  A function that pushes the context it
    is given, or is handed a parent reference, has the side condition of that push. -/
class AllBuilt (n : Nat) : Prop where
  parseStructures : Built (PFull.parseStructures n)
  parseAsmBlock : Built (PFull.parseAsmBlock n)
  doWithContext : ∀ V σ ctx act, Rule none V σ (PFull.doWithContext n ctx act) (lvlIn V ctx.level)
  runAction : ∀ act, Built (PFull.runAction n act)
  parseRoutine : Built (PFull.parseRoutine n)
  parseBeginEnd : ∀ V σ lvl, Rule none V σ (PFull.parseBeginEnd n lvl) (lvlIn V lvl)
  /-- called with the reference still pending: it consumes the token itself -/
  parseBeginEndP : ∀ V σ p, Flows (some p) V σ (PFull.parseBeginEnd n (.parent p 1))
  parseStatementListBlock : ∀ V σ ctx, Rule none V σ (PFull.parseStatementListBlock n ctx) (lvlIn V ctx.level)
  parseStatementBlockWithKind :
    ∀ V σ ctx k, Rule none V σ (PFull.parseStatementBlockWithKind n ctx k) (lvlIn V ctx.level)
  parseBlock : ∀ V σ ctx, Rule none V σ (PFull.parseBlock n ctx) (lvlIn V ctx.level)
  parseStatementListWithType : ∀ ct, Built (PFull.parseStatementListWithType n ct)
  parseStatementListWithTypeAndPredicate : ∀ ct p, Built (PFull.parseStatementListWithTypeAndPredicate n ct p)
  parseCommentLines : Built (PFull.parseCommentLines n)
  parseImportClause : Built (PFull.parseImportClause n)
  parseCaseStatement : Built (PFull.parseCaseStatement n)
  parseLineSection : ∀ V σ ctx, Rule none V σ (PFull.parseLineSection n ctx) (lvlIn V ctx.level)
  parseStatement : Built (PFull.parseStatement n)
  parseAnonymousRoutine : Built (PFull.parseAnonymousRoutine n)
  parseAnonymousRoutineGo : ∀ V σ p, Rule none V σ (PFull.parseAnonymousRoutineGo n p) (lvlIn V (.parent p 1))
  parseCaseArm : ∀ V σ p, Rule none V σ (PFull.parseCaseArm n p) (lvlIn V (.parent p 1))
  parseVariantRecordFields : Built (PFull.parseVariantRecordFields n)
  parseParens : Built (PFull.parseParens n)
  parseParensGo : Built (PFull.parseParensGo n)
  parseVariantRecord : Built (PFull.parseVariantRecord n)
  parseIfThen : Built (PFull.parseIfThen n)
  parseDoStatement : ∀ k, Built (PFull.parseDoStatement n k)

attribute [instance] AllBuilt.parseStructures AllBuilt.parseAsmBlock AllBuilt.doWithContext AllBuilt.runAction
  AllBuilt.parseRoutine AllBuilt.parseBeginEnd AllBuilt.parseStatementListBlock AllBuilt.parseStatementBlockWithKind
  AllBuilt.parseBlock AllBuilt.parseStatementListWithType AllBuilt.parseStatementListWithTypeAndPredicate
  AllBuilt.parseCommentLines AllBuilt.parseImportClause AllBuilt.parseCaseStatement AllBuilt.parseLineSection
  AllBuilt.parseStatement AllBuilt.parseAnonymousRoutine AllBuilt.parseAnonymousRoutineGo AllBuilt.parseCaseArm
  AllBuilt.parseVariantRecordFields AllBuilt.parseParens AllBuilt.parseParensGo AllBuilt.parseVariantRecord
  AllBuilt.parseIfThen AllBuilt.parseDoStatement

/-- the induction hypothesis about a call with the parent reference still pending -/
macro "good_ih" ih:ident : tactic =>
  `(tactic| with_reducible exact AllBuilt.parseBeginEndP (self := $ih) _ _ _)

/-- the traversal given a fact `hjp` about a join point that needs the snapshot, as it was called before the rules
    were looked up by instance resolution; `step_parseStatement` spells the steps out instead (`dsimp only` here would
    turn a line type computed by a `match` into a hypothesis that nothing decides), so nothing uses this macro -/
macro "goodj" ih:ident hjp:ident : tactic =>
  `(tactic| repeat' (first | (with_reducible exact $hjp _ _) | good_ih $ih | good_leaf | good_struct | (with_reducible refine GoodP.bind ?_ ?_) | dsimp only | split))

theorem step_doWithContext (n : Nat) [ih : AllBuilt n] (V : List LineParent) (σ : Option PS) (ctx : ParserContext)
    (act : Action) : Rule none V σ (doWithContext (n + 1) ctx act) (lvlIn V ctx.level) := by
  refine .of_none fun hc => ?_
  rw [doWithContext]
  cases hlv : ctx.level with
  | level d =>
    simp only [ParserContextLevel.parent?, Option.isSome, Bool.false_eq_true, ↓reduceIte]
    flow
  | parent p d =>
    rw [hlv] at hc
    simp only [ParserContextLevel.parent?, Option.isSome, ↓reduceIte]
    have hpush : Rule none V none (prim (.pushLine p)) True := ⟨fun _ =>
      .prim _ (by intro q hq; simp only [opParent, Option.some.injEq] at hq; subst hq; exact hc) (fun h => nomatch h)⟩
    have hctx : lvlIn V ctx.level := by rw [hlv]; exact hc
    flow

theorem step_parseStatement (n : Nat) [ih : AllBuilt n] : Built (parseStatement (n + 1)) := ⟨by
  rw [parseStatement]
  refine Flows.get_bind ?_
  intro s
  split
  · -- the rest of the function after the prologue is a join point whose guards test the type found in the prologue
    extract_lets -underBinder +onlyGivenNames jp
    have hjp : ∀ V' r, Flows none V' (some s) (jp r) := by
      intro V' r
      dsimp -zeta -zetaHave only [jp]
      flow
    clear_value jp
    repeat' (first | (with_reducible exact hjp _ _) | good_ih ih | good_struct | good_leaf | kgood_fallback)
  · flow⟩

/-- **every function of the parser model is built from the primitives with their side conditions met**, whatever the
    fuel -/
theorem allBuilt : ∀ n, AllBuilt n
  | 0 => by constructor <;> intros <;> first | exact ⟨.panic⟩ | exact ⟨fun _ => .panic⟩ | exact .panic
  | n + 1 =>
    have ih := allBuilt n
    { parseStructures := ⟨by rw [parseStructures]; flow⟩
      parseAsmBlock := ⟨by rw [parseAsmBlock]; flow⟩
      doWithContext := step_doWithContext n
      runAction := fun act => ⟨by cases act <;> (rw [runAction]; flow)⟩
      parseRoutine := ⟨by rw [parseRoutine]; flow⟩
      parseBeginEnd := fun V σ lvl => .of_none fun h => by rw [parseBeginEnd]; flow
      parseBeginEndP := by intro V σ p; rw [parseBeginEnd]; flow
      parseStatementListBlock := fun V σ ctx => .of_none fun h => by rw [parseStatementListBlock]; flow
      parseStatementBlockWithKind := fun V σ ctx k => .of_none fun h => by rw [parseStatementBlockWithKind]; flow
      parseBlock := fun V σ ctx => .of_none fun h => by rw [parseBlock]; flow
      parseStatementListWithType := fun ct => ⟨by rw [parseStatementListWithType]; flow⟩
      parseStatementListWithTypeAndPredicate := fun ct p => ⟨by rw [parseStatementListWithTypeAndPredicate]; flow⟩
      parseCommentLines := ⟨by rw [parseCommentLines]; flow⟩
      parseImportClause := ⟨by rw [parseImportClause]; flow⟩
      parseCaseStatement := ⟨by rw [parseCaseStatement]; flow⟩
      parseLineSection := fun V σ ctx => .of_none fun h => by rw [parseLineSection]; flow
      parseStatement := step_parseStatement n
      parseAnonymousRoutine := ⟨by rw [parseAnonymousRoutine]; flow⟩
      parseAnonymousRoutineGo := fun V σ p => .of_none fun h => by
        rw [parseAnonymousRoutineGo]; repeat' (first | good_ih ih | flow)
      parseCaseArm := fun V σ p => .of_none fun h => by rw [parseCaseArm]; flow
      parseVariantRecordFields := ⟨by rw [parseVariantRecordFields]; flow⟩
      parseParens := ⟨by rw [parseParens]; flow⟩
      parseParensGo := ⟨by rw [parseParensGo]; flow⟩
      parseVariantRecord := ⟨by rw [parseVariantRecord]; flow⟩
      parseIfThen := ⟨by rw [parseIfThen]; flow⟩
      parseDoStatement := fun k => ⟨by rw [parseDoStatement]; flow⟩ }

end

end Pasfmt.Parents
