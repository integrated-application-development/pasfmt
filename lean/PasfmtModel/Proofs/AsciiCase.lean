/-
  ASCII letter case on bytes and byte strings: `toLowerByte`/`toUpperByte` move the 26 letters of one case onto the
  26 of the other and fix every other byte.  A fact about a byte and its image is therefore checked on the 26 letters
  and on the fixed bytes (`toLowerByte_ind`, `toUpperByte_ind`); the class facts below are its instances.
-/
import PasfmtModel.Model.Bytes

namespace Pasfmt

/-- a fact about the 26 bytes from `lo` on (the letters of one case), from its instances -/
theorem letters_forall {P : UInt8 → Prop} (lo : Nat) (h : ∀ n : Fin 26, P (UInt8.ofNat (lo + n.val))) (b : UInt8)
    (h1 : lo ≤ b.toNat) (h2 : b.toNat ≤ lo + 25) : P b := by
  have := h ⟨b.toNat - lo, by omega⟩
  have e : lo + (b.toNat - lo) = b.toNat := by omega
  simpa only [e, UInt8.ofNat_toNat] using this

theorem lower_forall {P : UInt8 → Prop} (h : ∀ n : Fin 26, P (UInt8.ofNat (0x61 + n.val))) (b : UInt8)
    (hb : isLower b = true) : P b := by
  simp only [isLower, Bool.and_eq_true, decide_eq_true_eq, UInt8.le_iff_toNat_le] at hb
  exact letters_forall 0x61 h b hb.1 hb.2

theorem upper_forall {P : UInt8 → Prop} (h : ∀ n : Fin 26, P (UInt8.ofNat (0x41 + n.val))) (b : UInt8)
    (hb : isUpper b = true) : P b := by
  simp only [isUpper, Bool.and_eq_true, decide_eq_true_eq, UInt8.le_iff_toNat_le] at hb
  exact letters_forall 0x41 h b hb.1 hb.2

theorem toLowerByte_of_not_upper {b : UInt8} (h : ¬ isUpper b = true) : toLowerByte b = b := by
  simp [toLowerByte, h]

theorem toUpperByte_of_not_lower {b : UInt8} (h : ¬ isLower b = true) : toUpperByte b = b := by
  simp [toUpperByte, h]

/-- a fact about a byte and its lower-case form: checked on the 26 upper-case letters and on the bytes that
    `toLowerByte` fixes -/
@[elab_as_elim] theorem toLowerByte_ind {P : UInt8 → Prop} (hl : ∀ n : Fin 26, P (UInt8.ofNat (0x41 + n.val)))
    (hr : ∀ b, ¬ isUpper b = true → toLowerByte b = b → P b) (b : UInt8) : P b :=
  if hu : isUpper b = true then upper_forall hl b hu else hr b hu (toLowerByte_of_not_upper hu)

@[elab_as_elim] theorem toUpperByte_ind {P : UInt8 → Prop} (hl : ∀ n : Fin 26, P (UInt8.ofNat (0x61 + n.val)))
    (hr : ∀ b, ¬ isLower b = true → toUpperByte b = b → P b) (b : UInt8) : P b :=
  if hu : isLower b = true then lower_forall hl b hu else hr b hu (toUpperByte_of_not_lower hu)

/-! ### bytes -/

theorem toLowerByte_toUpperByte (b : UInt8) : toLowerByte (toUpperByte b) = toLowerByte b :=
  toUpperByte_ind (by decide +kernel) (fun _ _ e => by rw [e]) b

theorem toLowerByte_idem (b : UInt8) : toLowerByte (toLowerByte b) = toLowerByte b :=
  toLowerByte_ind (by decide +kernel) (fun _ _ e => by rw [e, e]) b

theorem lower_fix (y : UInt8) (hy : isLower y = true) : toLowerByte y = y :=
  lower_forall (P := fun y => toLowerByte y = y) (by decide +kernel) y hy

/-! lower-casing keeps the classes of bytes that `stripBlank` and `nd` ask for -/

theorem lower_le_20 (b : UInt8) : toLowerByte b ≤ 0x20 ↔ b ≤ 0x20 :=
  toLowerByte_ind (by decide +kernel) (fun _ _ e => by rw [e]) b

/-- lower-casing neither yields nor moves a byte that is not a letter -/
theorem toLowerByte_eq_iff {k : UInt8} (hk : isAlpha k = false) (x : UInt8) : toLowerByte x = k ↔ x = k := by
  refine toLowerByte_ind (P := fun x => toLowerByte x = k ↔ x = k) (fun n => ?_) (fun b _ e => by rw [e]) x
  have := (by decide +kernel : ∀ n : Fin 26, isAlpha (toLowerByte (UInt8.ofNat (0x41 + n.val))) = true ∧
    isAlpha (UInt8.ofNat (0x41 + n.val)) = true) n
  exact ⟨fun h => by rw [h, hk] at this; exact absurd this.1 (by decide),
    fun h => by rw [h, hk] at this; exact absurd this.2 (by decide)⟩

theorem isCont_lower (b : UInt8) : isCont (toLowerByte b) = isCont b :=
  toLowerByte_ind (by decide +kernel) (fun _ _ e => by rw [e]) b

theorem ws_lower (x : UInt8) : isAsciiWs (toLowerByte x) = isAsciiWs x :=
  toLowerByte_ind (by decide +kernel) (fun _ _ e => by rw [e]) x

theorem alnum_lower (x : UInt8) : isAlnum (toLowerByte x) = isAlnum x :=
  toLowerByte_ind (by decide +kernel) (fun _ _ e => by rw [e]) x

theorem isUpper_toLowerByte (b : UInt8) : isUpper (toLowerByte b) = false :=
  toLowerByte_ind (by decide +kernel) (fun _ h e => by rw [e]; simpa using h) b

/-- upper-casing keeps every class of bytes that the directive scanner tests -/
theorem upper_class (b : UInt8) :
    isAlpha (toUpperByte b) = isAlpha b ∧ isDigit (toUpperByte b) = isDigit b ∧ isAlnum (toUpperByte b) = isAlnum b ∧
    (toUpperByte b == 0x2B) = (b == 0x2B) ∧ (toUpperByte b == 0x2D) = (b == 0x2D) ∧
    (toUpperByte b == 0x2C) = (b == 0x2C) ∧ (toUpperByte b == 0x5F) = (b == 0x5F) :=
  toUpperByte_ind (by decide +kernel) (fun _ _ e => by simp [e]) b

theorem isLower_toUpperByte (b : UInt8) : isLower (toUpperByte b) = false :=
  toUpperByte_ind (by decide +kernel) (fun _ h e => by rw [e]; simpa using h) b

/-! ### byte strings -/

theorem asciiLower_length (w : Bytes) : (asciiLower w).length = w.length := by simp [asciiLower]

theorem asciiLower_append (a b : Bytes) : asciiLower (a ++ b) = asciiLower a ++ asciiLower b := by
  simp [asciiLower]

/-- so a text without letters is read at the head of `asciiLower c` exactly when it is read at the head of `c` -/
theorem asciiLower_eq_append_iff {p : Bytes} (hp : ∀ k ∈ p, isAlpha k = false) (c b' : Bytes) :
    asciiLower c = p ++ b' ↔ ∃ b, c = p ++ b ∧ asciiLower b = b' := by
  induction p generalizing c with
  | nil => simp
  | cons k p ih =>
    cases c with
    | nil => simp [asciiLower]
    | cons x r =>
      have := ih (fun k' hk' => hp k' (by simp [hk'])) r
      simp only [asciiLower, List.map_cons, List.cons_append, List.cons.injEq,
        toLowerByte_eq_iff (hp k (by simp)) x] at this ⊢
      rw [this]
      exact ⟨fun ⟨e, b, er, hb⟩ => ⟨b, ⟨e, er⟩, hb⟩, fun ⟨b, ⟨e, er⟩, hb⟩ => ⟨e, b, er, hb⟩⟩

theorem asciiLower_idem (w : Bytes) : asciiLower (asciiLower w) = asciiLower w := by
  unfold asciiLower
  rw [List.map_map]
  exact List.map_congr_left fun b _ => toLowerByte_idem b

theorem asciiLower_upper (c : Bytes) : asciiLower (asciiUpper c) = asciiLower c := by
  simp only [asciiLower, asciiUpper, List.map_map]
  exact List.map_congr_left fun b _ => toLowerByte_toUpperByte b

theorem getD_map_lower (w : Bytes) (i : Nat) : (asciiLower w).getD i 0 = toLowerByte (w.getD i 0) := by
  unfold asciiLower
  rw [List.getD_eq_getElem?_getD, List.getD_eq_getElem?_getD, List.getElem?_map]
  cases h : w[i]? with
  | none => simp [toLowerByte, isUpper]
  | some x => simp

theorem asciiLower_no_upper (c : Bytes) : (asciiLower c).any isUpper = false := by
  unfold asciiLower
  rw [List.any_map, List.any_eq_false]
  exact fun b _ => by simpa using isUpper_toLowerByte b

theorem asciiUpper_no_lower (c : Bytes) : (asciiUpper c).any isLower = false := by
  unfold asciiUpper
  rw [List.any_map, List.any_eq_false]
  exact fun b _ => by simpa using isLower_toUpperByte b

theorem eqIgnoreCase_length {a w : Bytes} (h : eqIgnoreCase a w = true) : a.length = w.length := by
  unfold eqIgnoreCase asciiLower at h
  have := congrArg List.length (eq_of_beq h)
  simpa using this

theorem eqIgnoreCase_lower (a w : Bytes) : eqIgnoreCase (asciiLower a) w = eqIgnoreCase a w := by
  unfold eqIgnoreCase; rw [asciiLower_idem]

end Pasfmt
