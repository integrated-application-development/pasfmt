/-
  C14 for the parser model `parseFileFull`, the clauses about the final lines.  The final lines are what the
  consolidation of passes (`consolidate_pass_lines`) makes of the lines of the passes and of the directive lines; one
  description of its result (`consolidateGo_spec`, `consolidateAll_spec`; `directiveLinesGo_spec` for the directive
  lines, which are consolidated like one more pass: `final_lines`) serves all clauses but the one about parent
  references, which needs the map from positions in the pass to positions in the result.  The clauses: without
  conditional directives no token is in two lines; every parent reference points at an earlier line that holds the
  parent token, given the decidable check `parentsOk` on the lines of the passes (that it holds for every answer is a
  fact about the control flow: `Proofs/ParserParentsFlow.lean`, `ParserParentsMutual.lean`); exactly one end-of-file
  line, under the decidable hypothesis `eofOk`.  The statements are surfaced in `Props/C14.lean`.
-/
import PasfmtModel.Proofs.ListFacts
import PasfmtModel.Proofs.ParserFullSound
import PasfmtModel.Proofs.Machine
import PasfmtModel.Proofs.Tree
import PasfmtModel.Proofs.TreeSorted
import PasfmtModel.Model.ParserChecks

namespace Pasfmt.Parents

theorem getElem?_left {α : Type} {as : List α} {i : Nat} {a : α} (h : as[i]? = some a) (bs : List α) :
    (as ++ bs)[i]? = some a := by
  rw [List.getElem?_append_left (List.getElem?_eq_some_iff.1 h).1]; exact h

abbrev flat (ls : List PLine) : List Nat := ls.flatMap (·.tokens)

theorem flat_cons (l : PLine) (ls : List PLine) : flat (l :: ls) = l.tokens ++ flat ls := by
  simp [flat]

theorem flat_append (a b : List PLine) : flat (a ++ b) = flat a ++ flat b := by
  simp [flat]

/-- `l'` is the line `l` of a pass as consolidation stores it: only the parent reference may differ, and a line
    without one is stored as it is -/
structure Stored (l l' : PLine) : Prop where
  tokens : l'.tokens = l.tokens
  ltype : l'.ltype = l.ltype
  level : l'.level = l.level
  parent : l.parent = none → l'.parent = none

theorem Stored.eq {l l' : PLine} (h : Stored l l') (hp : l.parent = none) : l' = l := by
  obtain ⟨a, b, c, d⟩ := h
  cases l; cases l'; simp_all

/-- `out` is `acc` followed by `new`, the non-empty lines of `ls` that `acc` has not got (with the parent reference
    remapped or dropped), in their order: no line twice, none invented, none lost -/
structure Appended (acc ls out new : List PLine) : Prop where
  eq : out = acc ++ new
  nodup : new.Nodup
  sub : (flat new).Sublist (flat ls)
  src : ∀ l' ∈ new, l' ∉ acc ∧ ∃ l ∈ ls, l.tokens ≠ [] ∧ Stored l l'
  kept : ∀ l ∈ ls, l.tokens ≠ [] → ∃ l' ∈ out, Stored l l'

theorem consolidateGo_spec (acc : List PLine) (mapped : List Nat) (ls out : List PLine)
    (h : consolidateGo acc mapped ls = some out) : ∃ new, Appended acc ls out new := by
  have lift : ∀ {line : PLine} {rest a : List PLine} {l' : PLine},
      (l' ∉ a ∧ ∃ l ∈ rest, l.tokens ≠ [] ∧ Stored l l') → l' ∉ a ∧ ∃ l ∈ line :: rest, l.tokens ≠ [] ∧ Stored l l' :=
    fun ⟨a, l, hl, b⟩ => ⟨a, l, List.mem_cons_of_mem _ hl, b⟩
  fun_induction consolidateGo acc mapped ls generalizing out with
  | case1 =>
    cases h
    exact ⟨[], by simp, List.nodup_nil, List.Sublist.refl _, fun _ hl' => (nomatch hl'), fun _ hl => (nomatch hl)⟩
  | case2 acc mapped line rest hemp ih =>
    have he : line.tokens = [] := by simpa using hemp
    obtain ⟨new, e, hn, hs, hf, hk⟩ := ih _ h
    refine ⟨new, e, hn, by rw [flat_cons, he]; exact hs, fun l' hl' => lift (hf l' hl'), ?_⟩
    intro l hl hne
    rcases List.mem_cons.1 hl with rfl | h1
    · exact absurd he hne
    · exact hk l h1 hne
  | case3 => cases h
  | case4 acc mapped line rest hne0 parent? parent hpar line' i hi ih =>
    have hst : Stored line line' :=
      ⟨rfl, rfl, rfl, fun hp => by simp only [parent?, hp, Option.some.injEq] at hpar; exact hpar.symm⟩
    obtain ⟨hlt, hp, _⟩ := List.findIdx?_eq_some_iff_getElem.1 hi
    have heq : acc[i] = line' := by simpa using hp
    obtain ⟨new, e, hn, hs, hf, hk⟩ := ih _ h
    refine ⟨new, e, hn, hs.trans (by rw [flat_cons]; exact List.sublist_append_right _ _),
      fun l' hl' => lift (hf l' hl'), ?_⟩
    intro l hl hne'
    rcases List.mem_cons.1 hl with rfl | h1
    · exact ⟨acc[i], by rw [e]; exact List.mem_append_left _ (List.getElem_mem hlt), heq ▸ hst⟩
    · exact hk l h1 hne'
  | case5 acc mapped line rest hne0 parent? parent hpar line' hnone ih =>
    have hst : Stored line line' :=
      ⟨rfl, rfl, rfl, fun hp => by simp only [parent?, hp, Option.some.injEq] at hpar; exact hpar.symm⟩
    obtain ⟨new, e, hn, hs, hf, hk⟩ := ih _ h
    have hnotin : line' ∉ acc := by
      rw [List.findIdx?_eq_none_iff] at hnone
      intro hm
      simpa using hnone _ hm
    refine ⟨line' :: new, by rw [e]; simp,
      List.nodup_cons.2 ⟨fun hm => (hf _ hm).1 (by simp), hn⟩, ?_, ?_, ?_⟩
    · rw [flat_cons, flat_cons]
      exact hs.append_left _
    · intro l' hl'
      rcases List.mem_cons.1 hl' with rfl | h1
      · exact ⟨hnotin, line, List.mem_cons_self, by simpa using hne0, hst⟩
      · obtain ⟨a, r⟩ := lift (hf l' h1)
        exact ⟨fun hm => a (List.mem_append_left _ hm), r⟩
    · intro l hl hne'
      rcases List.mem_cons.1 hl with rfl | h1
      · exact ⟨_, by rw [e]; simp, hst⟩
      · exact hk l h1 hne'

/-- the `src` clause of `consolidateGo_spec` for every line of the result, stated for its own sake -/
theorem consolidateGo_lines_from (acc : List PLine) (mapped : List Nat) (ls out : List PLine)
    (h : consolidateGo acc mapped ls = some out) :
    ∀ l' ∈ out, l' ∈ acc ∨ ∃ l ∈ ls, l'.tokens = l.tokens ∧ l'.ltype = l.ltype ∧ l'.level = l.level ∧
      (l.parent = none → l'.parent = none) := by
  obtain ⟨new, g⟩ := consolidateGo_spec acc mapped ls out h
  intro l' hl'
  rw [g.eq] at hl'
  exact (List.mem_append.1 hl').imp_right fun hn =>
    let ⟨_, l, hl, _, st⟩ := g.src l' hn
    ⟨l, hl, st.tokens, st.ltype, st.level, st.parent⟩

theorem Appended.append {acc ls mid n1 ls2 out n2 : List PLine} (g1 : Appended acc ls mid n1)
    (g2 : Appended mid ls2 out n2) : Appended acc (ls ++ ls2) out (n1 ++ n2) := by
  refine ⟨by rw [g2.eq, g1.eq, List.append_assoc], ?_, by rw [flat_append, flat_append]; exact g1.sub.append g2.sub, ?_, ?_⟩
  · exact List.nodup_append.2
      ⟨g1.nodup, g2.nodup, fun a ha b hb e => (g2.src b hb).1 (by rw [g1.eq, ← e]; exact List.mem_append_right _ ha)⟩
  · intro l' hl'
    rcases List.mem_append.1 hl' with hm | hm
    · obtain ⟨a, l, hl, r⟩ := g1.src l' hm
      exact ⟨a, l, List.mem_append_left _ hl, r⟩
    · obtain ⟨a, l, hl, r⟩ := g2.src l' hm
      exact ⟨fun hm' => a (by rw [g1.eq]; exact List.mem_append_left _ hm'), l, List.mem_append_right _ hl, r⟩
  · intro l hl hne
    rcases List.mem_append.1 hl with h1 | h1
    · obtain ⟨l', hl', st⟩ := g1.kept l h1 hne
      exact ⟨l', by rw [g2.eq]; exact List.mem_append_left _ hl', st⟩
    · exact g2.kept l h1 hne

/-- the passes one after the other are consolidated like one long pass (but for the parent references) -/
theorem consolidateAll_spec (acc : List PLine) (pls : List (List PLine)) (out : List PLine)
    (h : consolidateAll acc pls = some out) : ∃ new, Appended acc pls.flatten out new := by
  fun_induction consolidateAll acc pls with
  | case1 =>
    cases h
    exact ⟨[], by simp, List.nodup_nil, .slnil, fun _ hl' => (nomatch hl'), fun _ hl => (nomatch hl)⟩
  | case2 => cases h
  | case3 acc ls rest acc' h1 ih =>
    obtain ⟨n1, g1⟩ := consolidateGo_spec acc [] ls acc' h1
    obtain ⟨n2, g2⟩ := ih h
    exact ⟨n1 ++ n2, List.flatten_cons ▸ g1.append g2⟩

theorem consolidateAll_snoc (acc : List PLine) (pls : List (List PLine)) (dl : List PLine) :
    consolidateAll acc (pls ++ [dl]) = (consolidateAll acc pls).bind (consolidatePass · dl) := by
  induction pls generalizing acc with
  | nil => simp only [List.nil_append, consolidateAll, Option.bind_some]; cases consolidatePass acc dl <;> rfl
  | cons ls rest ih =>
    simp only [List.cons_append, consolidateAll]
    cases consolidatePass acc ls with
    | none => rfl
    | some acc' => exact ih acc'

theorem nodup_flat_index {ls : List PLine} (h : (flat ls).Nodup) {j j' : Nat} {l l' : PLine} {t : Nat}
    (hj : ls[j]? = some l) (hj' : ls[j']? = some l') (ht : t ∈ l.tokens) (ht' : t ∈ l'.tokens) : j = j' := by
  induction ls generalizing j j' with
  | nil => simp at hj
  | cons a r ih =>
    rw [flat_cons, List.nodup_append] at h
    obtain ⟨_, hr, hdis⟩ := h
    have inr : ∀ {k : Nat} {m : PLine}, r[k]? = some m → t ∈ m.tokens → t ∈ flat r := by
      intro k m hk hm
      exact List.mem_flatMap.2 ⟨m, List.mem_of_getElem? hk, hm⟩
    cases j with
    | zero =>
      cases j' with
      | zero => rfl
      | succ k' =>
        simp at hj hj'; subst hj
        exact absurd rfl (hdis t ht t (inr hj' ht'))
    | succ k =>
      cases j' with
      | zero =>
        simp at hj hj'; subst hj'
        exact absurd rfl (hdis t ht' t (inr hj ht))
      | succ k' =>
        simp at hj hj'
        rw [ih hr hj hj']

/-- a directive that no pass attributed to a line -/
def freeDirective (attributed : List Nat) (x : RawKind × Nat) : Bool := !attributed.contains x.2 && isDirectiveRaw x.1

/-- **the directive lines**: one line, holding that token alone, for every directive that no pass attributed to a line,
    in the order of the tokens -/
theorem directiveLinesGo_spec (attributed : List Nat) (level : Nat) (toks : List (RawKind × Nat)) :
    All2 (fun l x => l.parent = none ∧ (l.ltype = .lCompilerDirective ∨ l.ltype = .lConditionalDirective) ∧
        l.tokens = [x.2])
      (directiveLinesGo attributed level toks) (toks.filter (freeDirective attributed)) := by
  have free : ∀ {k : RawKind} {idx : Nat} {rest : List (RawKind × Nat)}, ¬attributed.contains idx = true →
      isDirectiveRaw k = true →
      List.filter (freeDirective attributed) ((k, idx) :: rest) = (k, idx) :: rest.filter (freeDirective attributed) :=
    fun h hk => List.filter_cons_of_pos (by simpa [freeDirective, hk] using h)
  have pass : ∀ {k : RawKind} {idx : Nat} {rest : List (RawKind × Nat)},
      attributed.contains idx = true ∨ isDirectiveRaw k = false →
      List.filter (freeDirective attributed) ((k, idx) :: rest) = rest.filter (freeDirective attributed) :=
    fun h => List.filter_cons_of_neg (by rcases h with h | h <;> simp_all [freeDirective])
  fun_induction directiveLinesGo attributed level toks with
  | case1 => exact .nil
  | case2 _ _ _ _ h ih => rw [pass (.inl h)]; exact ih
  | case3 _ _ _ h ih => rw [free h rfl]; exact .cons ⟨rfl, .inl rfl, rfl⟩ ih
  | case4 _ _ _ h _ _ ih | case5 _ _ _ h _ _ _ ih | case6 _ _ _ h _ _ _ _ ih =>
    rw [free h rfl]; exact .cons ⟨rfl, .inr rfl, rfl⟩ ih
  | case7 _ _ _ _ c h1 h2 h3 =>
    -- a conditional directive opens, closes or continues a conditional
    cases c <;> simp_all [ConditionalDirectiveKind.isIf, ConditionalDirectiveKind.isEnd, ConditionalDirectiveKind.isElse]
  | case8 _ k _ _ _ h1 h2 ih =>
    rw [pass (.inr (by cases k <;> first | rfl | exact absurd rfl h1 | exact absurd rfl (h2 _)))]; exact ih
theorem directiveLines_sublist (attributed : List Nat) (level : Nat) (toks : List (RawKind × Nat)) :
    (flat (directiveLinesGo attributed level toks)).Sublist (toks.map (·.2)) := by
  have h := directiveLinesGo_spec attributed level toks
  refine List.Sublist.trans ?_ ((List.filter_sublist (p := freeDirective attributed)).map (·.2))
  generalize directiveLinesGo attributed level toks = ls, toks.filter _ = xs at h
  induction h with
  | nil => exact .refl _
  | cons hab _ ih => rw [flat_cons, hab.2.2]; exact ih.cons_cons _

/-- the token of a directive line is a directive that no line of a pass holds -/
theorem directiveLines_mem (attributed : List Nat) (level : Nat) (toks : List (RawKind × Nat)) :
    ∀ l ∈ directiveLinesGo attributed level toks,
      l.parent = none ∧ (l.ltype = .lCompilerDirective ∨ l.ltype = .lConditionalDirective) ∧
      ∃ k t, l.tokens = [t] ∧ (k, t) ∈ toks ∧ t ∉ attributed ∧ isDirectiveRaw k = true := by
  intro l hl
  obtain ⟨⟨k, t⟩, hx, hp, hty, ht⟩ := all2_left (directiveLinesGo_spec attributed level toks) l hl
  obtain ⟨hm, hc⟩ := List.mem_filter.1 hx
  simp only [freeDirective, Bool.and_eq_true, Bool.not_eq_true'] at hc
  exact ⟨hp, hty, k, t, ht, hm, by simpa using hc.1, hc.2⟩

/-- what the guard `dirKindsKept` gives: the final kinds are as many as the kinds at the start, and a directive of
    either list is that directive in the other -/
theorem dirKindsKept_spec : ∀ (a b : List RawKind), dirKindsKept a b = true →
    a.length = b.length ∧ ∀ (i : Nat), (∀ x : RawKind, a[i]? = some x → isDirectiveRaw x = true → b[i]? = some x) ∧
      (∀ y : RawKind, b[i]? = some y → isDirectiveRaw y = true → a[i]? = some y)
  | [], [], _ => ⟨rfl, fun i => ⟨by intro x hx; simp at hx, by intro y hy; simp at hy⟩⟩
  | [], _ :: _, h => by simp [dirKindsKept] at h
  | _ :: _, [], h => by simp [dirKindsKept] at h
  | x :: as, y :: bs, h => by
    simp only [dirKindsKept, Bool.and_eq_true, Bool.or_eq_true, Bool.not_eq_true', beq_iff_eq] at h
    obtain ⟨hxy, hrest⟩ := h
    obtain ⟨hl, hi⟩ := dirKindsKept_spec as bs hrest
    refine ⟨by simp [hl], ?_⟩
    intro i
    cases i with
    | zero =>
      constructor
      · intro x' hx' hd
        simp at hx'; subst hx'
        rcases hxy with ⟨h1, _⟩ | h1
        · rw [h1] at hd; cases hd
        · simp [h1]
      · intro y' hy' hd
        simp at hy'; subst hy'
        rcases hxy with ⟨_, h2⟩ | h1
        · rw [h2] at hd; cases hd
        · simp [h1]
    | succ j => simpa using hi j

theorem mem_attributedOf {kf : List RawKind} {pls : List (List PLine)} {t : Nat} :
    t ∈ attributedOf kf pls ↔ (∃ ls ∈ pls, ∃ l ∈ ls, t ∈ l.tokens) ∧ (kf.getD t .rEof == .rCompilerDirective) = true := by
  unfold attributedOf
  simp only [List.mem_filter, List.mem_flatMap]

/-- where the final lines come from: the lines of the passes, then the directive lines, which `parse_file` consolidates
    like one more pass -/
def sources (o : ParseFullOut) : List (List PLine) :=
  o.passLines ++ [directiveLinesGo (attributedOf o.kinds o.passLines) 0 o.kinds.zipIdx]

theorem final_consolidateAll (toks : List (RawKind × Bool)) (o : ParseFullOut) (h : parseFileFull toks = some o) :
    consolidateAll [] (sources o) = some o.lines := by
  obtain ⟨kinds, acc, _, hacc, _, hk, hfinal⟩ := parseFileFull_spec toks o h
  rw [sources, consolidateAll_snoc, hacc, hk]
  exact hfinal

theorem final_kinds (toks : List (RawKind × Bool)) (o : ParseFullOut) (h : parseFileFull toks = some o) :
    dirKindsKept (toks.map (·.1)) o.kinds = true := by
  obtain ⟨kinds, _, _, _, hkept, hk, _⟩ := parseFileFull_spec toks o h
  exact hk ▸ hkept

/-- a line of the last source: no parent, the one token a directive of the file that no line of a pass holds -/
theorem directive_source (toks : List (RawKind × Bool)) (o : ParseFullOut) (h : parseFileFull toks = some o) :
    ∀ l ∈ directiveLinesGo (attributedOf o.kinds o.passLines) 0 o.kinds.zipIdx,
      l.parent = none ∧ (l.ltype = .lCompilerDirective ∨ l.ltype = .lConditionalDirective) ∧
      ∃ k t, l.tokens = [t] ∧ (toks.map (·.1))[t]? = some k ∧ o.kinds[t]? = some k ∧ isDirectiveRaw k = true ∧
        t ∉ attributedOf o.kinds o.passLines := by
  intro l hl
  obtain ⟨hp, hty, k, t, ht, hm, hna, hd⟩ := directiveLines_mem _ 0 _ l hl
  have hk : o.kinds[t]? = some k := List.mem_zipIdx_iff_getElem?.1 hm
  exact ⟨hp, hty, k, t, ht, ((dirKindsKept_spec _ _ (final_kinds toks o h)).2 t).2 k hk hd, hk, hd, hna⟩

/-- **the final lines are the non-empty lines of the sources as consolidation stores them**: none twice, none invented,
    none lost, the tokens in the order of the sources -/
theorem final_lines (toks : List (RawKind × Bool)) (o : ParseFullOut) (h : parseFileFull toks = some o) :
    Appended [] (sources o).flatten o.lines o.lines := by
  obtain ⟨new, g⟩ := consolidateAll_spec [] _ _ (final_consolidateAll toks o h)
  have e := g.eq
  rw [List.nil_append] at e
  exact e ▸ g

theorem pass_lines_wellformed (toks : List (RawKind × Bool)) (o : ParseFullOut) (h : parseFileFull toks = some o) :
    ∀ ls ∈ o.passLines,
      (∀ l ∈ ls, l.tokens.Pairwise (· < ·)) ∧ (∀ l ∈ ls, ∀ t ∈ l.tokens, t < toks.length) ∧
      (ls.flatMap (·.tokens)).Nodup := by
  obtain ⟨hall, hpasses⟩ := parseFileFull_passes toks o h
  intro ls hls
  obtain ⟨pt, hpt, s, hrun, rfl, _, _⟩ := all2_left hall ls hls
  have hp : pt.1 ∈ passes (toks.map (·.1)) := by rw [← hpasses]; exact List.mem_map_of_mem hpt
  obtain ⟨h1, h2, h3⟩ := ((reach_run hrun).tinv (passes_sorted _ pt.1 hp)).lines
  refine ⟨h1, fun l hl t ht => ?_, h3⟩
  have := passes_in_range _ pt.1 hp t (h2 l hl t ht)
  rwa [List.length_map] at this

theorem passLines_nodup (toks : List (RawKind × Bool)) (o : ParseFullOut) (h : parseFileFull toks = some o) :
    ∀ ls ∈ o.passLines, (flat ls).Nodup :=
  fun ls hls => (pass_lines_wellformed toks o h ls hls).2.2

theorem single_pass (toks : List (RawKind × Bool)) (o : ParseFullOut)
    (h : parseFileFull toks = some o) (hnc : ∀ k ∈ toks.map (·.1), condKind? k = none) :
    ∃ ls, o.passLines = [ls] := by
  obtain ⟨hall, hpasses⟩ := parseFileFull_passes toks o h
  rw [passes_noCond _ hnc] at hpasses
  obtain ⟨pt, htr⟩ : ∃ pt, o.traces = [pt] := by
    match hm : o.traces, hpasses with
    | [pt], _ => exact ⟨pt, rfl⟩
    | [], hp => simp at hp
    | _ :: _ :: _, hp => simp at hp
  rw [htr] at hall
  obtain ⟨ls, hpl, _⟩ := all2_singleton_right hall
  exact ⟨ls, hpl⟩

/-- stated for its own sake -/
theorem consolidateAll_single (ls acc : List PLine) (h : consolidateAll [] [ls] = some acc) :
    consolidateGo [] [] ls = some acc := by
  cases h1 : consolidatePass [] ls <;> simp_all [consolidateAll, consolidatePass]

/-- **Without conditional directives no token is in two logical lines** (nor twice in one): the token lists of the
    final lines, read one after the other, have no repetition. -/
theorem final_lines_nodup_without_conditionals (toks : List (RawKind × Bool)) (o : ParseFullOut)
    (h : parseFileFull toks = some o) (hnc : ∀ k ∈ toks.map (·.1), condKind? k = none) :
    (flat o.lines).Nodup := by
  obtain ⟨ls, hpl⟩ := single_pass toks o h hnc
  have hnd := passLines_nodup toks o h ls (by rw [hpl]; exact List.mem_singleton.2 rfl)
  -- the tokens of the final lines are among those of the one pass, then those of the directive lines
  refine (final_lines toks o h).sub.nodup ?_
  rw [sources, hpl]
  simp only [List.cons_append, List.nil_append, List.flatten_cons, List.flatten_nil, List.append_nil, flat_append]
  rw [List.nodup_append]
  refine ⟨hnd, ?_, ?_⟩
  · refine (directiveLines_sublist _ 0 _).nodup ?_
    rw [List.zipIdx_map_snd]
    exact List.nodup_range'
  · intro t htl t' ht' e
    subst e
    obtain ⟨dl, hdl, hdt⟩ := List.mem_flatMap.1 ht'
    obtain ⟨_, _, k, t0, he, hk0, hk, hdir, hna⟩ := directive_source toks o h dl (hpl ▸ hdl)
    rw [he] at hdt; simp at hdt; subst hdt
    have hkmem : k ∈ toks.map (·.1) := List.mem_of_getElem? hk0
    have hkc : k = .rCompilerDirective := by
      have := hnc k hkmem
      cases k <;> simp [isDirectiveRaw, condKind?] at hdir this ⊢
    refine hna (mem_attributedOf.2 ⟨?_, ?_⟩)
    · simpa [flat, hpl] using htl
    · rw [List.getD_eq_getElem?_getD, hk, hkc]; rfl

theorem final_lines_wellformed (toks : List (RawKind × Bool)) (o : ParseFullOut)
    (h : parseFileFull toks = some o) :
    ∀ l ∈ o.lines, l.tokens ≠ [] ∧ l.tokens.Pairwise (· < ·) ∧ ∀ t ∈ l.tokens, t < toks.length := by
  intro l' hl'
  obtain ⟨-, l, hl, hne, st⟩ := (final_lines toks o h).src l' hl'
  obtain ⟨ls, hls, hl⟩ := List.mem_flatten.1 hl
  rw [st.tokens]
  rcases List.mem_append.1 hls with hp | hd
  · obtain ⟨w1, w2, _⟩ := pass_lines_wellformed toks o h ls hp
    exact ⟨hne, w1 l hl, w2 l hl⟩
  · -- a directive line: exactly one token, a position of the file
    obtain rfl := List.mem_singleton.1 hd
    obtain ⟨_, _, k, t, ht, hkt, _⟩ := directive_source toks o h l hl
    rw [ht]
    refine ⟨by simp, List.pairwise_singleton _ _, fun t' ht' => ?_⟩
    obtain rfl := List.mem_singleton.1 ht'
    simpa using (List.getElem?_eq_some_iff.1 hkt).1

/-- the parent reference `p` points at a line of `ls` that holds the parent token -/
def PV (ls : List PLine) (p : LineParent) : Prop := ∃ pl, ls[p.lineIndex]? = some pl ∧ p.tokenIndex ∈ pl.tokens

/-- every parent reference of a line points at a line that holds the parent token -/
def LInv (ls : List PLine) : Prop := ∀ l ∈ ls, ∀ p, l.parent = some p → PV ls p

/-- every parent reference points at an earlier line, which holds the parent token -/
def AccOk (acc : List PLine) : Prop :=
  ∀ i l p, acc[i]? = some l → l.parent = some p → p.lineIndex < i ∧ PV acc p

/-- `mapped` sends every non-empty line already seen to a line of `acc` with the same tokens -/
def MapOk (acc done : List PLine) (mapped : List Nat) : Prop :=
  mapped.length = done.length ∧
  ∀ (j : Nat) (l : PLine), done[j]? = some l → l.tokens ≠ [] →
    ∃ (m : Nat) (al : PLine), mapped[j]? = some m ∧ acc[m]? = some al ∧ al.tokens = l.tokens

theorem PV.append {acc : List PLine} {p : LineParent} (h : PV acc p) (l : PLine) : PV (acc ++ [l]) p := by
  obtain ⟨pl, h1, h2⟩ := h
  exact ⟨pl, getElem?_left h1 _, h2⟩

theorem AccOk.append {acc : List PLine} (h : AccOk acc) (l : PLine) (hl : ∀ q, l.parent = some q → PV acc q) :
    AccOk (acc ++ [l]) := by
  intro i l' p hi hp
  rcases getElem?_snoc hi with h1 | ⟨rfl, rfl⟩
  · obtain ⟨a, b⟩ := h i l' p h1 hp
    exact ⟨a, b.append l⟩
  · have hq := hl p hp
    exact ⟨(List.getElem?_eq_some_iff.1 hq.choose_spec.1).1, hq.append _⟩

theorem MapOk.snoc_same {acc done : List PLine} {mapped : List Nat} (h : MapOk acc done mapped) (line : PLine) (m : Nat)
    (hm : line.tokens ≠ [] → ∃ al, acc[m]? = some al ∧ al.tokens = line.tokens) :
    MapOk acc (done ++ [line]) (mapped ++ [m]) := by
  obtain ⟨hlen, hmap⟩ := h
  refine ⟨by simp [hlen], ?_⟩
  intro j l hj hne
  rcases getElem?_snoc hj with h1 | ⟨rfl, rfl⟩
  · obtain ⟨m', al, a, b, c⟩ := hmap j l h1 hne
    exact ⟨m', al, getElem?_left a _, b, c⟩
  · obtain ⟨al, a, b⟩ := hm hne
    exact ⟨m, al, by rw [← hlen]; simp, a, b⟩

theorem MapOk.grow {acc done : List PLine} {mapped : List Nat} (h : MapOk acc done mapped) (l : PLine) :
    MapOk (acc ++ [l]) done mapped := by
  obtain ⟨hlen, hmap⟩ := h
  refine ⟨hlen, ?_⟩
  intro j l' hj hne
  obtain ⟨m, al, a, b, c⟩ := hmap j l' hj hne
  exact ⟨m, al, a, getElem?_left b _, c⟩

/-- **Consolidation keeps parent references meaningful**: if they were in the lines consolidated so far, and the lines
    of the pass are in the lines of the pass (`LInv`), they are in the result: every parent reference points at an earlier line that
    holds the parent token. -/
theorem consolidateGo_parents (acc : List PLine) (mapped : List Nat) (done rest out : List PLine)
    (h : consolidateGo acc mapped rest = some out) (hacc : AccOk acc) (hmap : MapOk acc done mapped)
    (hpass : LInv (done ++ rest)) : AccOk out := by
  fun_induction consolidateGo acc mapped rest generalizing done out with
  | case1 => cases h; exact hacc
  | case2 acc mapped line rest hemp ih =>
    have he : line.tokens = [] := by simpa using hemp
    exact ih (done ++ [line]) _ h hacc (hmap.snoc_same line _ (fun hne => absurd he hne)) (by simpa using hpass)
  | case3 => cases h
  | case4 acc mapped line rest hne0 parent? parent hpar line' i hi ih =>
    obtain ⟨hlt, hp, _⟩ := List.findIdx?_eq_some_iff_getElem.1 hi
    have heq : acc[i] = line' := by simpa using hp
    refine ih (done ++ [line]) _ h hacc (hmap.snoc_same line i fun _ => ?_) (by simpa using hpass)
    exact ⟨acc[i], List.getElem?_eq_getElem hlt, by rw [heq]⟩
  | case5 acc mapped line rest hne0 parent? parent hpar line' hnone ih =>
    -- the remapped parent reference, when there is one, is valid in `acc`
    have hvalid : ∀ q, parent = some q → PV acc q := by
      intro q hq
      subst hq
      simp only [parent?] at hpar
      cases hp : line.parent with
      | none => rw [hp] at hpar; simp at hpar
      | some p =>
        rw [hp] at hpar
        simp only at hpar
        cases hm : mapped[p.lineIndex]? with
        | none => rw [hm] at hpar; simp at hpar
        | some m =>
          rw [hm] at hpar
          simp only [Option.some.injEq] at hpar
          have hlt : p.lineIndex < done.length := by rw [← hmap.1]; exact (List.getElem?_eq_some_iff.1 hm).1
          obtain ⟨pl, hpl, htok⟩ := hpass line (by simp) p hp
          rw [List.getElem?_append_left hlt] at hpl
          have hplne : pl.tokens ≠ [] := by intro e; rw [e] at htok; cases htok
          obtain ⟨m', al, a, b, c⟩ := hmap.2 _ pl hpl hplne
          rw [hm] at a; cases a
          refine ⟨al, ?_, ?_⟩
          · rw [← hpar]; exact b
          · rw [← hpar, c]; exact htok
    refine ih (done ++ [line]) _ h (hacc.append _ hvalid) ((hmap.grow _).snoc_same line acc.length fun _ => ?_)
      (by simpa using hpass)
    exact ⟨line', by simp, rfl⟩

theorem consolidateAll_parents (acc : List PLine) (pls : List (List PLine)) (out : List PLine)
    (h : consolidateAll acc pls = some out) (hacc : AccOk acc) (hpass : ∀ ls ∈ pls, LInv ls) : AccOk out := by
  fun_induction consolidateAll acc pls with
  | case1 => cases h; exact hacc
  | case2 => cases h
  | case3 acc ls rest acc' h1 ih =>
    exact ih h (consolidateGo_parents acc [] [] ls acc' h1 hacc ⟨rfl, by intro j l hj; simp at hj⟩
        (by simpa using hpass ls (by simp)))
      (fun ls' hls' => hpass ls' (by simp [hls']))

/-- the check on the lines of one pass: every parent reference points at a line of the pass that holds the parent
    token (the control flow takes a parent reference from the current line and the current token, and consumes that
    token onto that line at once) -/
def passParentsOk (ls : List PLine) : Bool :=
  ls.all fun l =>
    match l.parent with
    | none => true
    | some p =>
      match ls[p.lineIndex]? with
      | some pl => pl.tokens.contains p.tokenIndex
      | none => false

def parentsOk (o : ParseFullOut) : Bool := o.passLines.all passParentsOk

theorem passParentsOk_iff (ls : List PLine) : passParentsOk ls = true ↔ LInv ls := by
  unfold passParentsOk LInv PV
  rw [List.all_eq_true]
  refine forall_congr' fun l => forall_congr' fun _ => ?_
  cases l.parent with
  | none => simp
  | some p => cases h : ls[p.lineIndex]? <;> simp [h]

/-- **Parent references of the final lines** (given `parentsOk`): the parent line exists, precedes the child line
    and holds the parent token. -/
theorem final_parents_contain_token (toks : List (RawKind × Bool)) (o : ParseFullOut)
    (h : parseFileFull toks = some o) (hg : parentsOk o = true) : AccOk o.lines := by
  refine consolidateAll_parents [] _ _ (final_consolidateAll toks o h) (fun i l p hi => by simp at hi) fun ls hls => ?_
  rcases List.mem_append.1 hls with hp | hd
  · exact (passParentsOk_iff ls).1 (List.all_eq_true.1 hg ls hp)
  · -- a directive line has no parent reference
    rw [List.mem_singleton.1 hd]
    intro l hl p hp
    rw [(directive_source toks o h l hl).1] at hp
    cases hp

/-- lines that count as "an end-of-file line": typed `Eof`, or holding the token `e` -/
def EofIsh (e : Nat) (l : PLine) : Prop := l.ltype = .lEof ∨ e ∈ l.tokens

theorem Stored.eofIsh {l l' : PLine} (h : Stored l l') {e : Nat} (hi : EofIsh e l') : EofIsh e l :=
  hi.imp (fun a => by rw [← h.ltype]; exact a) (fun a => by rw [← h.tokens]; exact a)

/-- what `passEofOk` and "no token twice in a pass" say about the lines of a pass -/
theorem passEofOk_spec (n : Nat) (ls : List PLine) (h : passEofOk n ls = true) (hnd : (flat ls).Nodup) :
    eofLine n ∈ ls ∧ ∀ l ∈ ls, EofIsh (n - 1) l → l = eofLine n := by
  unfold passEofOk at h
  have hf : ls.filter (fun l => l.ltype == .lEof) = [eofLine n] := by simpa using h
  have hmem : eofLine n ∈ ls := by
    have : eofLine n ∈ ls.filter (fun l => l.ltype == .lEof) := by rw [hf]; simp
    exact (List.mem_filter.1 this).1
  refine ⟨hmem, ?_⟩
  intro l hl hish
  rcases hish with ht | ht
  · have : l ∈ ls.filter (fun l => l.ltype == .lEof) := List.mem_filter.2 ⟨hl, by simp [ht]⟩
    rw [hf] at this
    simpa using this
  · obtain ⟨j, hj⟩ := List.getElem?_of_mem hl
    obtain ⟨j', hj'⟩ := List.getElem?_of_mem hmem
    have := nodup_flat_index hnd hj hj' ht (by simp [eofLine])
    subst this
    rw [hj] at hj'
    exact Option.some.inj hj'

theorem passes_ne_nil (kinds : List RawKind) : passes kinds ≠ [] := by
  unfold passes
  simp only
  rw [show kinds.length + 2 = (kinds.length + 1) + 1 by omega, passesGo]
  simp only
  split <;> simp

/-- **Exactly one end-of-file line, holding only the end-of-file token** - given that the file ends with the
    end-of-file token and given `eofOk`: the final lines hold `eofLine` at exactly one position, and every line that
    is typed `Eof` or holds the end-of-file token is that line. -/
theorem final_single_eof_line (toks : List (RawKind × Bool)) (o : ParseFullOut)
    (h : parseFileFull toks = some o) (hlast : (toks.map (·.1)).getLast? = some .rEof) (hg : eofOk o = true) :
    ∃ j, o.lines[j]? = some (eofLine toks.length) ∧
      ∀ (j' : Nat) (l : PLine), o.lines[j']? = some l → (l.ltype = .lEof ∨ (toks.length - 1) ∈ l.tokens) → j' = j := by
  obtain ⟨hall, hpasses⟩ := parseFileFull_passes toks o h
  obtain ⟨-, hnd, -, hsrc, hkeep⟩ := final_lines toks o h
  have hlen : toks.length = o.kinds.length := by simpa using (dirKindsKept_spec _ _ (final_kinds toks o h)).1
  have hpass : ∀ ls ∈ o.passLines,
      eofLine toks.length ∈ ls ∧ ∀ l ∈ ls, EofIsh (toks.length - 1) l → l = eofLine toks.length := by
    intro ls hls
    rw [hlen]
    exact passEofOk_spec _ ls (List.all_eq_true.1 hg ls hls) (passLines_nodup toks o h ls hls)
  have hE : (eofLine toks.length).parent = none := rfl
  -- in every source, a line typed `Eof` or holding the end-of-file token is `eofLine`
  have hsrcE : ∀ ls ∈ sources o, ∀ l ∈ ls, EofIsh (toks.length - 1) l → l = eofLine toks.length := by
    intro ls hls l hl hish
    rcases List.mem_append.1 hls with hp | hd
    · exact (hpass ls hp).2 l hl hish
    · -- a directive line holds a directive, and the last token of the file is none
      exfalso
      rw [List.mem_singleton.1 hd] at hl
      obtain ⟨_, hty, k, t, he, hk0, _, hdir, _⟩ := directive_source toks o h l hl
      rcases hish with a | a
      · rcases hty with b | b <;> rw [b] at a <;> cases a
      · rw [he] at a; simp at a; subst a
        rw [List.getLast?_eq_getElem?] at hlast
        simp only [List.length_map] at hlast hk0
        rw [hlast] at hk0
        cases hk0
        cases hdir
  -- some pass there is, its `eofLine` is kept
  obtain ⟨ls, hls⟩ : ∃ ls, ls ∈ o.passLines := by
    cases hpl : o.passLines with
    | cons ls _ => exact ⟨ls, List.mem_cons_self⟩
    | nil =>
      have h1 := all2_length hall
      rw [hpl] at h1
      have h2 : (o.traces.map (·.1)).length = 0 := by simp [← h1]
      rw [hpasses] at h2
      exact absurd (List.length_eq_zero_iff.1 h2) (passes_ne_nil _)
  obtain ⟨l', hl', st⟩ :=
    hkeep _ (List.mem_flatten.2 ⟨ls, List.mem_append_left _ hls, (hpass ls hls).1⟩) (by simp [eofLine])
  rw [st.eq hE] at hl'
  obtain ⟨j, hj⟩ := List.getElem?_of_mem hl'
  refine ⟨j, hj, fun j' l hj' hish => ?_⟩
  obtain ⟨-, l0, hl0, -, st2⟩ := hsrc l (List.mem_of_getElem? hj')
  obtain ⟨ls2, hls2, hl0⟩ := List.mem_flatten.1 hl0
  obtain rfl := hsrcE ls2 hls2 l0 hl0 (st2.eofIsh hish)
  obtain rfl := st2.eq hE
  exact (List.getElem?_inj (List.getElem?_eq_some_iff.1 hj').1 hnd).1 (by rw [hj, hj'])

end Pasfmt.Parents
