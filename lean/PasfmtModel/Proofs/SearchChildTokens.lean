/-
  The COUNTERS of the first token of a CHILD line (for C05): when a solution of the search is applied
  (`reconstruct_solution` = `applySol`), the first token of every child line - at every nesting depth - gets the counters
  its child solution starts with: for a child placed by a breaking option (`BreakAll`, or a non-first child of
  `ContinueThenBreak`) one line break (two after a blank line), the parent solution's indentations plus the child line's
  own level minus the option's de-indentation (at most one level), and the option's continuations (at least the
  parent's).  Siblings placed by the same option are aligned; one level more = one indentation more.

  Each statement reads `FDesc.first_token` (Proofs/SearchFirstToken.lean: what the applied tree writes at the first
  token of any solution in it) with what `TreeOk` says of the child solution.
-/
import PasfmtModel.Proofs.SearchChildLines
import PasfmtModel.Proofs.SearchBeginWrap

namespace Pasfmt

theorem TreeAll.descend {D : Nat → LineWhitespace → Nat → TokenDecision → Prop} {k li li' : Nat}
    {sol s' : FormattingSolution} (hd : FDesc k sol li s' li') (h : TreeAll D li sol) : TreeAll D li' s' := by
  induction hd with
  | zero => exact h
  | succ k sol li d ci cs s' li' hd hc _ ih => exact ih ((h.mem hd).2 (ci, cs) hc)

/-- the counters of the first token of a child line placed with the whitespace `cws` of its option -/
def childFmt (f : FmtData) (cws : ChildWhitespace) (level : Nat) : FmtData :=
  { f with nl := nlc f.nl, ind := cws.whitespace.indentations + level - cws.deindent,
           cont := cws.whitespace.continuations }

/-- the counters of a token that continues the line of the token before it -/
def contFmt (f : FmtData) : FmtData := { f with nl := 0, ind := 0, cont := 0 }

/-- one child solution of an option, applied inside a solution tree (any depth): its first token gets the option's
    whitespace (plus the line's level) after a break, or no whitespace at all -/
theorem child_first_token_core (O : Olf) (lines : List Line) (ft ft1 : FT) (root par : FormattingSolution)
    (k m li pli : Nat) (hdesc : FDesc k root li par pli)
    (d : TokenDecision) (hd : d ∈ par.decisions) (option : ChildLineOption) (p : Nat) (x : Nat × FormattingSolution)
    (hx : d.childSolutions[p]? = some x) (hok : ChildSolOk O option p x)
    (cl : Line) (c0 : Nat) (hcl : lines[x.1]? = some cl) (hOl : O.lines[x.1]! = cl.toA) (hc0 : cl.tokens[0]? = some c0)
    (ha : applySol lines ft (root.toSol (k + 2 + m)) li = some ft1)
    (hone : (solTokens lines (root.toSol (k + 2 + m)) li).count c0 = 1) :
    ∃ t, ft[c0]? = some t ∧
      ((option.breaksAt p = true ∧ O.getFormattingInvariant 0 cl.toA ≠ some .mustNotBreak) →
        ft1[c0]? = some { t with fmt := childFmt t.fmt option.startingWs cl.level }) ∧
      ((option.breaksAt p = false ∨ O.getFormattingInvariant 0 cl.toA = some .mustNotBreak) →
        ft1[c0]? = some { t with fmt := contFmt t.fmt }) := by
  obtain ⟨hws, hdec⟩ := hok
  rw [hOl] at hws hdec
  have e : k + 2 + m = m + 1 + (k + 1) := by omega
  rw [e] at ha hone
  obtain ⟨t, e1, e2⟩ := (hdesc.snoc hd (List.mem_of_getElem? hx)).first_token m hcl hc0
    (hdec (by rw [toA_tokens, hc0]; rfl)) ha hone
  rw [hws] at e2
  refine ⟨t, e1, fun hb => ?_, fun hb => ?_⟩
  · rw [e2, if_pos hb.1]
    simp [rootDec, hb.2, applyDec_eq, childFmt, childWs]
    rfl
  · rw [e2]
    rcases hb with hb | hb <;> simp [rootDec, hb, applyDec_eq, contFmt]

theorem child_line_first_token (O : Olf) (lines : List Line) (ft ft1 : FT) (root par : FormattingSolution)
    (k m li pli : Nat) (hroot : TreeOk O root) (hdesc : FDesc k root li par pli)
    (d : TokenDecision) (hd : d ∈ par.decisions)
    (ha : applySol lines ft (root.toSol (k + 2 + m)) li = some ft1) :
    ∃ option : ChildLineOption, OptionFrom par.startingWs option ∧
      ∀ (p : Nat) (x : Nat × FormattingSolution) (cl : Line) (c0 : Nat), d.childSolutions[p]? = some x →
        lines[x.1]? = some cl → O.lines[x.1]! = cl.toA → cl.tokens[0]? = some c0 →
        (solTokens lines (root.toSol (k + 2 + m)) li).count c0 = 1 →
        ChildSolOk O option p x ∧
        ∃ t, ft[c0]? = some t ∧
          ((option.breaksAt p = true ∧ O.getFormattingInvariant 0 cl.toA ≠ some .mustNotBreak) →
            option.startingWs.deindent ≤ 1 ∧
            par.startingWs.continuations ≤ option.startingWs.whitespace.continuations ∧
            ft1[c0]? = some { t with fmt :=
              { t.fmt with nl := nlc t.fmt.nl,
                           ind := par.startingWs.indentations + cl.level - option.startingWs.deindent,
                           cont := option.startingWs.whitespace.continuations } }) ∧
          ((option.breaksAt p = false ∨ O.getFormattingInvariant 0 cl.toA = some .mustNotBreak) →
            ft1[c0]? = some { t with fmt := contFmt t.fmt }) := by
  obtain ⟨⟨_, option, hof, hlist⟩, _⟩ := (TreeAll.descend hdesc ((treeOk_iff_all O li root).1 hroot)).mem hd
  refine ⟨option, hof, fun p x cl c0 hx hcl hOl hc0 hone => ⟨hlist p x hx, ?_⟩⟩
  obtain ⟨t, e1, e2, e3⟩ := child_first_token_core O lines ft ft1 root par k m li pli hdesc d hd option p x hx
    (hlist p x hx) cl c0 hcl hOl hc0 ha hone
  refine ⟨t, e1, fun hb => ?_, e3⟩
  have hne : option ≠ .continueAll := by
    intro h; rw [h] at hb; simp [ChildLineOption.breaksAt] at hb
  rcases hof with h | ⟨h1, h2, h3⟩
  · exact absurd h hne
  · refine ⟨h3, h2, ?_⟩
    rw [e2 hb, ← h1]
    rfl

/-- the first token of a line starts the line with `ind` indentations and `cont` continuations -/
def StartsLine (ind cont : Nat) (f : FmtData) : Prop := (f.nl = 1 ∨ f.nl = 2) ∧ f.ind = ind ∧ f.cont = cont

theorem sibling_children_same_indent (O : Olf) (lines : List Line) (ft ft1 : FT) (root par : FormattingSolution)
    (k m li pli : Nat) (hroot : TreeOk O root) (hdesc : FDesc k root li par pli)
    (d : TokenDecision) (hd : d ∈ par.decisions)
    (ha : applySol lines ft (root.toSol (k + 2 + m)) li = some ft1) :
    ∃ (option : ChildLineOption) (e c : Nat), OptionFrom par.startingWs option ∧ e ≤ 1 ∧
      par.startingWs.continuations ≤ c ∧
      ∀ (p q : Nat) (x y : Nat × FormattingSolution) (clp clq : Line) (cp cq : Nat),
        d.childSolutions[p]? = some x → d.childSolutions[q]? = some y →
        lines[x.1]? = some clp → O.lines[x.1]! = clp.toA → clp.tokens[0]? = some cp →
        lines[y.1]? = some clq → O.lines[y.1]! = clq.toA → clq.tokens[0]? = some cq →
        (solTokens lines (root.toSol (k + 2 + m)) li).count cp = 1 →
        (solTokens lines (root.toSol (k + 2 + m)) li).count cq = 1 →
        option.breaksAt p = true → option.breaksAt q = true →
        O.getFormattingInvariant 0 clp.toA ≠ some .mustNotBreak →
        O.getFormattingInvariant 0 clq.toA ≠ some .mustNotBreak →
        ∃ fp fq, fmtAt ft1 cp = some fp ∧ fmtAt ft1 cq = some fq ∧
          StartsLine (par.startingWs.indentations + clp.level - e) c fp ∧
          StartsLine (par.startingWs.indentations + clq.level - e) c fq ∧
          fp.cont = fq.cont ∧
          (clp.level = clq.level → fp.ind = fq.ind) ∧
          (clq.level = clp.level + 1 → 1 ≤ par.startingWs.indentations + clp.level → fq.ind = fp.ind + 1) := by
  obtain ⟨option, hof, hall⟩ := child_line_first_token O lines ft ft1 root par k m li pli hroot hdesc d hd ha
  by_cases hca : option = .continueAll
  · refine ⟨option, 0, par.startingWs.continuations, hof, Nat.zero_le _, Nat.le_refl _, ?_⟩
    intro p q x y clp clq cp cq _ _ _ _ _ _ _ _ _ _ hbp
    rw [hca] at hbp; simp [ChildLineOption.breaksAt] at hbp
  · have hof' := hof
    rcases hof' with h | ⟨h1, h2, h3⟩
    · exact absurd h hca
    · refine ⟨option, option.startingWs.deindent, option.startingWs.whitespace.continuations, hof, h3, h2, ?_⟩
      intro p q x y clp clq cp cq hx hy hclp hOp hcp hclq hOq hcq honep oneq hbp hbq hip hiq
      obtain ⟨_, tp, _, a2, _⟩ := hall p x clp cp hx hclp hOp hcp honep
      obtain ⟨_, tq, _, b2, _⟩ := hall q y clq cq hy hclq hOq hcq oneq
      obtain ⟨_, _, a3⟩ := a2 ⟨hbp, hip⟩
      obtain ⟨_, _, b3⟩ := b2 ⟨hbq, hiq⟩
      have a4 := congrArg (Option.map (·.fmt)) a3
      have b4 := congrArg (Option.map (·.fmt)) b3
      simp only [Option.map_some] at a4 b4
      refine ⟨_, _, a4, b4,
        ⟨nlc_12 _, rfl, rfl⟩, ⟨nlc_12 _, rfl, rfl⟩, rfl, fun hl => ?_, fun hl h1 => ?_⟩
      · show par.startingWs.indentations + clp.level - _ = par.startingWs.indentations + clq.level - _
        rw [hl]
      · show par.startingWs.indentations + clq.level - _ = par.startingWs.indentations + clp.level - _ + 1
        rw [hl]; omega

theorem begin_always_wrap_counters (O : Olf) (lines : List Line) (ft ft1 : FT) (root par : FormattingSolution)
    (k m li pli : Nat) (hroot : TreeOk' O root) (hdesc : FDesc k root li par pli)
    (d : TokenDecision) (hd : d ∈ par.decisions)
    (ha : applySol lines ft (root.toSol (k + 2 + m)) li = some ft1) :
    d.childSolutions = [] ∨ ∃ key lc, O.lineChildren.get? key = some lc ∧
      d.childSolutions.map (·.1) = lc.lineIndices.toList ∧
      (BeginCond O lc →
        ∀ (x : Nat × FormattingSolution) (cl : Line) (c0 : Nat), d.childSolutions[0]? = some x →
          lines[x.1]? = some cl → O.lines[x.1]! = cl.toA → cl.tokens[0]? = some c0 →
          (solTokens lines (root.toSol (k + 2 + m)) li).count c0 = 1 →
          O.getFormattingInvariant 0 cl.toA ≠ some .mustNotBreak →
          ∃ t, ft[c0]? = some t ∧
            ft1[c0]? = some { t with fmt :=
              { t.fmt with nl := nlc t.fmt.nl, ind := par.startingWs.indentations + cl.level - 1,
                           cont := par.startingWs.continuations } }) := by
  have hpar : TreeOk' O par := (treeOk'_iff_all O pli par).2 (TreeAll.descend hdesc ((treeOk'_iff_all O li root).1 hroot))
  obtain ⟨option, _, h2, h3⟩ := begin_always_wrap hpar hd
  rcases h3 with h3 | ⟨key, lc, a, b, c⟩
  · exact Or.inl h3
  · refine Or.inr ⟨key, lc, a, b, fun hb x cl c0 hx hcl hOl hc0 hone hinv => ?_⟩
    obtain ⟨ho, _⟩ := c hb
    obtain ⟨t, e1, e2, _⟩ := child_first_token_core O lines ft ft1 root par k m li pli hdesc d hd option 0 x hx
      (h2 0 x hx).1 cl c0 hcl hOl hc0 ha hone
    refine ⟨t, e1, ?_⟩
    rw [e2 ⟨by rw [ho]; rfl, hinv⟩, ho]
    rfl

end Pasfmt
