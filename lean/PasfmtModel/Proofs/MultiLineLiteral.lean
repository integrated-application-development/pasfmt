/-
  A multi-line string literal as the scanner sees it: an odd run of at least three quotes followed by a line break,
  up to the first later run of as many quotes (`textLiteral_token`, `textLiteral_of_shape`).  Read by lines
  (`multi_iff_lines`): the first line and the closing quotes of the last line are that run, and no line between holds
  one - whatever follows the literal.  With the anatomy of a re-indented literal (Proofs/MlsMore.lean) this gives
  `mls_one_token`: the scanner reads what the re-indenter wrote as one multi-line literal again.
-/
import PasfmtModel.Proofs.MlsMore
import PasfmtModel.Proofs.LexTotal

namespace Pasfmt.MlsMore

/-! ### runs of quotes; `memmem::find` -/

def Qn (n : Nat) : Bytes := List.replicate n 0x27

theorem allQ_Qn (n : Nat) : AllQ (Qn n) := by
  intro b hb
  exact (List.mem_replicate.1 hb).2

theorem Qn_ne_nil {n : Nat} (h : 1 ≤ n) : Qn n ≠ [] := by
  unfold Qn
  cases n with
  | zero => omega
  | succ k => simp [List.replicate_succ]

theorem eq_Qn_of_allQ {q : Bytes} (h : AllQ q) : q = Qn q.length := by
  unfold Qn
  exact List.eq_replicate_iff.2 ⟨rfl, h⟩

theorem length_Qn (n : Nat) : (Qn n).length = n := by simp [Qn]

theorem Qn_succ (n : Nat) : Qn (n + 1) = 0x27 :: Qn n := List.replicate_succ

theorem cons_Qn (n : Nat) : (0x27 : UInt8) :: Qn n = Qn n ++ [0x27] := by
  unfold Qn
  rw [← List.replicate_succ, List.replicate_succ']

theorem infix_cons_nonquote {pat : Bytes} (hp : AllQ pat) (hne : pat ≠ []) {c : UInt8} (hc : c ≠ 0x27) {y : Bytes}
    (h : pat <:+: c :: y) : pat <:+: y := by
  rcases List.infix_cons_iff.1 h with h | h
  · rcases List.prefix_cons_iff.1 h with h | ⟨t, rfl, _⟩
    · exact absurd h hne
    · exact absurd (hp c (by simp)) hc
  · exact h

theorem infix_append_nonquote {pat : Bytes} (hp : AllQ pat) (hne : pat ≠ []) {w : Bytes} (hw : ∀ b ∈ w, b ≠ 0x27)
    {y : Bytes} (h : pat <:+: w ++ y) : pat <:+: y := by
  induction w with
  | nil => exact h
  | cons c r ih =>
    exact ih (fun b hb => hw b (by simp [hb])) (infix_cons_nonquote hp hne (hw c (by simp)) h)

theorem infix_split {pat : Bytes} (hp : AllQ pat) (hne : pat ≠ []) {c : UInt8} (hc : c ≠ 0x27) (x y : Bytes)
    (h : pat <:+: x ++ c :: y) : pat <:+: x ∨ pat <:+: y := by
  induction x with
  | nil => exact Or.inr (infix_cons_nonquote hp hne hc h)
  | cons a x ih =>
    rw [List.cons_append] at h
    rcases List.infix_cons_iff.1 h with h | h
    · have h2 : (a :: x) ++ [c] <+: a :: (x ++ c :: y) := ⟨y, by simp⟩
      rcases List.prefix_or_prefix_of_prefix h h2 with h3 | h3
      · rcases List.prefix_concat_iff.1 h3 with h4 | h4
        · exact absurd (hp c (by rw [h4]; simp)) hc
        · exact Or.inl h4.isInfix
      · exact absurd (hp c (h3.subset (by simp))) hc
    · rcases ih h with h | h
      · exact Or.inl (List.infix_cons h)
      · exact Or.inr h

/-- no run inside `u`, and `u` does not end in a quote: no run starts inside `u`, whatever follows -/
theorem no_early_occurrence {pat : Bytes} (hp : AllQ pat) (u w : Bytes)
    (hend : ∀ b, u.getLast? = some b → b ≠ 0x27) (hno : ¬ pat <:+: u) :
    ∀ i, i < u.length → ¬ OccursAt pat (u ++ w) i := by
  intro i hi hpre
  unfold OccursAt at hpre
  rw [List.drop_append_of_le_length (by omega)] at hpre
  rcases List.prefix_or_prefix_of_prefix hpre (List.prefix_append (u.drop i) w) with h3 | h3
  · exact hno (h3.isInfix.trans (List.drop_suffix i u).isInfix)
  · cases hl : (u.drop i).getLast? with
    | none =>
      have := congrArg List.length (List.getLast?_eq_none_iff.1 hl)
      simp at this; omega
    | some b =>
      have hb : b ∈ pat := h3.subset (List.mem_of_getLast? hl)
      rw [List.getLast?_drop, if_neg (by omega)] at hl
      exact hend b hl (hp b hb)

/-! ### the scanner on a multi-line literal -/

theorem textLiteral_of_shape (n : Nat) (body w : Bytes)
    (hn : (decide (n ≥ 3) && n % 2 == 1) = true) (ht : ∃ t b1, body = t :: b1 ∧ (t = 0x0D ∨ t = 0x0A))
    (hno : FirstOcc (Qn n) (body ++ (Qn n ++ w)) body.length) :
    textLiteral (Qn n ++ body ++ Qn n ++ w) = (n + body.length + n, .tMultiLine) := by
  obtain ⟨t, b1, rfl, ht⟩ := ht
  simp only [Bool.and_eq_true, decide_eq_true_eq, beq_iff_eq] at hn
  have htq : t ≠ 0x27 := by rcases ht with rfl | rfl <;> decide
  have hl : Qn n ++ (t :: b1) ++ Qn n ++ w = Qn n ++ (t :: (b1 ++ (Qn n ++ w))) := by simp
  have hq : quoteCount (Qn n ++ (t :: (b1 ++ (Qn n ++ w)))) = n := by
    rw [quoteCount, countWhile_append_stop _ _ _ (fun b hb => by simpa using allQ_Qn n b hb)
      (fun b u e => by cases e; simpa using htq), length_Qn]
  have hd : (Qn n ++ (t :: (b1 ++ (Qn n ++ w)))).drop n = t :: (b1 ++ (Qn n ++ w)) := List.drop_left' (length_Qn n)
  have := TextLiteralSpec.multiline (l := Qn n ++ (t :: (b1 ++ (Qn n ++ w)))) (t :: b1).length
    ⟨by rw [hq]; exact hn.1, by rw [hq]; exact hn.2, t, _, by rw [hq, hd], ht⟩ (by rw [hq, hd]; exact hno)
  rw [hq] at this
  rw [hl]
  exact (textLiteral_only _ _ this).symm

/-- a multi-line literal token, read off `TextLiteralSpec` -/
theorem textLiteral_token (content rest : Bytes)
    (hscan : textLiteral (content ++ rest) = (content.length, .tMultiLine)) :
    ∃ (n : Nat) (body : Bytes), 3 ≤ n ∧ (decide (n ≥ 3) && n % 2 == 1) = true ∧
      (∃ t b1, body = t :: b1 ∧ (t = 0x0D ∨ t = 0x0A)) ∧ content = Qn n ++ body ++ Qn n ∧
      FirstOcc (Qn n) (body ++ (Qn n ++ rest)) body.length := by
  have hs := textLiteral_sat (content ++ rest)
  rw [hscan] at hs
  generalize hx : (content.length, TextLiteralKind.tMultiLine) = x at hs
  generalize hl : content ++ rest = l at hs
  cases hs with
  | multilineOpen => cases (Prod.mk.inj hx).2
  | singleLine _ _ hi => subst hx; exact absurd rfl (hi.not_multi)
  | multiline i ho hfo =>
    have hlen : content.length = quoteCount l + i + quoteCount l := by injection hx
    obtain ⟨h3, hodd, c, t, hd, hc⟩ := ho
    obtain ⟨w, hw⟩ := hfo.1
    have hi : i ≤ (l.drop (quoteCount l)).length := by
      have := congrArg List.length hw; simp at this; simp; omega
    have hsplit : l.drop (quoteCount l) = (l.drop (quoteCount l)).take i ++ (Qn (quoteCount l) ++ w) := by
      rw [Qn, hw, List.take_append_drop]
    have hbl : ((l.drop (quoteCount l)).take i).length = i := by rw [List.length_take]; omega
    obtain ⟨hcontent, rfl⟩ : content = Qn (quoteCount l) ++ (l.drop (quoteCount l)).take i ++ Qn (quoteCount l) ∧
        rest = w := by
      refine List.append_inj ?_ (by simp [length_Qn, hlen, hbl]; omega)
      rw [hl, List.append_assoc, List.append_assoc, ← hsplit, Qn, ← take_quoteCount, List.take_append_drop]
    refine ⟨quoteCount l, (l.drop (quoteCount l)).take i, h3, by simp [h3, hodd], ?_, hcontent, ?_⟩
    · cases i with
      | zero =>
        -- the closing quotes do not start at the line break
        exfalso
        rw [hd] at hw
        have : List.replicate (quoteCount l) (0x27 : UInt8) = 0x27 :: List.replicate (quoteCount l - 1) 0x27 := by
          rw [← List.replicate_succ]; congr 1; omega
        rw [this] at hw
        simp at hw
        rcases hc with rfl | rfl <;> simp at hw
      | succ p => rw [hd]; exact ⟨c, t.take p, by simp, hc⟩
    · rw [hbl, ← hsplit]; exact hfo

/-! ### the literal by its lines -/

theorem _root_.Pasfmt.IsTerm.no_quote {t rest : Bytes} (h : IsTerm t rest) : ∀ b ∈ t, b ≠ 0x27 := by
  cases h <;> decide

/-- a run of quotes inside a text lies inside one of its lines -/
theorem _root_.Pasfmt.Lines.infix_quotes {s : Bytes} {ls : List Bytes} (h : Lines s ls) {pat : Bytes} (hp : AllQ pat) (hne : pat ≠ [])
    (hin : pat <:+: s) : ∃ l ∈ ls, pat <:+: l := by
  induction h with
  | nil => exact absurd (List.infix_nil.1 hin) hne
  | last _ _ => exact ⟨_, by simp, hin⟩
  | @cons l t rest ls _ ht _ ih =>
    obtain ⟨c, t', rfl⟩ := List.exists_cons_of_ne_nil (l := t) (by cases ht <;> simp)
    have hnq := IsTerm.no_quote ht
    rcases infix_split hp hne (hnq c (by simp)) l _ hin with h1 | h1
    · exact ⟨l, by simp, h1⟩
    · obtain ⟨x, hx, h2⟩ := ih (infix_append_nonquote hp hne (fun b hb => hnq b (by simp [hb])) h1)
      exact ⟨x, by simp [hx], h2⟩

/-- the bytes between the first line of a text and the closing quotes `q` of its last line `w ++ q`: they start with a
    line-break byte, do not end in a quote, hold the lines between and `w`, and a run of quotes inside them lies inside
    one of these -/
theorem _root_.Pasfmt.Lines.between {s first w q : Bytes} {mid : List Bytes} (h : Lines s (first :: (mid ++ [w ++ q])))
    (hw : ∀ b, w.getLast? = some b → b ≠ 0x27) (hend : s.getLast? = some 0x27) :
    ∃ B, s = first ++ B ++ q ∧ (∃ t b1, B = t :: b1 ∧ isNlCr t = true) ∧ (∀ b, B.getLast? = some b → b ≠ 0x27) ∧
      (∀ l ∈ mid ++ [w], l <:+: B) ∧ ∀ pat, AllQ pat → pat ≠ [] → pat <:+: B → ∃ l ∈ mid ++ [w], pat <:+: l := by
  obtain ⟨p, init, L, rfl, hls, _, _, hp, hpe⟩ := h.unsnoc hend (by decide)
  obtain ⟨rfl, hL⟩ := List.append_inj' (by simpa using hls : (first :: mid) ++ [w ++ q] = init ++ [L]) rfl
  obtain rfl : w ++ q = L := by simpa using hL
  cases hp with
  | last hf hne =>
    rcases hpe with rfl | ⟨p', t, rfl, ht⟩
    · exact absurd rfl hne
    · exact absurd (hf t (by simp)) (by simp [ht])
  | @cons _ t rest _ hf ht hrest =>
    obtain ⟨c0, t', rfl⟩ := List.exists_cons_of_ne_nil (l := t) (by cases ht <;> simp)
    -- what stands before the last line ends in a line-break byte `t1`
    obtain ⟨p', t1, e1, ht1⟩ := hpe.resolve_left (by simp)
    have ht1q : t1 ≠ 0x27 := by rintro rfl; cases ht1
    obtain ⟨x, hx⟩ : ∃ x, (c0 :: t') ++ rest = x ++ [t1] := by
      have h1 : (first ++ ((c0 :: t') ++ rest)).getLast? = some t1 := by rw [e1]; simp
      rw [getLast?_append_ne _ _ (by simp)] at h1
      exact List.getLast?_eq_some_iff.1 h1
    refine ⟨(c0 :: t') ++ rest ++ w, by simp, ⟨c0, t' ++ rest ++ w, by simp, by cases ht <;> rfl⟩, fun b hb => ?_,
      fun l hl => ?_, fun pat hq hne hin => ?_⟩
    · by_cases hwn : w = []
      · subst hwn
        rw [List.append_nil, hx, List.getLast?_concat] at hb
        cases hb; exact ht1q
      · rw [getLast?_append_ne _ _ hwn] at hb
        exact hw b hb
    · rcases List.mem_append.1 hl with hl | hl
      · exact ((hrest.infix l hl).trans (List.suffix_append _ _).isInfix).trans (List.prefix_append _ _).isInfix
      · rw [List.mem_singleton.1 hl]; exact (List.suffix_append _ _).isInfix
    · rw [hx, List.append_assoc] at hin
      rcases infix_split hq hne ht1q x w hin with h1 | h1
      · have h2 : pat <:+: (c0 :: t') ++ rest := hx ▸ h1.trans (List.prefix_append _ _).isInfix
        obtain ⟨l, hl, h3⟩ := hrest.infix_quotes hq hne (infix_append_nonquote hq hne (IsTerm.no_quote ht) h2)
        exact ⟨l, by simp [hl], h3⟩
      · exact ⟨w, by simp, h1⟩

/-- the closing run is the first one: no run inside the body, and the body does not end in a quote (or the run would
    start one byte early); what follows the closing run does not matter -/
theorem firstOcc_run_iff (n : Nat) (hn : 1 ≤ n) (body w : Bytes) :
    FirstOcc (Qn n) (body ++ (Qn n ++ w)) body.length ↔
      ¬ Qn n <:+: body ∧ ∀ b, body.getLast? = some b → b ≠ 0x27 := by
  have hQne : Qn n ≠ [] := Qn_ne_nil hn
  constructor
  · intro hfirst
    have hocc : ∀ u x : Bytes, body = u ++ x → x ≠ [] → ¬ Qn n <+: x ++ (Qn n ++ w) := by
      intro u x e hx hpre
      refine hfirst.2 u.length (by rw [e]; have := List.length_pos_iff.2 hx; simp; omega) ?_
      rw [OccursAt, e, List.append_assoc, List.drop_left]
      exact hpre
    refine ⟨?_, fun b hb e => ?_⟩
    · rintro ⟨u, x, hux⟩
      exact hocc u (Qn n ++ x) (by rw [← hux]; simp) (by simp [hQne]) ⟨x ++ (Qn n ++ w), by simp⟩
    · subst e
      obtain ⟨d, hd⟩ := List.getLast?_eq_some_iff.1 hb
      refine hocc d [0x27] hd (by simp) ⟨[0x27] ++ w, ?_⟩
      rw [← List.append_assoc, ← cons_Qn]
      rfl
  · rintro ⟨hno, hend⟩
    exact ⟨⟨w, by rw [List.drop_left]⟩, no_early_occurrence (allQ_Qn n) body (Qn n ++ w) hend hno⟩

/-- two texts that agree up to their first line break -/
theorem noNl_prefix_unique {a a' x x' : Bytes} {t t' : UInt8} (ha : NoNl a) (ha' : NoNl a') (ht : isNlCr t = true)
    (ht' : isNlCr t' = true) (e : a ++ t :: x = a' ++ t' :: x') : a = a' ∧ t :: x = t' :: x' := by
  -- the first line is the longest prefix without a line-break byte
  have key : ∀ {a : Bytes} {t : UInt8} (x : Bytes), NoNl a → isNlCr t = true →
      (a ++ t :: x).takeWhile (fun b => !isNlCr b) = a := fun x ha ht => by
    rw [List.takeWhile_append_of_pos (fun b hb => by simp [ha b hb]), List.takeWhile_cons_of_neg (by simp [ht]),
      List.append_nil]
  have h : a = a' := by rw [← key x ha ht, e, key x' ha' ht']
  exact ⟨h, List.append_cancel_left (h ▸ e)⟩

/-- **A multi-line literal, by lines.**  A text that ends in a quote, with first line `first`, lines `mid` and a last
    line `w ++ q` (`q` its closing quotes), is read by the scanner as one multi-line literal of exactly its length -
    whatever follows it - iff the first line and `q` are the same odd run of at least three quotes and no line between
    them, nor `w`, holds such a run. -/
theorem multi_iff_lines {c first w q : Bytes} {mid : List Bytes} (rest : Bytes)
    (hl : Lines c (first :: (mid ++ [w ++ q]))) (hq : AllQ q) (hqne : q ≠ [])
    (hw : ∀ b, w.getLast? = some b → b ≠ 0x27) (hend : c.getLast? = some 0x27) :
    textLiteral (c ++ rest) = (c.length, .tMultiLine) ↔
      ∃ n, (decide (n ≥ 3) && n % 2 == 1) = true ∧ first = Qn n ∧ q = Qn n ∧ ∀ l ∈ mid ++ [w], ¬ Qn n <:+: l := by
  obtain ⟨B, hc, ⟨t, b1, hb, ht⟩, hBend, hmid, hinf⟩ := hl.between hw hend
  constructor
  · intro hscan
    obtain ⟨n, B0, hn3, hn, ⟨t0, b0, hB0, ht0⟩, hcB0, hfirst⟩ := textLiteral_token c rest hscan
    obtain ⟨hno, hB0end⟩ := (firstOcc_run_iff n (by omega) B0 rest).1 hfirst
    -- the two cuts of the text agree: same first line, same closing quotes
    have e1 : first ++ t :: (b1 ++ q) = Qn n ++ t0 :: (b0 ++ Qn n) := by
      have := hc.symm.trans hcB0
      rw [hb, hB0] at this; simpa using this
    obtain ⟨rfl, e2⟩ := noNl_prefix_unique (hl.noNl first (by simp)) (allQ_noNl (allQ_Qn n)) ht
      (by rcases ht0 with rfl | rfl <;> rfl) e1
    have e3 : B ++ q = B0 ++ Qn n := by rw [hb, hB0]; simpa using e2
    have hB : B = B0 := by
      rw [← trimEndQuotes_append _ q hBend hq, e3, trimEndQuotes_append _ _ hB0end (allQ_Qn n)]
    rw [hB] at e3
    exact ⟨n, hn, rfl, List.append_cancel_left e3, fun l hl hin => hno (hB ▸ hin.trans (hmid l hl))⟩
  · rintro ⟨n, hn, rfl, rfl, hno⟩
    have hn3 : 3 ≤ n := by simp only [Bool.and_eq_true, decide_eq_true_eq] at hn; exact hn.1
    have := textLiteral_of_shape n B rest hn ⟨t, b1, hb, by simpa [isNlCr, or_comm] using ht⟩
      ((firstOcc_run_iff n (by omega) _ rest).2
        ⟨fun hin => by obtain ⟨l, hl, h2⟩ := hinf _ (allQ_Qn n) hqne hin; exact hno l hl h2, hBend⟩)
    rw [← hc] at this
    rw [this, hc]
    simp [length_Qn, Nat.add_assoc]

/-- the scanner on a text that starts with a quote (in and outside `asm` blocks): no leading blanks, the text-literal
    sub-lexer decides length and kind -/
theorem lexOne_quote (simd : Bool) (st : LexState) (x : Bytes) :
    lexOne simd st (0x27 :: x) = some (some (0, (textLiteral (0x27 :: x)).1, .rTextLiteral (textLiteral (0x27 :: x)).2,
      { isFirst := false, inAsm := st.inAsm, prevReal := some (.rTextLiteral (textLiteral (0x27 :: x)).2) })) := by
  have hws : countLeadingWs (0x27 :: x) = 0 := by
    rw [countLeadingWs]
    · simp
    · intro r' e; cases e
  rw [lexOne_of_runSub .text_literal (by rw [hws]; rfl) rfl (by simp only [runSub]; rfl), hws, Nat.zero_add]
  rfl

theorem multi_ends_quote (content rest : Bytes)
    (hscan : textLiteral (content ++ rest) = (content.length, .tMultiLine)) : content.getLast? = some 0x27 := by
  obtain ⟨n, body, hn3, _, _, hc, _⟩ := textLiteral_token content rest hscan
  rw [hc]
  exact ends_quote_of_allQ _ _ (Qn_ne_nil (by omega)) (allQ_Qn n)

/-! ### the rewritten literal is still one token -/

/-- **The rewritten literal is still one multi-line literal token.**  If the scanner reads `content` in front of `rest`
    as one multi-line string literal, and the re-indenter turns `content` into `c'`, then the scanner reads `c'` in
    front of the same `rest` as one multi-line string literal again, of length exactly `|c'|`. -/
theorem mls_one_token (S : Settings) (hS : SettingsOk S) (content rest : Bytes) (ind cont : Nat) (c' : Bytes)
    (hscan : textLiteral (content ++ rest) = (content.length, .tMultiLine))
    (h : mlsRewrite S content ind cont = some c') :
    textLiteral (c' ++ rest) = (c'.length, .tMultiLine) := by
  obtain ⟨first, mid, w, q, vs, A, hv, rfl⟩ :=
    mlsRewrite_struct S content ind cont c' (multi_ends_quote content rest hscan) h
  have A' := A.rendered hS ind cont hv
  have hind := newIndent_no_quote hS ind cont
  -- the old lines hold no run of the opening quotes; the new ones are their values behind blanks
  obtain ⟨n, hn, rfl, rfl, hno⟩ := (multi_iff_lines rest A.lines A.allQ A.q_ne A.w_last A.ends).1 hscan
  refine (multi_iff_lines rest A'.lines A.allQ A.q_ne A'.w_last A'.ends).2 ⟨n, hn, rfl, rfl, fun l hl hin => ?_⟩
  have hQ := allQ_Qn n
  rcases List.mem_append.1 hl with hl | hl
  · obtain ⟨v, hv', rfl⟩ := List.mem_map.1 hl
    rcases lineText_cases S ind cont v with ⟨_, e⟩ | ⟨_, e⟩ <;> rw [e] at hin
    · exact A.q_ne (List.infix_nil.1 hin)
    · obtain ⟨l0, hl0, hlv⟩ := mapM_some_mem hv v hv'
      exact hno l0 (by simp [hl0]) ((infix_append_nonquote hQ A.q_ne hind hin).trans (lineValue_suffix hlv).isInfix)
  · rw [List.mem_singleton.1 hl, ← List.append_nil (newIndent S ind cont)] at hin
    exact A.q_ne (List.infix_nil.1 (infix_append_nonquote hQ A.q_ne hind hin))

theorem mls_one_token_lexOne (S : Settings) (hS : SettingsOk S) (content rest : Bytes) (ind cont : Nat) (c' : Bytes)
    (hscan : textLiteral (content ++ rest) = (content.length, .tMultiLine))
    (h : mlsRewrite S content ind cont = some c') (simd : Bool) (st : LexState) :
    lexOne simd st (c' ++ rest) = some (some (0, c'.length, .rTextLiteral .tMultiLine,
      { isFirst := false, inAsm := st.inAsm, prevReal := some (.rTextLiteral .tMultiLine) })) := by
  have h1 := mls_one_token S hS content rest ind cont c' hscan h
  obtain ⟨n, body, hn3, _, _, hc, _⟩ := textLiteral_token c' rest h1
  obtain ⟨x, hx⟩ : ∃ x, c' ++ rest = 0x27 :: x := by
    obtain ⟨m, rfl⟩ : ∃ m, n = m + 1 := ⟨n - 1, by omega⟩
    exact ⟨_, by rw [hc, Qn_succ]; rfl⟩
  rw [hx, lexOne_quote, ← hx, h1]

end Pasfmt.MlsMore
