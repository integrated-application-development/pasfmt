/-
  Declarative specifications of the sub-lexers of `Model/Lexer.lean` — identifiers, line and block
  comments, decimal numbers, text literals — for every input.  They are written with
  `List.takeWhile`, "first occurrence" and "longest prefix in a language" and do not follow the control structure of
  the model.  The loop of `text_literal` is followed once, for every sufficient fuel, with the item grammar in hand
  (`esc_only`, `tll_only`: the grammar determines the result); that the loop satisfies the grammar is then "every text
  has a reading" (`TextItems.total`), and needs no fact about fuel or about the lengths the part scanners return.
  A specification is also the one place where its scanner is analysed: that a literal or a comment ends
  inside the text at an `Ends` offset (`….endsIn`), and that it is the same literal or comment whatever follows the
  token and its lookahead (`….local`; from these `blockComment_pd`, `textLiteral_pd`), are read off the shapes
  the specification lists.  The property theorems built on them are in `Props/C13.lean`.
-/
import PasfmtModel.Proofs.Keywords
import PasfmtModel.Proofs.AsciiCase
import PasfmtModel.Proofs.LexEnds

namespace Pasfmt

/-- the first `n` bytes of `l` are identifier bytes and U+3000 starts at none of these positions -/
def IdentPrefix (l : Bytes) (n : Nat) : Prop :=
  ∀ i, i < n → (∃ b, l[i]? = some b ∧ isIdentByte b = true) ∧ ¬ OccursAt u3000 l i

/-- the test of the identifier scan at position `i`, in the words of `IdentPrefix` -/
theorem identAt_drop_iff (l : Bytes) (i : Nat) (hi : i < l.length) :
    identAt (l.drop i) = true ↔ (∃ b, l[i]? = some b ∧ isIdentByte b = true) ∧ ¬ OccursAt u3000 l i := by
  rw [identAt, Bool.and_eq_true, Bool.not_eq_true', ← Bool.not_eq_true, List.isPrefixOf_iff_prefix,
    List.drop_eq_getElem_cons hi]
  refine and_congr ?_ (by rw [OccursAt, List.drop_eq_getElem_cons hi])
  simp [headIs, hi]

/-- **identifier scanning is maximal munch**: a length `n` is an identifier prefix of `l` (only
    identifier bytes, no U+3000 starting inside) exactly when `n ≤ identLen l`.  So `identLen l`
    is the greatest such length. -/
theorem identPrefix_iff (l : Bytes) (n : Nat) : IdentPrefix l n ↔ n ≤ identLen l := by
  rw [identLen_eq_span, le_spanLen_iff]
  constructor
  · intro h
    have hn : n ≤ l.length := by
      cases n with
      | zero => omega
      | succ m => obtain ⟨⟨b, hb, _⟩, _⟩ := h m (by omega); have := (List.getElem?_eq_some_iff.1 hb).1; omega
    exact ⟨hn, fun i hi => (identAt_drop_iff l i (by omega)).2 (h i hi)⟩
  · rintro ⟨hn, h⟩ i hi
    exact (identAt_drop_iff l i (by omega)).1 (h i hi)

/-- `n` is the length of the identifier run at the head of `l`: the identifier prefixes of `l`
    (see `IdentPrefix`) are exactly the lengths `≤ n` -/
def IsIdentRun (l : Bytes) (n : Nat) : Prop := ∀ m, IdentPrefix l m ↔ m ≤ n

theorem isIdentRun_iff (l : Bytes) (n : Nat) : IsIdentRun l n ↔ n = identLen l := by
  constructor
  · intro h
    have h1 := (identPrefix_iff l n).1 ((h n).2 (Nat.le_refl _))
    have h2 := (h (identLen l)).1 ((identPrefix_iff l _).2 (Nat.le_refl _))
    omega
  · rintro rfl m; exact identPrefix_iff l m

/-- where the identifier scan stops: at the end of the text, at a byte that is not an identifier
    byte, or right before U+3000 -/
theorem identLen_stop (l : Bytes) :
    identLen l = l.length ∨ (∃ b, l[identLen l]? = some b ∧ isIdentByte b = false) ∨
      OccursAt u3000 l (identLen l) := by
  by_cases hend : identLen l = l.length
  · exact Or.inl hend
  · have hlt : identLen l < l.length := by have := identLen_le l; omega
    have hs := identLen_eq_span l ▸ spanLen_stop identAt l (identLen_eq_span l ▸ hlt)
    by_cases hu : OccursAt u3000 l (identLen l)
    · exact Or.inr (Or.inr hu)
    · refine Or.inr (Or.inl ⟨l[identLen l], by simp [hlt], ?_⟩)
      apply (Bool.not_eq_true _).mp
      intro hb
      rw [(identAt_drop_iff l _ hlt).2 ⟨⟨_, by simp [hlt], hb⟩, hu⟩] at hs
      cases hs

/-- a word without CR and LF -/
def NoLineBreak (w : Bytes) : Prop := ∀ b ∈ w, b ≠ 0x0A ∧ b ≠ 0x0D

theorem noLineBreak_iff (w : Bytes) : NoLineBreak w ↔ AllBytes (fun b => !(b == 0x0A || b == 0x0D)) w := by
  simp [NoLineBreak, AllBytes]

/-- the body of a `//` comment is the longest prefix of the rest of the text without CR and LF -/
theorem lineCommentEnd_longest (l : Bytes) : LongestPrefixIn NoLineBreak l (lineCommentEnd l) := by
  rw [lineCommentEnd_eq]
  have h := countWhile_longest (fun b => !(b == 0x0A || b == 0x0D)) l
  refine ⟨h.le, (noLineBreak_iff _).2 h.mem, fun m hm hL => h.max m hm ((noLineBreak_iff _).1 hL)⟩

/-- … and it stops at the end of the text or at a CR / LF -/
theorem lineCommentEnd_stop (l : Bytes) :
    lineCommentEnd l = l.length ∨ l[lineCommentEnd l]? = some 0x0A ∨ l[lineCommentEnd l]? = some 0x0D := by
  rw [lineCommentEnd_eq]
  have hle := countWhile_le (fun b => !(b == 0x0A || b == 0x0D)) l
  by_cases h : countWhile (fun b => !(b == 0x0A || b == 0x0D)) l = l.length
  · exact Or.inl h
  · right
    have hlt : countWhile (fun b => !(b == 0x0A || b == 0x0D)) l < l.length := by omega
    have := countWhile_stop (fun b => !(b == 0x0A || b == 0x0D)) l _ (List.getElem?_eq_getElem hlt)
    rw [List.getElem?_eq_getElem hlt]
    simp only [Bool.not_eq_false', Bool.or_eq_true, beq_iff_eq] at this
    rcases this with h | h
    · left; rw [h]
    · right; rw [h]

theorem take_lineCommentEnd (l : Bytes) :
    l.take (lineCommentEnd l) = l.takeWhile (fun b => !(b == 0x0A || b == 0x0D)) := by
  rw [lineCommentEnd_eq, take_countWhile]

/-- `find_block_comment_end` returns the offset just after the first occurrence of the closer -/
theorem findBlockCommentEnd_some_iff (k : BlockCommentKind) (l : Bytes) (e : Nat) :
    findBlockCommentEnd k l = some e ↔ ∃ i, e = i + (closer k).length ∧ FirstOcc (closer k) l i := by
  rw [findBlockCommentEnd_eq, Option.map_eq_some_iff]
  constructor
  · rintro ⟨i, hi, rfl⟩; exact ⟨i, rfl, (findSub_some_iff _ _ (closer_ne_nil k) i).1 hi⟩
  · rintro ⟨i, rfl, hi⟩; exact ⟨i, (findSub_some_iff _ _ (closer_ne_nil k) i).2 hi, rfl⟩

theorem findBlockCommentEnd_none_iff (k : BlockCommentKind) (l : Bytes) :
    findBlockCommentEnd k l = none ↔ ∀ j, ¬ OccursAt (closer k) l j := by
  rw [findBlockCommentEnd_eq, Option.map_eq_none_iff]
  exact findSub_none_iff _ _ (closer_ne_nil k)

/-- the two outcomes of `find_block_comment_end`, for a proof that has to treat both -/
theorem findBlockCommentEnd_cases (k : BlockCommentKind) (l : Bytes) :
    (∃ i, findBlockCommentEnd k l = some (i + (closer k).length) ∧ FirstOcc (closer k) l i) ∨
      (findBlockCommentEnd k l = none ∧ ∀ j, ¬ OccursAt (closer k) l j) := by
  cases hf : findBlockCommentEnd k l with
  | some e => obtain ⟨i, rfl, hi⟩ := (findBlockCommentEnd_some_iff k l e).1 hf; exact .inl ⟨i, rfl, hi⟩
  | none => exact .inr ⟨rfl, (findBlockCommentEnd_none_iff k l).1 hf⟩

theorem closer_occurs_endsIn (k : BlockCommentKind) (l : Bytes) (i : Nat) (h : OccursAt (closer k) l i) :
    1 ≤ i + (closer k).length ∧ EndsIn l (i + (closer k).length) := by
  have hle := h.length_le
  simp only [List.length_drop] at hle
  obtain ⟨c, hpos, hc, hlt⟩ : ∃ c, 1 ≤ (closer k).length ∧ (closer k)[(closer k).length - 1]? = some c ∧ c < 0x80 := by
    cases k <;> exact ⟨_, by decide, rfl, by decide⟩
  have hb := isPrefix_getElem? h ((closer k).length - 1) (by omega)
  rw [hc, List.getElem?_drop] at hb
  refine ⟨by omega, by omega, ?_⟩
  rw [show i + (closer k).length = (i + ((closer k).length - 1)) + 1 by omega]
  exact Ends.of_asciiAt ⟨c, hb, hlt⟩

theorem blockCommentEndOrEof_le (k : BlockCommentKind) (trim : Nat) (l : Bytes) :
    blockCommentEndOrEof k trim l ≤ l.length := by
  unfold blockCommentEndOrEof
  rcases findBlockCommentEnd_cases k l with ⟨i, he, hi⟩ | ⟨he, -⟩ <;> rw [he]
  · exact (closer_occurs_endsIn k l i hi.occurs).2.le
  · exact Nat.sub_le _ _

/-- kind of a block comment: multi-line if its text contains a line feed, otherwise "individual"
    if it is the first token on its line, otherwise "inline" -/
def blockKindSpec (nlBefore : Bool) (body : Bytes) : CommentKind :=
  if 0x0A ∈ body then .cMultilineBlock else if nlBefore then .cIndividualBlock else .cInlineBlock

/-- declarative result of scanning a block comment whose text after the opener is `l`:
    `(token length, comment kind)`.  `openLen` = length of the opener, `tokLen` = number of bytes
    from the opener to the end of the text, `trim` = length of the blank run at the end of the text. -/
inductive BlockCommentSpec (kind : BlockCommentKind) (trim openLen tokLen : Nat) (nlBefore : Bool) (l : Bytes) :
    Nat × CommentKind → Prop
  /-- terminated: the token ends right after the first occurrence of the closer -/
  | closed (i : Nat) (h : FirstOcc (closer kind) l i) :
      BlockCommentSpec kind trim openLen tokLen nlBefore l
        (openLen + (i + (closer kind).length), blockKindSpec nlBefore (l.take (i + (closer kind).length)))
  /-- unterminated: the token runs to the end of the text minus the trailing blanks and is
      classified multi-line whatever it contains -/
  | unterminated (h : ∀ j, ¬ OccursAt (closer kind) l j) :
      BlockCommentSpec kind trim openLen tokLen nlBefore l (tokLen - trim, .cMultilineBlock)

theorem blockCommentKind_eq_spec (nlBefore : Bool) (body : Bytes) :
    blockCommentKind nlBefore (containsByte 0x0A body) = blockKindSpec nlBefore body := by
  simp [blockCommentKind, blockKindSpec, containsByte]

theorem blockComment_sat (trim : Nat) (kind : BlockCommentKind) (openLen tokLen : Nat) (nlBefore : Bool)
    (l : Bytes) :
    BlockCommentSpec kind trim openLen tokLen nlBefore l (blockComment trim kind openLen tokLen nlBefore l) := by
  unfold blockComment
  rcases findBlockCommentEnd_cases kind l with ⟨i, he, hi⟩ | ⟨he, hn⟩ <;> simp only [he, blockCommentKind_eq_spec]
  · exact .closed i hi
  · exact .unterminated hn

theorem BlockCommentSpec.unique {kind : BlockCommentKind} {trim openLen tokLen : Nat} {nlBefore : Bool}
    {l : Bytes} {x y : Nat × CommentKind}
    (hx : BlockCommentSpec kind trim openLen tokLen nlBefore l x)
    (hy : BlockCommentSpec kind trim openLen tokLen nlBefore l y) : x = y := by
  cases hx with
  | closed i hi =>
    cases hy with
    | closed j hj => rw [FirstOcc.unique hi hj]
    | unterminated h => exact absurd hi.occurs (h i)
  | unterminated h =>
    cases hy with
    | closed j hj => exact absurd hj.occurs (h j)
    | unterminated _ => rfl

theorem BlockCommentSpec.endsIn {kind : BlockCommentKind} {trim openLen tokLen : Nat} {nlBefore : Bool} {l : Bytes}
    {x : Nat × CommentKind} (h : BlockCommentSpec kind trim openLen tokLen nlBefore l x) :
    x.1 = tokLen - trim ∨ ∃ e, x.1 = openLen + e ∧ 1 ≤ e ∧ EndsIn l e := by
  cases h with
  | closed i h => exact Or.inr ⟨_, rfl, closer_occurs_endsIn kind l i h.occurs⟩
  | unterminated h => exact Or.inl rfl

theorem blockComment_pd {trim trim' : Nat} {kind : BlockCommentKind} (pre y : Bytes) {s s' : Bytes} {nlb : Bool}
    {x : Nat × CommentKind} (ht : trim ≤ s.length)
    (h : blockComment trim kind (pre.length + 1) ((pre ++ (y ++ s)).length + 1) nlb (y ++ s) = x)
    (hn : x.1 + 1 ≤ pre.length + 1 + y.length) :
    blockComment trim' kind (pre.length + 1) ((pre ++ (y ++ s')).length + 1) nlb (y ++ s') = x := by
  subst h
  have h := blockComment_sat trim kind (pre.length + 1) ((pre ++ (y ++ s)).length + 1) nlb (y ++ s)
  generalize blockComment trim kind _ _ nlb (y ++ s) = a at h hn
  cases h with
  | closed i hi =>
    have hi' := hi.local (s' := s') (by omega)
    refine BlockCommentSpec.unique (blockComment_sat ..) ?_
    rw [List.take_append_of_le_length (by omega), ← List.take_append_of_le_length (l₂ := s') (by omega)]
    exact .closed i hi'
  | unterminated h => simp only [List.length_append] at hn; omega

/-- `digit (digit | '_')*` -/
def IsDigitRun (w : Bytes) : Prop :=
  ∃ d ds, w = d :: ds ∧ isDigit d = true ∧ AllBytes isDecimalByte ds

/-- optional fraction: empty, or `'.' digit (digit | '_')*` -/
def IsFrac (w : Bytes) : Prop := w = [] ∨ ∃ v, w = 0x2E :: v ∧ IsDigitRun v

/-- optional exponent: empty, or `('e'|'E') ('+'|'-')? (digit (digit | '_')*)?` -/
def IsExp (w : Bytes) : Prop :=
  w = [] ∨ ∃ e sg v, w = e :: (sg ++ v) ∧ (e = 0x65 ∨ e = 0x45) ∧
    (sg = [] ∨ sg = [0x2B] ∨ sg = [0x2D]) ∧ (v = [] ∨ IsDigitRun v)

/-- the language of what may follow the first digit of a decimal literal:
    `(digit | '_')*  ('.' digit (digit|'_')*)?  (('e'|'E') ('+'|'-')? (digit (digit|'_')*)?)?` -/
def DecTail (w : Bytes) : Prop :=
  ∃ ip fr ex, w = ip ++ fr ++ ex ∧ AllBytes isDecimalByte ip ∧ IsFrac fr ∧ IsExp ex

/-- `count_full_decimal` consumes nothing or a digit run -/
theorem countFullDecimal_run (l : Bytes) :
    countFullDecimal l = 0 ∨ IsDigitRun (l.take (countFullDecimal l)) := by
  cases l with
  | nil => left; rfl
  | cons b t =>
    by_cases hb : b = 0x5F
    · subst hb; left; rfl
    · rw [countFullDecimal_cons_ne b t hb]
      by_cases hd : isDecimalByte b = true
      · right
        unfold countDecimal
        rw [countWhile_pos _ b t hd, List.take_succ_cons]
        exact ⟨b, _, rfl, decimal_not_digit b hd hb, (countWhile_longest isDecimalByte t).mem⟩
      · left
        unfold countDecimal
        exact countWhile_zero _ b t ((Bool.not_eq_true _).mp hd)

/-- … and at least every digit run that starts the text -/
theorem digitRun_le (v rest : Bytes) (h : IsDigitRun v) : v.length ≤ countFullDecimal (v ++ rest) := by
  obtain ⟨d, ds, rfl, hd, hds⟩ := h
  rw [List.cons_append, countFullDecimal_cons_ne d _ (isDigit_ne d hd).1, ← List.cons_append]
  apply allBytes_append_le
  intro b hb
  rcases List.mem_cons.1 hb with rfl | hb
  · exact isDigit_decimal _ hd
  · exact hds b hb

theorem digitRun_eq (v rest : Bytes) (h : IsDigitRun v) (hs : ∀ b t, rest = b :: t → isDecimalByte b = false) :
    countFullDecimal (v ++ rest) = v.length := by
  obtain ⟨d, ds, rfl, hd, hds⟩ := h
  rw [List.cons_append, countFullDecimal_cons_ne d _ (isDigit_ne d hd).1, ← List.cons_append]
  apply countWhile_append_stop _ _ _ _ hs
  intro b hb
  rcases List.mem_cons.1 hb with rfl | hb
  · exact isDigit_decimal _ hd
  · exact hds b hb

theorem fracLenF_in (r1 : Bytes) : IsFrac (r1.take (fracLenF r1)) := by
  cases r1 with
  | nil => left; simp
  | cons b t =>
    by_cases hb : b = 0x2E
    · subst hb
      rw [fracLenF_dot]
      rcases countFullDecimal_run t with h0 | hrun
      · left; simp [h0]
      · by_cases hpos : countFullDecimal t > 0
        · right
          rw [if_pos hpos, Nat.add_comm, List.take_succ_cons]
          exact ⟨_, rfl, hrun⟩
        · left; simp [hpos]
    · left; simp [fracLenF_not_dot b t hb]

theorem expLenF_in (r3 : Bytes) : IsExp (r3.take (expLenF r3)) := by
  cases r3 with
  | nil => left; simp
  | cons e r4 =>
    by_cases he : e = 0x65 ∨ e = 0x45
    · right
      rw [expLenF_e e r4 he]
      cases r4 with
      | nil => exact ⟨e, [], [], by simp, he, Or.inl rfl, Or.inl rfl⟩
      | cons s r5 =>
        simp only
        by_cases hs : (s == 0x2B || s == 0x2D) = true
        · rw [if_pos hs]
          have hs' : s = 0x2B ∨ s = 0x2D := by simpa using hs
          refine ⟨e, [s], r5.take (countFullDecimal r5), ?_, he, ?_, ?_⟩
          · rw [show 2 + countFullDecimal r5 = (countFullDecimal r5 + 1) + 1 by omega]
            simp [List.take_succ_cons]
          · rcases hs' with rfl | rfl <;> simp
          · rcases countFullDecimal_run r5 with h0 | hrun
            · left; simp [h0]
            · right; exact hrun
        · rw [if_neg hs]
          refine ⟨e, [], (s :: r5).take (countFullDecimal (s :: r5)), ?_, he, Or.inl rfl, ?_⟩
          · rw [Nat.add_comm, List.take_succ_cons]; simp
          · rcases countFullDecimal_run (s :: r5) with h0 | hrun
            · left; simp [h0]
            · right; exact hrun
    · left
      have h1 : e ≠ 0x65 := fun h => he (Or.inl h)
      have h2 : e ≠ 0x45 := fun h => he (Or.inr h)
      simp [expLenF_not_e e r4 h1 h2]

/-- what `dec_number_literal` consumes after the first digit belongs to the grammar -/
theorem decNumberRest_in (r : Bytes) : DecTail (r.take (decNumberRest r)) := by
  rw [decNumberRest_eq, List.take_add, List.take_add]
  refine ⟨_, _, _, rfl, (countWhile_longest isDecimalByte r).mem, fracLenF_in _, ?_⟩
  rw [← List.drop_drop]
  exact expLenF_in _

theorem expLenF_ge (ex rest : Bytes) (h : IsExp ex) : ex.length ≤ expLenF (ex ++ rest) := by
  rcases h with rfl | ⟨e, sg, v, rfl, he, hsg, hv⟩
  · simp
  · rw [List.cons_append, expLenF_e e _ he]
    rcases hsg with rfl | rfl | rfl
    · rcases hv with rfl | hv
      · cases rest with
        | nil => simp
        | cons s r5 => simp only [List.nil_append, List.length_cons, List.length_nil]; split <;> omega
      · have hle := digitRun_le v rest hv
        obtain ⟨d, ds, rfl, hd, hds⟩ := hv
        have hne := isDigit_ne d hd
        simp only [List.nil_append, List.cons_append, List.length_cons] at hle ⊢
        have : (d == 0x2B || d == 0x2D) = false := by simp [hne.2.1, hne.2.2]
        rw [this]
        simp only [Bool.false_eq_true, if_false]
        omega
    · simp only [List.cons_append, List.nil_append, List.length_cons]
      rcases hv with rfl | hv
      · simp
      · have := digitRun_le v rest hv
        simp
        omega
    · simp only [List.cons_append, List.nil_append, List.length_cons]
      rcases hv with rfl | hv
      · simp
      · have := digitRun_le v rest hv
        simp
        omega

theorem decNumberRest_cons (d : UInt8) (r : Bytes) (h : isDecimalByte d = true) :
    decNumberRest (d :: r) = decNumberRest r + 1 := by
  rw [decNumberRest_eq, decNumberRest_eq]
  have : countDecimal (d :: r) = countDecimal r + 1 := countWhile_pos _ d r h
  rw [this, List.drop_succ_cons]
  omega

theorem decNumberRest_of_head (b : UInt8) (t : Bytes) (h : isDecimalByte b = false) :
    decNumberRest (b :: t) = fracLenF (b :: t) + expLenF ((b :: t).drop (fracLenF (b :: t))) := by
  rw [decNumberRest_eq]
  have : countDecimal (b :: t) = 0 := countWhile_zero _ b t h
  rw [this]; simp

theorem decTail_le_nil (fr ex rest : Bytes) (hfr : IsFrac fr) (hex : IsExp ex) :
    fr.length + ex.length ≤ decNumberRest (fr ++ ex ++ rest) := by
  rcases hfr with rfl | ⟨v, rfl, hv⟩
  · -- no fraction
    rcases hex with rfl | ⟨e, sg, w, rfl, he, hsg, hw⟩
    · simp
    · have hge := expLenF_ge (e :: (sg ++ w)) rest (Or.inr ⟨e, sg, w, rfl, he, hsg, hw⟩)
      have hdec : isDecimalByte e = false := by rcases he with rfl | rfl <;> decide
      have hdot : e ≠ 0x2E := by rcases he with rfl | rfl <;> decide
      simp only [List.nil_append, List.cons_append] at hge ⊢
      rw [decNumberRest_of_head e _ hdec, fracLenF_not_dot e _ hdot]
      simp only [List.drop_zero, List.length_nil]
      omega
  · -- a fraction `.v`
    have hdot : isDecimalByte 0x2E = false := by decide
    simp only [List.cons_append]
    rw [decNumberRest_of_head _ _ hdot, fracLenF_dot]
    rcases hex with rfl | ⟨e, sg, w, rfl, he, hsg, hw⟩
    · have := digitRun_le v rest hv
      have hvpos : 0 < v.length := by obtain ⟨d, ds, rfl, _, _⟩ := hv; simp
      simp only [List.append_nil, List.length_cons, List.length_nil] at this ⊢
      rw [if_pos (by omega)]
      omega
    · have hdec : isDecimalByte e = false := by rcases he with rfl | rfl <;> decide
      have heq := digitRun_eq v (e :: (sg ++ w) ++ rest) hv (by
        intro b t hbt
        simp only [List.cons_append, List.cons.injEq] at hbt
        rw [← hbt.1]; exact hdec)
      have hvpos : 0 < v.length := by obtain ⟨d, ds, rfl, _, _⟩ := hv; simp
      rw [List.append_assoc, heq, if_pos hvpos]
      have hge := expLenF_ge (e :: (sg ++ w)) rest (Or.inr ⟨e, sg, w, rfl, he, hsg, hw⟩)
      have hdrop : (0x2E :: (v ++ (e :: (sg ++ w) ++ rest))).drop (1 + v.length) = e :: (sg ++ w) ++ rest := by
        rw [Nat.add_comm, List.drop_succ_cons]; simp
      rw [hdrop]
      simp only [List.length_cons] at hge ⊢
      omega

theorem decTail_le (ip fr ex rest : Bytes) (hip : AllBytes isDecimalByte ip) (hfr : IsFrac fr) (hex : IsExp ex) :
    ip.length + fr.length + ex.length ≤ decNumberRest (ip ++ fr ++ ex ++ rest) := by
  induction ip with
  | nil => simpa using decTail_le_nil fr ex rest hfr hex
  | cons d ip ih =>
    simp only [List.cons_append, List.length_cons]
    rw [decNumberRest_cons d _ (hip d (by simp))]
    have := ih (fun b hb => hip b (by simp [hb]))
    omega

/-- **decimal literals are maximal munch over the grammar**: what follows the first digit is the
    longest prefix of the remaining text that belongs to `DecTail` -/
theorem decNumberRest_longest (r : Bytes) : LongestPrefixIn DecTail r (decNumberRest r) := by
  refine ⟨(decNumberRest_ascii r).le, decNumberRest_in r, ?_⟩
  rintro m hm ⟨ip, fr, ex, hsplit, hip, hfr, hex⟩
  have hr : r = ip ++ fr ++ ex ++ r.drop m := by rw [← hsplit, List.take_append_drop]
  have hlen : m = ip.length + fr.length + ex.length := by
    have := congrArg List.length hsplit
    simp only [List.length_take, List.length_append] at this
    omega
  have := decTail_le ip fr ex (r.drop m) hip hfr hex
  rw [← hr] at this
  omega

/-- a byte that ends a quoted segment: the quote, LF or CR -/
def isStrBreak (b : UInt8) : Bool := b == 0x27 || b == 0x0A || b == 0x0D

/-- a byte inside a quoted segment -/
def isStrBody (b : UInt8) : Bool := !isStrBreak b

/-- one well-formed item at the head of the text and its length: a quoted segment `'…'` on one
    line, or a character code `#` + digits/underscores, `#$` + hex digits, `#%` + binary digits
    (the digit runs are maximal) -/
inductive TextItem : Bytes → Nat → Prop
  | quoted (body rest : Bytes) (hb : AllBytes isStrBody body) :
      TextItem (0x27 :: (body ++ 0x27 :: rest)) (body.length + 2)
  | escDec (d : UInt8) (ds rest : Bytes) (hd : isDecimalByte d = true) (hds : AllBytes isDecimalByte ds)
      (hs : StopsAt isDecimalByte rest) : TextItem (0x23 :: d :: (ds ++ rest)) (ds.length + 2)
  | escHex (h : UInt8) (hs rest : Bytes) (hh : isHexByte h = true) (hhs : AllBytes isHexByte hs)
      (hst : StopsAt isHexByte rest) : TextItem (0x23 :: 0x24 :: h :: (hs ++ rest)) (hs.length + 3)
  | escBin (h : UInt8) (hs rest : Bytes) (hh : isBinaryByte h = true) (hhs : AllBytes isBinaryByte hs)
      (hst : StopsAt isBinaryByte rest) : TextItem (0x23 :: 0x25 :: h :: (hs ++ rest)) (hs.length + 3)

/-- a malformed item at the head of the text and how many bytes of it are kept: a quoted segment
    cut by the end of the line or of the text, a `#` without a code, `#$` / `#%` without digits -/
inductive BadTextItem : Bytes → Nat → Prop
  | quotedOpen (body rest : Bytes) (hb : AllBytes isStrBody body)
      (hr : rest = [] ∨ ∃ c t, rest = c :: t ∧ (c = 0x0A ∨ c = 0x0D)) :
      BadTextItem (0x27 :: (body ++ rest)) (body.length + 1)
  | escNone (rest : Bytes)
      (h : ∀ b t, rest = b :: t → isDecimalByte b = false ∧ b ≠ 0x24 ∧ b ≠ 0x25) : BadTextItem (0x23 :: rest) 1
  | escHexNone (rest : Bytes) (h : StopsAt isHexByte rest) : BadTextItem (0x23 :: 0x24 :: rest) 2
  | escBinNone (rest : Bytes) (h : StopsAt isBinaryByte rest) : BadTextItem (0x23 :: 0x25 :: rest) 2

/-- declarative result `(length, kind)` of scanning a single-line text literal: a maximal
    sequence of items; it ends (kind single-line) where the next byte is neither `'` nor `#`, or
    (kind unterminated) with the first malformed item -/
inductive TextItems : Bytes → Nat × TextLiteralKind → Prop
  | done (l : Bytes) (h : ∀ b t, l = b :: t → b ≠ 0x27 ∧ b ≠ 0x23) : TextItems l (0, .tSingleLine)
  | item (l : Bytes) (n m : Nat) (k : TextLiteralKind) (hi : TextItem l n) (hr : TextItems (l.drop n) (m, k)) :
      TextItems l (n + m, k)
  | bad (l : Bytes) (n : Nat) (hb : BadTextItem l n) : TextItems l (n, .tUnterminated)

theorem pascal_quoted (body rest : Bytes) (hb : AllBytes isStrBody body) :
    consumePascalStr (0x27 :: (body ++ 0x27 :: rest)) = .cont (body.length + 2) := by
  have hf := findIdx_append_stop isStrBreak body 0x27 rest hb (by decide)
  unfold isStrBreak at hf
  simp only [consumePascalStr]
  rw [hf]
  have : (body ++ 0x27 :: rest).isEmpty = false := by cases body <;> rfl
  simp [this]; omega

theorem pascal_open (body rest : Bytes) (hb : AllBytes isStrBody body)
    (hr : rest = [] ∨ ∃ c t, rest = c :: t ∧ (c = 0x0A ∨ c = 0x0D)) :
    consumePascalStr (0x27 :: (body ++ rest)) = .unterminated (body.length + 1) := by
  simp only [consumePascalStr]
  rcases hr with rfl | ⟨c, t, rfl, hc⟩
  · cases body with
    | nil => rfl
    | cons a x =>
      have hf := findIdx_none_of_all isStrBreak (a :: x) hb
      unfold isStrBreak at hf
      simp only [List.append_nil]
      rw [hf]; exact congrArg ParseState.unterminated (Nat.add_comm _ _)
  · have hbr : isStrBreak c = true := by rcases hc with rfl | rfl <;> decide
    have hf := findIdx_append_stop isStrBreak body c t hb hbr
    unfold isStrBreak at hf
    rw [hf]
    have h1 : (body ++ c :: t).isEmpty = false := by cases body <;> rfl
    have h2 : c ≠ 0x27 := by rcases hc with rfl | rfl <;> decide
    simp [h1, h2, Nat.add_comm]

theorem oneEscape_dec (d : UInt8) (ds rest : Bytes) (hd : isDecimalByte d = true)
    (hds : AllBytes isDecimalByte ds) (hs : StopsAt isDecimalByte rest) :
    consumeOneEscape (d :: (ds ++ rest)) = .inl (ds.length + 2) := by
  have h1 : (isDigit d || d == 0x5F) = true := by
    simp only [isDecimalByte, Bool.or_eq_true] at hd ⊢; exact hd.symm
  have h2 : countDecimal (ds ++ rest) = ds.length := countWhile_append_stop _ _ _ hds hs
  simp only [consumeOneEscape, h1, if_true, h2, Nat.add_comm]

theorem consumeOneEscape_hex (r : Bytes) :
    consumeOneEscape (0x24 :: r) = match countHex r with | 0 => .inr 2 | c => .inl (2 + c) := rfl

theorem consumeOneEscape_bin (r : Bytes) :
    consumeOneEscape (0x25 :: r) = match countBinary r with | 0 => .inr 2 | c => .inl (2 + c) := rfl

/-- `#$` and `#%` (`c`, with the digit class `p`): the digits of the code, or none -/
theorem oneEscape_based {c : UInt8} {p : UInt8 → Bool}
    (hc : ∀ r, consumeOneEscape (c :: r) = match countWhile p r with | 0 => .inr 2 | k => .inl (2 + k)) :
    (∀ h hs rest, p h = true → AllBytes p hs → StopsAt p rest →
      consumeOneEscape (c :: h :: (hs ++ rest)) = .inl (hs.length + 3)) ∧
    ∀ rest, StopsAt p rest → consumeOneEscape (c :: rest) = .inr 2 := by
  refine ⟨fun h hs rest hh hhs hst => ?_, fun rest hst => ?_⟩
  · rw [hc, countWhile_pos _ h _ hh, countWhile_append_stop _ _ _ hhs hst]; exact congrArg Sum.inl (by omega : 2 + (hs.length + 1) = hs.length + 3)
  · rw [hc, countWhile_of_stops _ _ hst]; rfl

theorem oneEscape_none (rest : Bytes)
    (h : ∀ b t, rest = b :: t → isDecimalByte b = false ∧ b ≠ 0x24 ∧ b ≠ 0x25) :
    consumeOneEscape rest = .inr 1 := by
  cases rest with
  | nil => rfl
  | cons b t =>
    obtain ⟨h1, h2, h3⟩ := h b t rfl
    have h1' : (isDigit b || b == 0x5F) = false := by
      simp only [isDecimalByte, Bool.or_eq_false_iff] at h1 ⊢; exact h1.symm
    simp [consumeOneEscape, h1', h2, h3]

/-- what the two one-item scanners return on a well-formed item -/
theorem TextItem.scan {l : Bytes} {n : Nat} (h : TextItem l n) :
    (∃ r, l = 0x27 :: r ∧ consumePascalStr l = .cont n) ∨ ∃ r, l = 0x23 :: r ∧ consumeOneEscape r = .inl n := by
  cases h with
  | quoted body rest hb => exact .inl ⟨_, rfl, pascal_quoted body rest hb⟩
  | escDec d ds rest hd hds hs => exact .inr ⟨_, rfl, oneEscape_dec d ds rest hd hds hs⟩
  | escHex h hs rest hh hhs hst => exact .inr ⟨_, rfl, (oneEscape_based consumeOneEscape_hex).1 h hs rest hh hhs hst⟩
  | escBin h hs rest hh hhs hst => exact .inr ⟨_, rfl, (oneEscape_based consumeOneEscape_bin).1 h hs rest hh hhs hst⟩

/-- … and on a malformed one -/
theorem BadTextItem.scan {l : Bytes} {n : Nat} (h : BadTextItem l n) :
    (∃ r, l = 0x27 :: r ∧ consumePascalStr l = .unterminated n) ∨ ∃ r, l = 0x23 :: r ∧ consumeOneEscape r = .inr n := by
  cases h with
  | quotedOpen body rest hb hr => exact .inl ⟨_, rfl, pascal_open body rest hb hr⟩
  | escNone rest h => exact .inr ⟨_, rfl, oneEscape_none rest h⟩
  | escHexNone rest h => exact .inr ⟨_, rfl, (oneEscape_based consumeOneEscape_hex).2 rest h⟩
  | escBinNone rest h => exact .inr ⟨_, rfl, (oneEscape_based consumeOneEscape_bin).2 rest h⟩

theorem TextItem.pos {l : Bytes} {n : Nat} (h : TextItem l n) : 1 ≤ n ∧ l ≠ [] := by
  cases h <;> exact ⟨by omega, by simp⟩

/-- the inner loop, with any fuel above the length of the text, against the grammar: it consumes the `#` items at the
    head of the text.  The fuel suffices because an item is not empty (`TextItem.pos`). -/
theorem esc_only (g : Nat) (l : Bytes) (x : Nat × TextLiteralKind) (hg : l.length < g) (h : TextItems l x) :
    match consumeEscapedChars g l with
    | .cont n => (∀ r, l.drop n ≠ 0x23 :: r) ∧ ∃ y, TextItems (l.drop n) y ∧ x = shiftTL n y
    | .unterminated n => x = (n, .tUnterminated)
    | .stop _ => False := by
  induction g generalizing l x with
  | zero => omega
  | succ g ih =>
    by_cases hh : ∃ r, l = 0x23 :: r
    · obtain ⟨r, rfl⟩ := hh
      cases h with
      | done _ hd => exact absurd rfl (hd _ _ rfl).2
      | item _ n m k hi hr =>
        obtain ⟨r', hl, -⟩ | ⟨r', hl, he⟩ := hi.scan
        · simp at hl
        · cases hl
          have := ih _ _ (by have := hi.pos.1; simp only [List.length_drop, List.length_cons] at hg ⊢; omega) hr
          simp only [consumeEscapedChars, he]
          cases hE : consumeEscapedChars g ((0x23 :: r).drop n) with
          | cont a =>
            rw [hE] at this
            obtain ⟨hne, y, hy, hxy⟩ := this
            rw [List.drop_drop] at hne hy
            cases hxy
            exact ⟨hne, y, hy, by simp [shiftTL, Nat.add_assoc]⟩
          | unterminated a => rw [hE] at this; cases this; rfl
          | stop a => rw [hE] at this; exact this
      | bad _ n hb =>
        obtain ⟨r', hl, -⟩ | ⟨r', hl, he⟩ := hb.scan
        · simp at hl
        · cases hl; simp only [consumeEscapedChars, he]
    · rw [consumeEscapedChars_nohash _ _ (fun r hr => hh ⟨r, hr⟩)]
      exact ⟨fun r hr => hh ⟨r, hr⟩, x, h, by simp [shiftTL]⟩

/-- **the grammar determines the result of the model's loop**, with any fuel above the length of the text: the `#` items
    by `esc_only`, then the item at a quote, or none -/
theorem tll_only (f : Nat) (l : Bytes) (x : Nat × TextLiteralKind) (hf : l.length < f) (h : TextItems l x) :
    textLiteralLoop f l = x := by
  induction f generalizing l x with
  | zero => omega
  | succ f ih =>
    have hE := esc_only (l.length + 1) l x (Nat.lt_succ_self _) h
    rw [textLiteralLoop]
    cases hc : consumeEscapedChars (l.length + 1) l with
    | unterminated n => rw [hc] at hE; exact hE.symm
    | stop n => rw [hc] at hE; exact hE.elim
    | cont n =>
      rw [hc] at hE
      obtain ⟨hne, y, hy, rfl⟩ := hE
      dsimp only
      cases hy with
      | done _ hd => rw [consumePascalStr_noquote _ (fun r hr => (hd _ _ hr).1 rfl)]; rfl
      | item _ m j k hi hr =>
        obtain ⟨r', hl, hp⟩ | ⟨r', hl, -⟩ := hi.scan
        · have hlen := List.length_pos_iff.2 hi.pos.2
          rw [hp]
          dsimp only
          rw [ih _ _ (by have := hi.pos.1; simp only [List.length_drop] at hlen ⊢; omega) hr]
          simp [shiftTL, Nat.add_assoc]
        · exact absurd hl (hne r')
      | bad _ m hb =>
        obtain ⟨r', hl, hp⟩ | ⟨r', hl, -⟩ := hb.scan
        · rw [hp]; rfl
        · exact absurd hl (hne r')

theorem tl_only (l : Bytes) (x : Nat × TextLiteralKind) (h : TextItems l x) : x = tl l :=
  (tll_only _ l x (Nat.lt_succ_self _) h).symm

/-- a text that starts with `'` or `#` starts with exactly one kind of item, good or bad -/
theorem item_total (b : UInt8) (r : Bytes) (hb : b = 0x27 ∨ b = 0x23) :
    (∃ n, TextItem (b :: r) n) ∨ (∃ n, BadTextItem (b :: r) n) := by
  rcases hb with rfl | rfl
  · obtain ⟨body, rest, rfl, hbody, hstop⟩ := span_spec isStrBody r
    cases rest with
    | nil => exact Or.inr ⟨_, .quotedOpen body [] hbody (Or.inl rfl)⟩
    | cons c t =>
      have hc : isStrBody c = false := hstop c t rfl
      by_cases hq : c = 0x27
      · subst hq; exact Or.inl ⟨_, .quoted body t hbody⟩
      · refine Or.inr ⟨_, .quotedOpen body (c :: t) hbody (Or.inr ⟨c, t, rfl, ?_⟩)⟩
        simp only [isStrBody, isStrBreak, Bool.not_eq_false', Bool.or_eq_true, beq_iff_eq] at hc
        rcases hc with (h | h) | h
        · exact absurd h hq
        · exact Or.inl h
        · exact Or.inr h
  · cases r with
    | nil => exact Or.inr ⟨_, .escNone [] (fun b t h => by simp at h)⟩
    | cons c t =>
      by_cases hd : isDecimalByte c = true
      · obtain ⟨ds, rest, rfl, hds, hstop⟩ := span_spec isDecimalByte t
        exact Or.inl ⟨_, .escDec c ds rest hd hds hstop⟩
      · by_cases h24 : c = 0x24
        · subst h24
          obtain ⟨hs, rest, rfl, hhs, hstop⟩ := span_spec isHexByte t
          cases hs with
          | nil => exact Or.inr ⟨_, .escHexNone _ (by simpa using hstop)⟩
          | cons h hs =>
            exact Or.inl ⟨_, .escHex h hs rest (hhs h (by simp)) (fun b hb => hhs b (by simp [hb])) hstop⟩
        · by_cases h25 : c = 0x25
          · subst h25
            obtain ⟨hs, rest, rfl, hhs, hstop⟩ := span_spec isBinaryByte t
            cases hs with
            | nil => exact Or.inr ⟨_, .escBinNone _ (by simpa using hstop)⟩
            | cons h hs =>
              exact Or.inl ⟨_, .escBin h hs rest (hhs h (by simp)) (fun b hb => hhs b (by simp [hb])) hstop⟩
          · refine Or.inr ⟨_, .escNone (c :: t) ?_⟩
            intro b t' h
            simp only [List.cons.injEq] at h
            rw [← h.1]
            exact ⟨(Bool.not_eq_true _).mp hd, h24, h25⟩

/-- every text has a reading by the grammar; so the model's loop satisfies it (`tl_sat`) -/
theorem TextItems.total (l : Bytes) : ∃ x, TextItems l x := by
  generalize hn : l.length = n
  induction n using Nat.strongRecOn generalizing l with
  | _ n ih =>
    by_cases hh : ∃ b r, l = b :: r ∧ (b = 0x27 ∨ b = 0x23)
    · obtain ⟨b, r, rfl, hb⟩ := hh
      rcases item_total b r hb with ⟨k, hk⟩ | ⟨k, hk⟩
      · have hpos := hk.pos.1
        obtain ⟨⟨m, kind⟩, hx⟩ := ih ((b :: r).drop k).length
          (by simp only [List.length_drop, List.length_cons] at hn ⊢; omega) ((b :: r).drop k) rfl
        exact ⟨_, .item _ k m kind hk hx⟩
      · exact ⟨_, .bad _ k hk⟩
    · exact ⟨_, .done l (fun b t hl => ⟨fun h => hh ⟨b, t, hl, Or.inl h⟩, fun h => hh ⟨b, t, hl, Or.inr h⟩⟩)⟩

theorem tl_sat (l : Bytes) : TextItems l (tl l) := by
  obtain ⟨x, h⟩ := TextItems.total l
  exact tl_only l x h ▸ h

/-! ### what follows from the grammar: the end of the literal, and that nothing behind its end is looked at

  Every item shape is "token ++ rest" with a condition on at most the first byte of `rest`; so the length bound, the
  `Ends` offset and locality are read off the shapes, and the loop itself is not opened again. -/

/-- an item ends in an ASCII byte, whatever is inside it: for a character code the last byte of a run of an ASCII class -/
theorem endsIn_run (pre : Bytes) {p : UInt8 → Bool} (hp : ∀ x, p x = true → x < 0x80) (c : UInt8) (w rest : Bytes)
    (hc : p c = true) (hw : AllBytes p w) : EndsIn (pre ++ c :: (w ++ rest)) (w.length + (pre.length + 1)) := by
  rw [show w.length + (pre.length + 1) = pre.length + w.length + 1 by omega]
  refine ⟨by simp only [List.length_append, List.length_cons]; omega,
    Ends.of_asciiAt (i := pre.length + w.length) ⟨(c :: w)[w.length], ?_, hp _ ?_⟩⟩
  · rw [List.getElem?_append_right (by omega), ← List.cons_append, List.getElem?_append_left (by simp)]
    simp
  · rcases List.mem_cons.1 (List.getElem_mem (l := c :: w) (n := w.length) (by simp)) with h | h
    · rw [h]; exact hc
    · exact hw _ h

theorem TextItem.endsIn {l : Bytes} {n : Nat} (h : TextItem l n) : EndsIn l n := by
  cases h with
  | quoted body rest hb =>
    exact ⟨by simp, Ends.of_asciiAt (i := body.length + 1) ⟨0x27, by simp, by decide⟩⟩
  | escDec d ds rest hd hds hs => exact endsIn_run [0x23] (fun _ => isDecimalByte_ascii) d ds rest hd hds
  | escHex c hs rest hh hhs hst => exact endsIn_run [0x23, 0x24] (fun _ => isHexByte_ascii) c hs rest hh hhs
  | escBin c hs rest hh hhs hst => exact endsIn_run [0x23, 0x25] (fun _ => isBinaryByte_ascii) c hs rest hh hhs

theorem BadTextItem.endsIn {l : Bytes} {n : Nat} (h : BadTextItem l n) : EndsIn l n ∧ 1 ≤ n := by
  have one : ∀ rest : Bytes, EndsIn (0x23 :: rest) 1 :=
    fun rest => (AsciiUpTo.cons (r := rest) (m := 0) (by decide) (.zero _)).endsIn
  have two : ∀ (c : UInt8) (rest : Bytes), c < 0x80 → EndsIn (0x23 :: c :: rest) 2 :=
    fun c rest hc => (AsciiUpTo.cons (r := c :: rest) (m := 1) (by decide) (AsciiUpTo.cons hc (.zero _))).endsIn
  cases h with
  | quotedOpen body rest hb hr =>
    refine ⟨⟨by simp, ?_⟩, by omega⟩
    rcases hr with rfl | ⟨c, t, rfl, hc⟩
    · exact Ends.of_ge (by simp)
    · exact Ends.of_ascii_here ⟨c, by simp, by rcases hc with rfl | rfl <;> decide⟩
  | escNone rest h => exact ⟨one rest, Nat.le_refl _⟩
  | escHexNone rest h => exact ⟨two _ rest (by decide), by omega⟩
  | escBinNone rest h => exact ⟨two _ rest (by decide), by omega⟩

theorem TextItems.endsIn {l : Bytes} {x : Nat × TextLiteralKind} (h : TextItems l x) : EndsIn l x.1 := by
  induction h with
  | done l h => exact ⟨Nat.zero_le _, Ends.zero l⟩
  | item l n m k hi hr ih => exact hi.endsIn.seq ih
  | bad l n hb => exact hb.endsIn.1

theorem TextItems.pos {b : UInt8} {r : Bytes} {x : Nat × TextLiteralKind} (h : TextItems (b :: r) x)
    (hb : b = 0x27 ∨ b = 0x23) : 1 ≤ x.1 := by
  cases h with
  | done _ h => exact absurd hb (by have := h b r rfl; rcases hb with rfl | rfl <;> simp_all)
  | item _ n m k hi hr => have := hi.pos.1; show 1 ≤ n + m; omega
  | bad _ n hb' => exact hb'.endsIn.2

theorem TextItems.not_multi {l : Bytes} {x : Nat × TextLiteralKind} (h : TextItems l x) : x.2 ≠ .tMultiLine := by
  induction h with
  | done => nofun
  | item _ _ _ _ _ _ ih => exact ih
  | bad => nofun

theorem TextItem.local {x s s' : Bytes} {n : Nat} (h : TextItem (x ++ s) n) (hn : n + 1 ≤ x.length) :
    TextItem (x ++ s') n := by
  generalize hl : x ++ s = l at h
  cases h with
  | quoted body rest hb =>
    obtain ⟨c, x', rfl, -⟩ := append_cut (a := 0x27 :: (body ++ [0x27])) (r := rest) (by simpa using hl) (by simp) hn
    simpa using TextItem.quoted body (c :: x' ++ s') hb
  | escDec d ds rest hd hds hs =>
    obtain ⟨c, x', rfl, rfl⟩ := append_cut (a := 0x23 :: d :: ds) hl (by simp only [List.length_cons]; omega) hn
    simpa using TextItem.escDec d ds (c :: (x' ++ s')) hd hds (fun b t hb => by cases hb; exact hs c _ rfl)
  | escHex h hs rest hh hhs hst =>
    obtain ⟨c, x', rfl, rfl⟩ := append_cut (a := 0x23 :: 0x24 :: h :: hs) hl (by simp only [List.length_cons]; omega) hn
    simpa using TextItem.escHex h hs (c :: (x' ++ s')) hh hhs (fun b t hb => by cases hb; exact hst c _ rfl)
  | escBin h hs rest hh hhs hst =>
    obtain ⟨c, x', rfl, rfl⟩ := append_cut (a := 0x23 :: 0x25 :: h :: hs) hl (by simp only [List.length_cons]; omega) hn
    simpa using TextItem.escBin h hs (c :: (x' ++ s')) hh hhs (fun b t hb => by cases hb; exact hst c _ rfl)

theorem BadTextItem.local {x s s' : Bytes} {n : Nat} (h : BadTextItem (x ++ s) n) (hn : n + 1 ≤ x.length) :
    BadTextItem (x ++ s') n := by
  generalize hl : x ++ s = l at h
  cases h with
  | quotedOpen body rest hb hr =>
    obtain ⟨c, x', rfl, rfl⟩ := append_cut (a := 0x27 :: body) hl (by simp) hn
    rcases hr with hr | ⟨c', t, hr, hc⟩
    · cases hr
    · cases hr
      simpa using BadTextItem.quotedOpen body (c :: (x' ++ s')) hb (Or.inr ⟨c, _, rfl, hc⟩)
  | escNone rest h =>
    obtain ⟨c, x', rfl, rfl⟩ := append_cut (a := [0x23]) hl (Nat.le_refl _) hn
    exact .escNone (c :: (x' ++ s')) (fun b t hb => by cases hb; exact h c _ rfl)
  | escHexNone rest h =>
    obtain ⟨c, x', rfl, rfl⟩ := append_cut (a := [0x23, 0x24]) hl (Nat.le_refl _) hn
    exact .escHexNone (c :: (x' ++ s')) (fun b t hb => by cases hb; exact h c _ rfl)
  | escBinNone rest h =>
    obtain ⟨c, x', rfl, rfl⟩ := append_cut (a := [0x23, 0x25]) hl (Nat.le_refl _) hn
    exact .escBinNone (c :: (x' ++ s')) (fun b t hb => by cases hb; exact h c _ rfl)

theorem TextItems.local {x s s' : Bytes} {a : Nat × TextLiteralKind} (h : TextItems (x ++ s) a)
    (hn : a.1 + 1 ≤ x.length) : TextItems (x ++ s') a := by
  generalize hl : x ++ s = l at h
  induction h generalizing x with
  | done l h =>
    subst hl
    cases x with
    | nil => simp at hn
    | cons c x' => exact .done _ (fun b t hb => by cases hb; exact h c _ rfl)
  | item l n m k hi hr ih =>
    subst hl
    have hle : n ≤ x.length := by simp only at hn; omega
    have hd : ∀ t : Bytes, (x ++ t).drop n = x.drop n ++ t := fun t => List.drop_append_of_le_length hle
    refine .item _ n m k (hi.local (by simp only at hn; omega)) ?_
    rw [hd s']
    exact ih (by simp only [List.length_drop] at hn ⊢; omega) (hd s).symm
  | bad l n hb => subst hl; exact .bad _ n (hb.local hn)

/-! ### the whole `text_literal`, including multi-line literals -/

/-- number of quotes at the start of the text -/
def quoteCount (l : Bytes) : Nat := countWhile (· == 0x27) l

theorem quoteCount_eq (l : Bytes) : quoteCount l = (l.takeWhile (· == 0x27)).length :=
  countWhile_eq_takeWhile _ l

/-- the text opens a multi-line literal: an odd number (at least three) of quotes directly
    followed by CR or LF -/
def MultilineOpen (l : Bytes) : Prop :=
  3 ≤ quoteCount l ∧ quoteCount l % 2 = 1 ∧
    ∃ c t, l.drop (quoteCount l) = c :: t ∧ (c = 0x0D ∨ c = 0x0A)

/-- declarative result `(length, kind)` of `text_literal` on a text that starts with `'` or `#` -/
inductive TextLiteralSpec (l : Bytes) : Nat × TextLiteralKind → Prop
  /-- multi-line literal: ends right after the first later occurrence of a run of as many quotes
      as opened it (plain substring search) -/
  | multiline (i : Nat) (ho : MultilineOpen l)
      (h : FirstOcc (List.replicate (quoteCount l) 0x27) (l.drop (quoteCount l)) i) :
      TextLiteralSpec l (quoteCount l + i + quoteCount l, .tMultiLine)
  /-- multi-line literal without such a run: the whole rest of the text, unterminated -/
  | multilineOpen (ho : MultilineOpen l)
      (h : ∀ j, ¬ OccursAt (List.replicate (quoteCount l) 0x27) (l.drop (quoteCount l)) j) :
      TextLiteralSpec l (l.length, .tUnterminated)
  /-- otherwise a sequence of quoted segments and character codes on one line -/
  | singleLine (hn : ¬ MultilineOpen l) (x : Nat × TextLiteralKind) (h : TextItems l x) : TextLiteralSpec l x

theorem textLiteral_unfold (l : Bytes) : textLiteral l =
    if (decide (quoteCount l ≥ 3) && quoteCount l % 2 == 1 &&
        (match l.drop (quoteCount l) with | b :: _ => b == 0x0D || b == 0x0A | [] => false)) = true then
      match findSub (l.take (quoteCount l)) (l.drop (quoteCount l)) with
      | some pos => (quoteCount l + pos + quoteCount l, .tMultiLine)
      | none => (l.length, .tUnterminated)
    else tl l := rfl

theorem mlCond_iff (l : Bytes) :
    (decide (quoteCount l ≥ 3) && quoteCount l % 2 == 1 &&
        (match l.drop (quoteCount l) with | b :: _ => b == 0x0D || b == 0x0A | [] => false)) = true ↔
      MultilineOpen l := by
  unfold MultilineOpen
  cases l.drop (quoteCount l) <;> simp [and_assoc]

theorem take_quoteCount (l : Bytes) : l.take (quoteCount l) = List.replicate (quoteCount l) 0x27 := by
  rw [List.eq_replicate_iff]
  refine ⟨by simp [List.length_take, quoteCount, countWhile_le], ?_⟩
  intro b hb
  have := (countWhile_longest (· == 0x27) l).mem b hb
  simpa using this

theorem MultilineOpen.pat_ne_nil {l : Bytes} (ho : MultilineOpen l) :
    List.replicate (quoteCount l) (0x27 : UInt8) ≠ [] := by
  have := ho.1
  intro h; have := congrArg List.length h; simp at this; omega

theorem textLiteral_multi {l : Bytes} (ho : MultilineOpen l) : textLiteral l =
    match findSub (List.replicate (quoteCount l) 0x27) (l.drop (quoteCount l)) with
    | some pos => (quoteCount l + pos + quoteCount l, .tMultiLine)
    | none => (l.length, .tUnterminated) := by
  rw [textLiteral_unfold, if_pos ((mlCond_iff l).2 ho), take_quoteCount]

theorem textLiteral_single {l : Bytes} (hn : ¬ MultilineOpen l) : textLiteral l = tl l := by
  rw [textLiteral_unfold, if_neg (fun h => hn ((mlCond_iff l).1 h))]

theorem textLiteral_sat (l : Bytes) : TextLiteralSpec l (textLiteral l) := by
  by_cases ho : MultilineOpen l
  · rw [textLiteral_multi ho]
    cases hf : findSub (List.replicate (quoteCount l) 0x27) (l.drop (quoteCount l)) with
    | some pos => exact .multiline pos ho ((findSub_some_iff _ _ ho.pat_ne_nil pos).1 hf)
    | none => exact .multilineOpen ho ((findSub_none_iff _ _ ho.pat_ne_nil).1 hf)
  · rw [textLiteral_single ho]
    exact .singleLine ho _ (tl_sat l)

theorem textLiteral_only (l : Bytes) (x : Nat × TextLiteralKind) (h : TextLiteralSpec l x) : x = textLiteral l := by
  cases h with
  | multiline i ho h => rw [textLiteral_multi ho, (findSub_some_iff _ _ ho.pat_ne_nil i).2 h]
  | multilineOpen ho h => rw [textLiteral_multi ho, (findSub_none_iff _ _ ho.pat_ne_nil).2 h]
  | singleLine hn x h => rw [textLiteral_single hn]; exact tl_only l x h

theorem TextLiteralSpec.endsIn {l : Bytes} {x : Nat × TextLiteralKind} (h : TextLiteralSpec l x) : EndsIn l x.1 := by
  cases h with
  | multiline i ho h =>
    -- the last byte of the token is the last quote of the closing run
    have hle := h.occurs.length_le
    have h3 := ho.1
    simp only [List.length_replicate, List.length_drop] at hle
    have hb := isPrefix_getElem? h.occurs (quoteCount l - 1) (by simp only [List.length_replicate]; omega)
    rw [List.getElem?_replicate, if_pos (by omega), List.getElem?_drop, List.getElem?_drop] at hb
    refine ⟨by omega, ?_⟩
    rw [show quoteCount l + i + quoteCount l = quoteCount l + (i + (quoteCount l - 1)) + 1 by omega]
    exact Ends.of_asciiAt ⟨0x27, hb, by decide⟩
  | multilineOpen ho h => exact ⟨Nat.le_refl _, Ends.of_ge (Nat.le_refl _)⟩
  | singleLine hn x h => exact h.endsIn

theorem textLiteral_endsIn (l : Bytes) : EndsIn l (textLiteral l).1 := (textLiteral_sat l).endsIn

theorem textLiteral_pos (b : UInt8) (r : Bytes) (hb : b = 0x27 ∨ b = 0x23) : 1 ≤ (textLiteral (b :: r)).1 := by
  generalize hx : textLiteral (b :: r) = x
  have h := hx ▸ textLiteral_sat (b :: r)
  cases h with
  | multiline i ho _ => have := ho.1; show 1 ≤ _ + _ + _; omega
  | multilineOpen _ _ => exact Nat.le_add_left 1 _
  | singleLine _ _ h => exact h.pos hb

/-- a run of quotes is consumed entirely by the single-line loop (in pairs, the last one opens a part) -/
theorem tl_quoteRun : ∀ (x s : Bytes), (∀ b ∈ x, b = 0x27) → x.length ≤ (tl (x ++ s)).1
  | [], _, _ => by simp
  | [q], s, hq => by
    rw [hq q (by simp)]
    exact (tl_sat (0x27 :: s)).pos (Or.inl rfl)
  | q1 :: q2 :: x, s, hq => by
    rw [hq q1 (by simp), hq q2 (by simp)]
    have := tl_quoteRun x s (fun b hb => hq b (by simp [hb]))
    show _ ≤ (tl (0x27 :: ([] ++ 0x27 :: (x ++ s)))).1
    rw [← tl_only _ _ (.item _ _ (tl (x ++ s)).1 (tl (x ++ s)).2 (.quoted [] (x ++ s) (fun _ h => nomatch h)) (tl_sat _))]
    simp only [List.length_cons, List.length_nil]
    omega

theorem MultilineOpen.local {x s s' : Bytes} (hq : quoteCount (x ++ s) < x.length) (h : MultilineOpen (x ++ s)) :
    MultilineOpen (x ++ s') := by
  have hqc : quoteCount (x ++ s') = quoteCount (x ++ s) := countWhile_pd _ x s s' hq
  unfold MultilineOpen at h ⊢
  rw [hqc]
  rw [List.drop_append_of_le_length (by omega)] at h ⊢
  obtain ⟨h3, hodd, c, t, hd, hc⟩ := h
  cases hx : x.drop (quoteCount (x ++ s)) with
  | nil => have := congrArg List.length hx; simp only [List.length_drop, List.length_nil] at this; omega
  | cons a y => rw [hx] at hd; cases hd; exact ⟨h3, hodd, _, _, rfl, hc⟩

theorem TextLiteralSpec.local {x s s' : Bytes} {a : Nat × TextLiteralKind} (h : TextLiteralSpec (x ++ s) a)
    (hn : a.1 + 2 ≤ x.length) : TextLiteralSpec (x ++ s') a := by
  have hqc : ∀ {t t' : Bytes}, quoteCount (x ++ t) < x.length → quoteCount (x ++ t') = quoteCount (x ++ t) :=
    fun hq => countWhile_pd _ x _ _ hq
  cases h with
  | multiline i ho h =>
    have hq : quoteCount (x ++ s) < x.length := by simp only at hn; omega
    rw [List.drop_append_of_le_length (by omega)] at h
    have := TextLiteralSpec.multiline (l := x ++ s') i (ho.local hq) (by
      rw [hqc hq, List.drop_append_of_le_length (by omega)]
      exact h.local (by simp only [List.length_replicate, List.length_drop] at hn ⊢; omega))
    rwa [hqc hq] at this
  | multilineOpen ho h => simp only [List.length_append] at hn; omega
  | singleLine hno a h =>
    refine .singleLine (fun ho' => ?_) a (h.local (by omega))
    by_cases hq : quoteCount (x ++ s') < x.length
    · exact hno (ho'.local hq)
    · -- `x` consists of quotes only, and the single-line loop consumes them all
      have hall := countWhile_ge_all _ x s' (Nat.le_of_not_lt hq)
      have := tl_quoteRun x s (fun b hb => by simpa using hall b hb)
      rw [← tl_only _ _ h] at this
      omega

theorem textLiteral_pd : PrefixDet 2 Prod.fst textLiteral :=
  fun x s _ h => (textLiteral_only _ _ ((textLiteral_sat (x ++ s)).local h)).symm

end Pasfmt
