/-
  `offset_for_token` against the reconstructor: `ws_len` is the length of the gap the reconstructor writes, the
  safety-net newline not counted, so without that newline the function gives the true offset of a token's text; with
  it the offset still lies inside the output.
-/
import PasfmtModel.Model.Cursor
import PasfmtModel.Proofs.ReconProps

namespace Pasfmt

theorem gapOf_length_eq (S : Settings) (t : FTok) (mb : Bool) :
    (gapOf S t mb).length = wsLen S t + (if noNetHere mb t then 0 else S.nlStr.length) := by
  have hb : (gapBody S t).length = wsLen S t := by
    unfold wsLen gapBody nonbreakingWsLen blanksOf
    split
    · rfl
    · simp only [List.length_append, replicateBytes_length, List.length_replicate]; omega
  rw [gapOf_eq, List.length_append, hb, Nat.add_comm]
  split <;> rfl

theorem gapOf_length (S : Settings) (t : FTok) (mb : Bool) (h : noNetHere mb t = true) :
    (gapOf S t mb).length = wsLen S t := by
  rw [gapOf_length_eq, h]; rfl

theorem gapOf_length_ge (S : Settings) (t : FTok) (mb : Bool) : wsLen S t ≤ (gapOf S t mb).length := by
  rw [gapOf_length_eq]; omega

/-- `A` is the rendering of `ft.take k`, `mb'` its `mbAfter` -/
theorem reconGo_split (S : Settings) (ft : FT) (mb : Bool) (k : Nat) (t : FTok)
    (hk : ft[k]? = some t) (hsn : noSafetyNetGo mb ft = true) :
    ∃ A mb', reconGo S mb ft =
        A ++ (gapOf S t mb' ++ (t.tok.content ++ reconGo S (isSingleLineComment t.tok.kind) (ft.drop (k + 1)))) ∧
      A.length + wsLen S t = offsetForToken S ft k ∧ (gapOf S t mb').length = wsLen S t := by
  fun_induction offsetForToken S ft k generalizing mb with
  | case1 => simp at hk
  | case2 x r =>
    rw [noSafetyNetGo_cons, Bool.and_eq_true] at hsn
    cases hk
    exact ⟨[], mb, by rw [reconGo]; simp [List.append_assoc], by simp, gapOf_length S t mb hsn.1⟩
  | case3 x r j ih =>
    rw [noSafetyNetGo_cons, Bool.and_eq_true] at hsn
    obtain ⟨A, mb', hAB, hA, hg⟩ := ih _ (by simpa using hk) hsn.2
    refine ⟨gapOf S x mb ++ x.tok.content ++ A, mb', by rw [reconGo, hAB]; simp [List.append_assoc], ?_, hg⟩
    simp only [List.length_append]
    rw [gapOf_length S x mb hsn.1]; omega

/-- `offset_for_token` is the true offset of the token's text in the reconstructed output,
    whenever no safety-net newline was inserted (the function does not count it) -/
theorem offset_for_token_spec (S : Settings) (ft : FT) (mb : Bool) (k : Nat) (t : FTok)
    (hk : ft[k]? = some t) (hsn : noSafetyNetGo mb ft = true) :
    ∃ A B, reconGo S mb ft = A ++ t.tok.content ++ B ∧ A.length = offsetForToken S ft k := by
  obtain ⟨A, mb', hAB, hA, hg⟩ := reconGo_split S ft mb k t hk hsn
  exact ⟨A ++ gapOf S t mb', reconGo S (isSingleLineComment t.tok.kind) (ft.drop (k + 1)),
    by rw [hAB]; simp [List.append_assoc], by rw [List.length_append, hg, hA]⟩

theorem offset_le_length (S : Settings) (ft : FT) (mb : Bool) (k : Nat) :
    offsetForToken S ft k + ((ft[k]?).map (·.tok.content.length)).getD 0 ≤ (reconGo S mb ft).length := by
  fun_induction offsetForToken S ft k generalizing mb with
  | case1 => simp
  | case2 x r => have hg := gapOf_length_ge S x mb; rw [reconGo]; simp; omega
  | case3 x r j ih => have hg := gapOf_length_ge S x mb; have := ih (isSingleLineComment x.tok.kind); rw [reconGo]; simp; omega

theorem offset_add_content_le (S : Settings) (ft : FT) (mb : Bool) (k : Nat) (t : FTok) (hk : ft[k]? = some t) :
    offsetForToken S ft k + t.tok.content.length ≤ (reconGo S mb ft).length := by
  have := offset_le_length S ft mb k
  rw [hk] at this; exact this

theorem reconGo_length (S : Settings) (ft : FT) (mb : Bool) (hsn : noSafetyNetGo mb ft = true) :
    (reconGo S mb ft).length = offsetForToken S ft ft.length := by
  induction ft generalizing mb with
  | nil => rfl
  | cons x r ih =>
    rw [noSafetyNetGo_cons, Bool.and_eq_true] at hsn
    rw [reconGo, List.length_cons, offsetForToken, List.length_append, List.length_append,
        gapOf_length S x mb hsn.1, ih _ hsn.2]

end Pasfmt
