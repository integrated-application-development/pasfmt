/-
  C08 at the byte level: the clauses of the property as theorems about the bytes of
  `reconstruct S ft`, for every token list `ft` that satisfies the decidable predicate `CanonState S ft`.

  "The lines of the output" are defined declaratively: `IsLines nl out Ls` says that `out` is
  `L₀ ++ nl ++ L₁ ++ nl ++ … ++ Lₙ` for the non-empty list `Ls = [L₀, …, Lₙ]` of byte strings none of which contains
  the byte LF.  When `nl` is LF or CR LF, `List.splitOn LF` computes `Ls` from `out` (`splitOn_joined`: the pieces are the
  lines, all but the last with the terminator's CR), so such a list exists for at most one `Ls` (`isLines_unique`) and
  the clauses stated for "every `Ls` with `IsLines …`" speak about *the* lines of the output; the clauses about the bytes
  (no three terminators in a row, no terminator at the start) are read off the pieces.
-/
import PasfmtModel.Proofs.Settings
import PasfmtModel.Model.BytesCheck

namespace Pasfmt

theorem endsBlank_nil : endsBlank [] = false := rfl

theorem endsBlank_append_of_ne (a b : Bytes) (hb : b ≠ []) : endsBlank (a ++ b) = endsBlank b := by
  unfold endsBlank
  rw [List.getLast?_append]
  cases h : b.getLast? with
  | none => rw [List.getLast?_eq_none_iff] at h; exact absurd h hb
  | some x => rfl

theorem endsBlank_append_nil (a : Bytes) : endsBlank (a ++ []) = endsBlank a := by rw [List.append_nil]

theorem containsByte_nil (x : UInt8) : containsByte x [] = false := rfl

/-- `nl ++ L₁ ++ nl ++ L₂ ++ …` -/
def joinTail (nl : Bytes) (Ls : List Bytes) : Bytes := Ls.flatMap (fun L => nl ++ L)

/-- `L₀ ++ nl ++ L₁ ++ … ++ nl ++ Lₙ` -/
def joinLines (nl : Bytes) : List Bytes → Bytes
  | [] => []
  | L :: Ls => L ++ joinTail nl Ls

/-- `Ls` is the list of lines of `out` for the line terminator `nl`: `out` is the members of `Ls` joined by `nl`,
    and no member contains the byte LF (so every LF of `out` is the end of a terminator) -/
def IsLines (nl out : Bytes) (Ls : List Bytes) : Prop :=
  Ls ≠ [] ∧ out = joinLines nl Ls ∧ ∀ L ∈ Ls, containsByte 0x0A L = false

/-- the terminator is `p ++ [LF]` with `p` free of LF (LF itself, or CR LF) -/
def NlOk (nl : Bytes) : Prop := ∃ p, nl = p ++ [0x0A] ∧ containsByte 0x0A p = false

theorem joinTail_nil (nl : Bytes) : joinTail nl [] = [] := rfl

theorem joinTail_cons (nl L : Bytes) (Ls : List Bytes) : joinTail nl (L :: Ls) = nl ++ L ++ joinTail nl Ls := by
  unfold joinTail; simp

theorem joinTail_append (nl : Bytes) (A B : List Bytes) : joinTail nl (A ++ B) = joinTail nl A ++ joinTail nl B := by
  unfold joinTail; simp

theorem joinTail_replicate_nil (nl : Bytes) (k : Nat) : joinTail nl (List.replicate k []) = replicateBytes k nl := by
  induction k with
  | zero => rfl
  | succ k ih =>
    rw [List.replicate_succ, joinTail_cons, ih]
    unfold replicateBytes
    rw [List.replicate_succ, List.flatten_cons, List.append_nil]

/-- what `splitOn LF` makes of lines joined by `p ++ [LF]`: every line but the last keeps the `p` of its terminator -/
def segs (p : Bytes) (L0 : Bytes) : List Bytes → List Bytes
  | [] => [L0]
  | L1 :: R => (L0 ++ p) :: segs p L1 R

theorem segs_ne_nil (p L0 : Bytes) (Ls : List Bytes) : segs p L0 Ls ≠ [] := by cases Ls <;> simp [segs]

/-- **the lines of a joined text are computed by `splitOn`** -/
theorem splitOn_joined {p : Bytes} (hp : containsByte 0x0A p = false) (L0 : Bytes) (Ls : List Bytes)
    (hL : ∀ L ∈ L0 :: Ls, containsByte 0x0A L = false) :
    (L0 ++ joinTail (p ++ [0x0A]) Ls).splitOn 0x0A = segs p L0 Ls := by
  induction Ls generalizing L0 with
  | nil => rw [joinTail_nil, List.append_nil]; exact List.splitOn_eq_singleton (not_mem_of_containsByte (hL L0 (by simp)))
  | cons L1 R ih =>
    have e : L0 ++ joinTail (p ++ [0x0A]) (L1 :: R) = (L0 ++ p) ++ 0x0A :: (L1 ++ joinTail (p ++ [0x0A]) R) := by
      rw [joinTail_cons]; simp [List.append_assoc]
    rw [e, List.splitOn_append_cons_self_of_not_mem
      (by simp [not_mem_of_containsByte (hL L0 (by simp)), not_mem_of_containsByte hp]),
      ih L1 fun L h => hL L (List.mem_cons_of_mem _ h)]
    rfl

theorem segs_inj {p L0 L0' : Bytes} {Ls Ls' : List Bytes} (h : segs p L0 Ls = segs p L0' Ls') : L0 = L0' ∧ Ls = Ls' := by
  induction Ls generalizing L0 L0' Ls' with
  | nil =>
    cases Ls' with
    | nil => simpa [segs] using h
    | cons _ _ => simp [segs, segs_ne_nil] at h
  | cons L1 R ih =>
    cases Ls' with
    | nil => simp [segs, segs_ne_nil] at h
    | cons L1' R' =>
      simp only [segs, List.cons.injEq, List.append_cancel_right_eq] at h
      obtain ⟨rfl, rfl⟩ := ih h.2
      exact ⟨h.1, rfl⟩

theorem isLines_unique (nl out : Bytes) (hnl : NlOk nl) (Ls Ls' : List Bytes)
    (h : IsLines nl out Ls) (h' : IsLines nl out Ls') : Ls = Ls' := by
  obtain ⟨p, rfl, hp⟩ := hnl
  obtain ⟨hne, rfl, hfree⟩ := h
  obtain ⟨hne', hout', hfree'⟩ := h'
  obtain ⟨L0, R, rfl⟩ := List.exists_cons_of_ne_nil hne
  obtain ⟨L0', R', rfl⟩ := List.exists_cons_of_ne_nil hne'
  have := congrArg (List.splitOn 0x0A) hout'
  rw [joinLines, joinLines, splitOn_joined hp _ _ hfree, splitOn_joined hp _ _ hfree'] at this
  obtain ⟨rfl, rfl⟩ := segs_inj this
  rfl

structure TokCanon (t : FTok) : Prop where
  notIgnored : t.fmt.ignored = false
  canon : canonFmtB t.fmt = true
  noLf : containsByte 0x0A t.tok.content = false
  noStartBlank : startsBlank t.tok.content = false
  noEndBlank : endsBlank t.tok.content = false
  emptyBare : t.tok.content = [] → t.fmt.sp = 0 ∧ t.fmt.ind = 0 ∧ t.fmt.cont = 0

theorem tokOk_of_b (t : FTok) (h : tokOkB t = true) : TokCanon t := by
  unfold tokOkB at h
  simp only [Bool.and_eq_true, Bool.not_eq_true', Bool.or_eq_true, beq_iff_eq, List.isEmpty_eq_false_iff] at h
  obtain ⟨⟨⟨⟨⟨h1, h2⟩, h3⟩, h4⟩, h5⟩, h6⟩ := h
  refine ⟨h1, h2, h3, h4, h5, fun he => ?_⟩
  rcases h6 with h6 | h6
  · exact absurd he h6
  · exact ⟨h6.1.1, h6.1.2, h6.2⟩

theorem settingsOkB_form (S : Settings) (h : settingsOkB S = true) : SettingsForm S := by
  unfold settingsOkB at h
  simp only [Bool.and_eq_true, Bool.or_eq_true, beq_iff_eq, List.all_eq_true] at h
  have hb : ∀ l : Bytes, (∀ b ∈ l, isBlank b = true) → TabsSpaces l :=
    fun l hl b hb => by simpa [isBlank, or_comm] using hl b hb
  exact ⟨h.1.1, hb _ h.1.2, hb _ h.2⟩

theorem settingsOk_nl (S : Settings) (h : settingsOkB S = true) : NlOk S.nlStr := (settingsOkB_form S h).nl_split

theorem settingsOk_config (c : Config) : settingsOkB c.settings = true := by
  unfold settingsOkB Config.settings
  cases c.crlf <;> cases c.useTabs <;> simp [isBlank]

theorem canonFmtB_iff (f : FmtData) : canonFmtB f = true ↔
    f.nl ≤ 2 ∧ (f.nl = 0 ∨ f.sp = 0) ∧ (f.nl ≠ 0 ∨ (f.ind = 0 ∧ f.cont = 0 ∧ f.sp ≤ 1)) := by
  unfold canonFmtB
  simp only [Bool.and_eq_true, Bool.or_eq_true, decide_eq_true_eq, beq_iff_eq, bne_iff_ne, ne_eq, and_assoc]

theorem nonEmptyButLast_cons (t : FTok) (r : FT) :
    nonEmptyButLast (t :: r) = true ↔ (r = [] ∨ t.tok.content ≠ []) ∧ nonEmptyButLast r = true := by
  rw [nonEmptyButLast, Bool.and_eq_true]
  simp only [Bool.or_eq_true, List.isEmpty_iff, Bool.not_eq_true', List.isEmpty_eq_false_iff]

theorem last_of_empty (t : FTok) (r : FT) (hne : nonEmptyButLast (t :: r) = true) (hc : t.tok.content = []) :
    r = [] :=
  ((nonEmptyButLast_cons t r).1 hne).1.resolve_right (fun h => h hc)

theorem firstOkB_cons (t : FTok) (r : FT) : firstOkB (t :: r) = true ↔ t.fmt.nl = 0 ∧ t.fmt.sp = 0 := by
  rw [firstOkB, Bool.and_eq_true, beq_iff_eq, beq_iff_eq]

def segStateB (S : Settings) (seg : FT) : Bool :=
  settingsOkB S && seg.all tokOkB && nonEmptyButLast seg

/-- `CanonState` without the condition on the first token: the hypotheses for a run of tokens that stands anywhere
    in a token list (for instance between two regions kept verbatim) -/
def SegState (S : Settings) (seg : FT) : Prop := segStateB S seg = true

instance (S : Settings) (seg : FT) : Decidable (SegState S seg) := inferInstanceAs (Decidable (_ = true))

structure SegParts (S : Settings) (seg : FT) : Prop where
  settings : settingsOkB S = true
  toks : ∀ t ∈ seg, TokCanon t
  nonEmpty : nonEmptyButLast seg = true

theorem segState_parts (S : Settings) (seg : FT) (h : SegState S seg) : SegParts S seg := by
  unfold SegState segStateB at h
  simp only [Bool.and_eq_true, List.all_eq_true] at h
  exact ⟨h.1.1, fun t ht => tokOk_of_b t (h.1.2 t ht), h.2⟩

/-- **The hypotheses of the byte-level clauses, one decidable predicate.**  It excludes: token lists with a token
    kept verbatim (`ignored`); non-canonical counters; a line break or a space before the first token; multi-line
    tokens (a text containing LF); a text that starts or ends with a space or a tab (finding F5: a comment ending in
    an exotic blank is not excluded - only 0x20 and 0x09 are blanks here); an empty text anywhere but in the last
    token, or an empty last text with spaces or indentation before it; settings whose terminator is not LF / CR LF
    or whose indentation strings contain anything but spaces and tabs. -/
def CanonState (S : Settings) (ft : FT) : Prop := canonStateB S ft = true

instance (S : Settings) (ft : FT) : Decidable (CanonState S ft) := inferInstanceAs (Decidable (_ = true))

structure CanonParts (S : Settings) (ft : FT) : Prop where
  settings : settingsOkB S = true
  toks : ∀ t ∈ ft, TokCanon t
  nonEmpty : nonEmptyButLast ft = true
  first : firstOkB ft = true

theorem canonState_seg (S : Settings) (ft : FT) (h : CanonState S ft) : SegState S ft :=
  (Bool.and_eq_true_iff.1 h).1

theorem canonState_first (S : Settings) (ft : FT) (h : CanonState S ft) : firstOkB ft = true :=
  (Bool.and_eq_true_iff.1 h).2

theorem canonState_parts (S : Settings) (ft : FT) (h : CanonState S ft) : CanonParts S ft :=
  have hp := segState_parts S ft (canonState_seg S ft h)
  ⟨hp.settings, hp.toks, hp.nonEmpty, canonState_first S ft h⟩

/-- (what the tokens add to the line that is open when they start, the lines after it) -/
def linesGo (S : Settings) : Bool → FT → Bytes × List Bytes
  | _, [] => ([], [])
  | mb, t :: r =>
    let p := linesGo S (isSingleLineComment t.tok.kind) r
    let cur := blanksOf S t ++ t.tok.content ++ p.1
    match effNl mb t with
    | 0 => (cur, p.2)
    | k + 1 => ([], List.replicate k [] ++ cur :: p.2)

/-- the lines of the bytes emitted for the run `seg` (started in state `mb`): the first member is what the run adds
    to the line that is open when it starts -/
def segLines (S : Settings) (mb : Bool) (seg : FT) : List Bytes := (linesGo S mb seg).1 :: (linesGo S mb seg).2

/-- the lines of `reconstruct S ft` when no token is kept verbatim (`seg_lines` with `false`) -/
def outLines (S : Settings) (ft : FT) : List Bytes := (linesGo S false ft).1 :: (linesGo S false ft).2

theorem linesGo_nil (S : Settings) (mb : Bool) : linesGo S mb [] = ([], []) := by rw [linesGo]

theorem reconGo_lines (S : Settings) (mb : Bool) (ft : FT) (hi : ∀ t ∈ ft, t.fmt.ignored = false) :
    reconGo S mb ft = (linesGo S mb ft).1 ++ joinTail S.nlStr (linesGo S mb ft).2 := by
  fun_induction linesGo S mb ft with
  | case1 => rfl
  | case2 mb t r p cur hk ih =>
    rw [reconGo, gapOf_notIgnored S t mb (hi t (by simp)), ih (fun x hx => hi x (by simp [hx])), hk]
    simp [cur, p, replicateBytes, List.append_assoc]
  | case3 mb t r p cur k hk ih =>
    rw [reconGo, gapOf_notIgnored S t mb (hi t (by simp)), ih (fun x hx => hi x (by simp [hx])), hk,
      joinTail_append, joinTail_replicate_nil, joinTail_cons, replicateBytes_succ']
    simp [cur, p, List.append_assoc]

theorem segLines_all (P : Bytes → Prop) (h0 : P []) (S : Settings) (mb : Bool) (ft : FT)
    (hstep : ∀ t ∈ ft, ∀ L, P L → P (blanksOf S t ++ t.tok.content ++ L)) :
    ∀ L ∈ segLines S mb ft, P L := by
  unfold segLines
  fun_induction linesGo S mb ft with
  | case1 => intro L hL; rw [List.mem_singleton.1 hL]; exact h0
  | case2 mb t r p cur hk ih =>
    have ihr := ih fun x hx => hstep x (by simp [hx])
    intro L hL
    rcases List.mem_cons.1 hL with rfl | hL
    · exact hstep t (by simp) _ (ihr _ (List.mem_cons_self ..))
    · exact ihr L (List.mem_cons_of_mem _ hL)
  | case3 mb t r p cur k hk ih =>
    have ihr := ih fun x hx => hstep x (by simp [hx])
    intro L hL
    simp only [List.mem_cons, List.mem_append] at hL
    rcases hL with rfl | hL | rfl | hL
    · exact h0
    · rw [List.eq_of_mem_replicate hL]; exact h0
    · exact hstep t (by simp) _ (ihr _ (List.mem_cons_self ..))
    · exact ihr L (List.mem_cons_of_mem _ hL)

theorem seg_lines (S : Settings) (mb : Bool) (seg : FT) (h : SegState S seg) :
    IsLines S.nlStr (reconGo S mb seg) (segLines S mb seg) := by
  have hp := segState_parts S seg h
  refine ⟨by simp [segLines], reconGo_lines S mb seg (fun t ht => (hp.toks t ht).notIgnored), ?_⟩
  have hb := (settingsOkB_form S hp.settings).noBreak 0x0A (Or.inl rfl)
  refine segLines_all (fun L => containsByte 0x0A L = false) rfl S mb seg (fun t ht L hL => ?_)
  rw [containsByte_append, containsByte_append, blanksOf_noByte S 0x0A (by decide) hb.1 hb.2, (hp.toks t ht).noLf, hL]
  rfl

theorem lines_eq_segLines (S : Settings) (mb : Bool) (seg : FT) (h : SegState S seg) (Ls : List Bytes)
    (hL : IsLines S.nlStr (reconGo S mb seg) Ls) : Ls = segLines S mb seg :=
  isLines_unique _ _ (settingsOk_nl S (segState_parts S seg h).settings) _ _ hL (seg_lines S mb seg h)

/-! ### clause 1: no line ends in a blank -/

theorem blanksOf_bare (S : Settings) (t : FTok) (h : t.fmt.sp = 0 ∧ t.fmt.ind = 0 ∧ t.fmt.cont = 0) :
    blanksOf S t = [] := by
  unfold blanksOf; rw [h.1, h.2.1, h.2.2]; rfl

theorem cur_endsBlank (S : Settings) (t : FTok) (ht : TokCanon t) (L : Bytes) (hL : endsBlank L = false) :
    endsBlank (blanksOf S t ++ t.tok.content ++ L) = false := by
  by_cases hL0 : L = []
  · subst hL0
    rw [List.append_nil]
    by_cases hc : t.tok.content = []
    · rw [hc, List.append_nil, blanksOf_bare S t (ht.emptyBare hc)]; rfl
    · rw [endsBlank_append_of_ne _ _ hc]; exact ht.noEndBlank
  · rw [endsBlank_append_of_ne _ _ hL0]; exact hL

theorem seg_no_trailing_blank (S : Settings) (mb : Bool) (seg : FT) (h : SegState S seg) (Ls : List Bytes)
    (hL : IsLines S.nlStr (reconGo S mb seg) Ls) : ∀ L ∈ Ls, endsBlank L = false := by
  rw [lines_eq_segLines S mb seg h Ls hL]
  exact segLines_all (fun L => endsBlank L = false) rfl S mb seg
    (fun t ht => cur_endsBlank S t ((segState_parts S seg h).toks t ht))

/-! ### clause 3: no two consecutive blank lines, no blank line at the start -/

/-- among the lines after the first there are two consecutive empty ones that are followed by a further line
    (= three consecutive terminators) -/
def dblBlank : List Bytes → Bool
  | a :: b :: c :: r => (a.isEmpty && b.isEmpty) || dblBlank (b :: c :: r)
  | _ => false

theorem dblBlank_cons_of (a : Bytes) (r : List Bytes) (h : dblBlank r = true) : dblBlank (a :: r) = true := by
  match r, h with
  | b :: c :: r', h => rw [dblBlank, h, Bool.or_true]

theorem dblBlank_cons_ne (a : Bytes) (r : List Bytes) (ha : a ≠ []) (h : dblBlank r = false) :
    dblBlank (a :: r) = false := by
  match r, h with
  | [], _ => rfl
  | [_], _ => rfl
  | b :: c :: r', h =>
    rw [dblBlank, h, Bool.or_false]
    have : a.isEmpty = false := by simpa using ha
    rw [this]; rfl

theorem dblBlank_nil_cons_ne (a : Bytes) (r : List Bytes) (ha : a ≠ []) (h : dblBlank r = false) :
    dblBlank ([] :: a :: r) = false := by
  match r, h with
  | [], _ => rfl
  | c :: r', h =>
    have h2 := dblBlank_cons_ne a (c :: r') ha h
    rw [dblBlank, h2, Bool.or_false]
    have : a.isEmpty = false := by simpa using ha
    rw [this]; rfl

theorem effNl_le_two (mb : Bool) (t : FTok) (hc : canonFmtB t.fmt = true) : effNl mb t ≤ 2 := by
  have := (canonFmtB_iff t.fmt).1 hc
  have := effNl_cases mb t
  omega

theorem linesGo_dblBlank (S : Settings) (mb : Bool) (ft : FT) (ht : ∀ t ∈ ft, TokCanon t)
    (hne : nonEmptyButLast ft = true) : dblBlank (linesGo S mb ft).2 = false := by
  fun_induction linesGo S mb ft with
  | case1 => rfl
  | case2 mb t r p cur hk ih => exact ih (fun x hx => ht x (by simp [hx])) ((nonEmptyButLast_cons t r).1 hne).2
  | case3 mb t r p cur k hk ih =>
    have ihr := ih (fun x hx => ht x (by simp [hx])) ((nonEmptyButLast_cons t r).1 hne).2
    have h2 := effNl_le_two mb t (ht t (by simp)).canon
    have hk01 : k = 0 ∨ k = 1 := by omega
    by_cases hc : t.tok.content = []
    · -- the last token
      have hr := last_of_empty t r hne hc
      subst hr
      rcases hk01 with rfl | rfl <;> rfl
    · have hcur : cur ≠ [] := by simp [cur, hc]
      rcases hk01 with rfl | rfl
      · exact dblBlank_cons_ne _ _ hcur ihr
      · exact dblBlank_nil_cons_ne _ _ hcur ihr

theorem linesGo_first (S : Settings) (ft : FT) (hne : nonEmptyButLast ft = true) (hf : firstOkB ft = true) :
    (linesGo S false ft).1 ≠ [] ∨ (linesGo S false ft).2 = [] := by
  cases ft with
  | nil => right; rfl
  | cons t r =>
    rw [linesGo, effNl_false, ((firstOkB_cons t r).1 hf).1]
    by_cases hc : t.tok.content = []
    · right; rw [last_of_empty t r hne hc]; rfl
    · left; simp [hc]

/-- two consecutive segments `p` that are not the last two: two consecutive empty lines followed by a further one -/
theorem segs_dblBlank {p L0 : Bytes} {Ls A B : List Bytes} (hA : A ≠ []) (hB : B ≠ [])
    (h : segs p L0 Ls = A ++ p :: p :: B) : dblBlank Ls = true := by
  induction Ls generalizing L0 A with
  | nil => cases A <;> simp [segs] at h
  | cons L1 R ih =>
    obtain ⟨a, A', rfl⟩ := List.exists_cons_of_ne_nil hA
    simp only [segs, List.cons_append, List.cons.injEq] at h
    by_cases hA' : A' = []
    · subst hA'
      obtain ⟨b, B', rfl⟩ := List.exists_cons_of_ne_nil hB
      match R, h.2 with
      | L2 :: L3 :: R3, h2 =>
        simp only [segs, List.nil_append, List.cons.injEq, List.append_left_eq_self] at h2
        rw [h2.1, h2.2.1]; rfl
      | [L2], h2 => simp [segs] at h2
      | [], h2 => simp [segs] at h2
    · exact dblBlank_cons_of _ _ (ih hA' h.2)

theorem triple_infix_dblBlank (nl : Bytes) (hnl : NlOk nl)
    (L0 : Bytes) (Ls : List Bytes) (hL : ∀ L ∈ L0 :: Ls, containsByte 0x0A L = false)
    (h : (nl ++ nl ++ nl) <:+: (L0 ++ joinTail nl Ls)) : dblBlank Ls = true := by
  obtain ⟨p, rfl, hp⟩ := hnl
  obtain ⟨X, Y, hXY⟩ := h
  have hp' := not_mem_of_containsByte hp
  have e : X ++ ((p ++ [0x0A]) ++ (p ++ [0x0A]) ++ (p ++ [0x0A])) ++ Y =
      (X ++ p) ++ 0x0A :: (p ++ 0x0A :: (p ++ 0x0A :: Y)) := by simp [List.append_assoc]
  have := congrArg (List.splitOn 0x0A) hXY
  rw [splitOn_joined hp _ _ hL, e, List.splitOn_append_cons_self, List.splitOn_append_cons_self_of_not_mem hp',
    List.splitOn_append_cons_self_of_not_mem hp'] at this
  exact segs_dblBlank (List.splitOn_ne_nil _ _) (List.splitOn_ne_nil _ _) this.symm

theorem not_prefix_nl (nl : Bytes) (hnl : NlOk nl)
    (L0 : Bytes) (Ls : List Bytes) (hL : ∀ L ∈ L0 :: Ls, containsByte 0x0A L = false)
    (h0 : L0 ≠ [] ∨ Ls = []) : ¬ nl <+: (L0 ++ joinTail nl Ls) := by
  obtain ⟨p, rfl, hp⟩ := hnl
  intro ⟨Y, hY⟩
  have := congrArg (List.splitOn 0x0A) hY
  rw [splitOn_joined hp _ _ hL, List.append_assoc, List.singleton_append,
    List.splitOn_append_cons_self_of_not_mem (not_mem_of_containsByte hp)] at this
  cases Ls with
  | nil => simp [segs] at this
  | cons L1 R =>
    simp only [segs, List.cons.injEq, List.self_eq_append_left] at this
    exact h0.elim (· this.1) (by simp)

theorem seg_no_double_blank_line (S : Settings) (mb : Bool) (seg : FT) (h : SegState S seg) :
    ¬ (S.nlStr ++ S.nlStr ++ S.nlStr) <:+: reconGo S mb seg := by
  have hp := segState_parts S seg h
  obtain ⟨_, hout, hfree⟩ := seg_lines S mb seg h
  rw [hout]
  intro hin
  have := triple_infix_dblBlank S.nlStr (settingsOk_nl S hp.settings) _ _ hfree hin
  rw [linesGo_dblBlank S mb seg hp.toks hp.nonEmpty] at this
  cases this

/-- clause 3, on the lines -/
theorem recon_no_double_blank_lines (S : Settings) (ft : FT) (h : CanonState S ft) :
    dblBlank (outLines S ft).tail = false ∧ ((outLines S ft).head? ≠ some [] ∨ (outLines S ft).tail = []) := by
  have hp := canonState_parts S ft h
  refine ⟨linesGo_dblBlank S false ft hp.toks hp.nonEmpty, ?_⟩
  rcases linesGo_first S ft hp.nonEmpty hp.first with h1 | h1
  · left; simpa [outLines] using h1
  · right; exact h1

/-! ### clause 4: the indentation of every line is a whole number of units -/

/-- `k` indentation units: `k` tabs under `use_tabs`, otherwise `k * tab_width` spaces -/
def indentUnits (c : Config) (k : Nat) : Bytes :=
  if c.useTabs then List.replicate k 0x09 else List.replicate (k * c.tabWidth) 0x20

/-- the line is empty, or it is `k` indentation units followed by a byte that is neither a space nor a tab -/
def LineIndentOk (c : Config) (L : Bytes) : Prop :=
  L = [] ∨ ∃ k b rest, L = indentUnits c k ++ b :: rest ∧ isBlank b = false

theorem content_head_nonblank (t : FTok) (ht : TokCanon t) (b : UInt8) (c : Bytes) (h : t.tok.content = b :: c) :
    isBlank b = false := by
  have := ht.noStartBlank
  rw [h] at this
  simpa [startsBlank] using this

theorem linesGo_indent (c : Config) (hsat : c.contIndents * c.tabWidth ≤ 255) (mb : Bool) (ft : FT)
    (ht : ∀ t ∈ ft, TokCanon t) (hne : nonEmptyButLast ft = true) (hsn : noSafetyNetGo mb ft = true) :
    ∀ L ∈ (linesGo c.settings mb ft).2, LineIndentOk c L := by
  fun_induction linesGo c.settings mb ft with
  | case1 => intro L hL; cases hL
  | case2 mb t r p cur hk ih =>
    rw [noSafetyNetGo_cons, Bool.and_eq_true] at hsn
    exact ih (fun x hx => ht x (by simp [hx])) ((nonEmptyButLast_cons t r).1 hne).2 hsn.2
  | case3 mb t r p cur k hk ih =>
    rw [noSafetyNetGo_cons, Bool.and_eq_true] at hsn
    have htt := ht t (by simp)
    have ihr := ih (fun x hx => ht x (by simp [hx])) ((nonEmptyButLast_cons t r).1 hne).2 hsn.2
    have hnl : effNl mb t = t.fmt.nl := by rw [effNl_eq mb t htt.notIgnored, hsn.1]; rfl
    intro L hL
    simp only [List.mem_append, List.mem_cons] at hL
    rcases hL with hL | hL | hL
    · left; exact List.eq_of_mem_replicate hL
    · rw [hL]
      cases hc : t.tok.content with
      | nil =>
        left
        have hr := last_of_empty t r hne hc
        subst hr
        simp only [cur, p, hc, linesGo_nil, blanksOf_bare _ t (htt.emptyBare hc)]; rfl
      | cons b cs =>
        right
        have hsp : t.fmt.sp = 0 := by have := (canonFmtB_iff t.fmt).1 htt.canon; omega
        refine ⟨t.fmt.ind + c.contIndents * t.fmt.cont, b, cs ++ p.1, ?_, content_head_nonblank t htt b cs hc⟩
        simp only [cur, hc]
        unfold blanksOf indentUnits
        rw [hsp, indent_units c hsat]
        simp [List.append_assoc]
    · exact ihr L hL

theorem linesGo_first_indent (c : Config) (ft : FT)
    (ht : ∀ t ∈ ft, TokCanon t) (hne : nonEmptyButLast ft = true) (hf : firstOkB ft = true) :
    LineIndentOk c (linesGo c.settings false ft).1 := by
  cases ft with
  | nil => left; rfl
  | cons t r =>
    rw [firstOkB_cons] at hf
    have htt := ht t (by simp)
    rw [linesGo, effNl_false, hf.1]
    dsimp only
    have hc := (canonFmtB_iff t.fmt).1 htt.canon
    rw [blanksOf_bare _ t ⟨hf.2, by omega, by omega⟩]
    cases hc : t.tok.content with
    | nil =>
      left
      rw [last_of_empty t r hne hc, linesGo_nil]; rfl
    | cons b cs =>
      right
      exact ⟨0, b, cs ++ (linesGo c.settings (isSingleLineComment t.tok.kind) r).1, by unfold indentUnits; split <;> simp,
        content_head_nonblank t htt b cs hc⟩

/-- `noSafetyNetGo`: a line started by the safety net begins with the token's own space, not with indentation units -/
theorem seg_line_indentation (c : Config) (hsat : c.contIndents * c.tabWidth ≤ 255) (mb : Bool) (seg : FT)
    (h : SegState c.settings seg) (hsn : noSafetyNetGo mb seg = true) (Ls : List Bytes)
    (hL : IsLines c.settings.nlStr (reconGo c.settings mb seg) Ls) : ∀ L ∈ Ls.tail, LineIndentOk c L := by
  rw [lines_eq_segLines _ mb seg h Ls hL]
  have hp := segState_parts _ seg h
  exact linesGo_indent c hsat mb seg hp.toks hp.nonEmpty hsn

/-! ### clause 2: at most one space between two tokens of a line -/

theorem gap_trichotomy (S : Settings) (u : FTok) (mb : Bool) (hi : u.fmt.ignored = false)
    (hc : canonFmtB u.fmt = true) :
    gapOf S u mb = [] ∨ gapOf S u mb = [0x20] ∨ ∃ W, gapOf S u mb = S.nlStr ++ W := by
  rw [gapOf_notIgnored S u mb hi]
  cases hk : effNl mb u with
  | zero =>
    have hnl : u.fmt.nl = 0 := by have := effNl_cases mb u; omega
    have hc' := (canonFmtB_iff u.fmt).1 hc
    have : u.fmt.sp = 0 ∨ u.fmt.sp = 1 := by omega
    rcases this with h | h
    · left; rw [blanksOf_bare S u ⟨h, by omega, by omega⟩]; rfl
    · right; left
      unfold blanksOf; rw [show u.fmt.ind = 0 by omega, show u.fmt.cont = 0 by omega, h]; rfl
  | succ k =>
    right; right
    refine ⟨replicateBytes k S.nlStr ++ blanksOf S u, ?_⟩
    unfold replicateBytes
    rw [List.replicate_succ, List.flatten_cons, List.append_assoc]

/-- clause 2 for any two neighbouring tokens of any token list, the second of which is not kept verbatim and has
    canonical counters -/
theorem gap_between (S : Settings) (pre post : FT) (t u : FTok) (hi : u.fmt.ignored = false)
    (hc : canonFmtB u.fmt = true) :
    ∃ A G, reconstruct S (pre ++ [t]) = A ++ t.tok.content ∧
      reconstruct S (pre ++ t :: u :: post) =
        A ++ t.tok.content ++ G ++ u.tok.content ++ reconGo S (isSingleLineComment u.tok.kind) post ∧
      (G = [] ∨ G = [0x20] ∨ ∃ W, G = S.nlStr ++ W) := by
  refine ⟨reconGo S false pre ++ gapOf S t (mbAfter false pre), gapOf S u (isSingleLineComment t.tok.kind),
    ?_, ?_, gap_trichotomy S u _ hi hc⟩
  · unfold reconstruct; exact reconGo_snoc S false pre t
  · unfold reconstruct
    have : pre ++ t :: u :: post = (pre ++ [t]) ++ u :: post := by simp
    rw [this, reconGo_append, reconGo_snoc, mbAfter_append_singleton, reconGo]
    simp [List.append_assoc]

/-! ### clause 5: the output ends with exactly one terminator -/

theorem nonEmptyButLast_append (a b : FT) (hb : b ≠ []) (h : nonEmptyButLast (a ++ b) = true) :
    ∀ t ∈ a, t.tok.content ≠ [] := by
  induction a with
  | nil => intro t ht; cases ht
  | cons x r ih =>
    rw [List.cons_append, nonEmptyButLast_cons] at h
    intro t ht
    rcases List.mem_cons.1 ht with rfl | ht
    · exact h.1.resolve_left (by simp [hb])
    · exact ih h.2 t ht

/-- clause 5 for a run that ends with a token `q` followed by an empty text `e` with one line break before it: what
    stands before the final terminator ends with the last byte of the text of `q`, which is not LF -/
theorem seg_ends_with_one_terminator (S : Settings) (mb : Bool) (pre : FT) (q e : FTok)
    (h : SegState S (pre ++ [q] ++ [e])) (hc : e.tok.content = []) (hnl : e.fmt.nl = 1) :
    reconGo S mb (pre ++ [q] ++ [e]) = reconGo S mb (pre ++ [q]) ++ S.nlStr ∧
      ¬ S.nlStr <:+ reconGo S mb (pre ++ [q]) := by
  have hp := segState_parts S _ h
  obtain ⟨p, hnlS, _⟩ := settingsOk_nl S hp.settings
  have he : TokCanon e := hp.toks e (by simp)
  have hq : TokCanon q := hp.toks q (by simp)
  have hqne : q.tok.content ≠ [] := nonEmptyButLast_append (pre ++ [q]) [e] (by simp) hp.nonEmpty q (by simp)
  refine ⟨?_, ?_⟩
  · rw [reconGo_snoc, hc, List.append_nil, gapOf_notIgnored S e _ he.notIgnored,
      blanksOf_bare S e (he.emptyBare hc), List.append_nil]
    have : effNl (mbAfter mb (pre ++ [q])) e = 1 := by have := effNl_cases (mbAfter mb (pre ++ [q])) e; omega
    rw [this]; simp [replicateBytes]
  · rw [reconGo_snoc, hnlS]
    intro hsuf
    have hlast := hsuf.getLast (by simp)
    rw [List.getLast_concat, List.getLast_append_right hqne] at hlast
    exact not_mem_of_containsByte hq.noLf (hlast ▸ List.getLast_mem hqne)

/-! ### the hypotheses split into the counters (what the layout theorems give) and the rest -/

theorem tokOkB_eq (t : FTok) : tokOkB t = (tokContentOkB t && canonFmtB t.fmt) := by
  unfold tokOkB tokContentOkB
  cases t.fmt.ignored <;> cases canonFmtB t.fmt <;> simp

theorem canonState_of_content (c : Config) (ft : FT)
    (hc : ∀ t ∈ ft, t.fmt.ignored = false → canonFmtB t.fmt = true) (h : contentStateB ft = true) :
    CanonState c.settings ft := by
  unfold contentStateB at h
  simp only [Bool.and_eq_true, List.all_eq_true] at h
  unfold CanonState canonStateB
  simp only [Bool.and_eq_true, List.all_eq_true]
  refine ⟨⟨⟨settingsOk_config c, fun t ht => ?_⟩, h.1.2⟩, h.2⟩
  have h1 := h.1.1 t ht
  rw [tokOkB_eq, h1, Bool.true_and]
  exact hc t ht (by unfold tokContentOkB at h1; simp only [Bool.and_eq_true, Bool.not_eq_true'] at h1; exact h1.1.1.1.1)

end Pasfmt
