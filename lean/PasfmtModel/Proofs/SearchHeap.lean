/-
  The `BinaryHeap` of the search (`push`, `pop`, `extend`: Model/SearchTypes.lean) makes no node: what holds of every
  node in the heap and of the nodes put in (`HAll`) holds afterwards and of the node `pop` hands out.
-/
import PasfmtModel.Model.SearchTypes

namespace Pasfmt

def HAll (P : FormattingNode → Prop) (h : NodeHeap) : Prop := ∀ x ∈ h, P x

theorem HAll.get! {P : FormattingNode → Prop} {h : NodeHeap} (H : HAll P h) {i : Nat} (hi : i < h.size) : P h[i]! :=
  H _ (getElem!_pos h i hi ▸ Array.getElem_mem hi)

theorem HAll.set! {P : FormattingNode → Prop} {h : NodeHeap} (H : HAll P h) (i : Nat) {x : FormattingNode} (hx : P x) :
    HAll P (h.set! i x) := fun y hy =>
  (Array.mem_or_eq_of_mem_setIfInBounds (Array.set!_eq_setIfInBounds ▸ hy)).elim (H y) (· ▸ hx)

theorem HAll.push {P : FormattingNode → Prop} {h : NodeHeap} (H : HAll P h) {x : FormattingNode} (hx : P x) :
    HAll P (h.push x) := fun y hy => (Array.mem_push.1 hy).elim (H y) (· ▸ hx)

theorem HAll.pop {P : FormattingNode → Prop} {h : NodeHeap} (H : HAll P h) : HAll P h.pop := fun y hy =>
  H y (Array.mem_toList_iff.1 (List.dropLast_subset _ (Array.toList_pop ▸ Array.mem_toList_iff.2 hy)))

@[simp] theorem size_set! (h : NodeHeap) (i : Nat) (x : FormattingNode) : (h.set! i x).size = h.size := by
  simp [Array.set!_eq_setIfInBounds]

theorem heapSiftUpGo_all {P : FormattingNode → Prop} (start : Nat) (elem : FormattingNode) (hE : P elem)
    (fuel : Nat) (data : NodeHeap) (pos : Nat) (H : HAll P data) (hp : pos < data.size) :
    HAll P (heapSiftUpGo start elem fuel data pos) ∧ (heapSiftUpGo start elem fuel data pos).size = data.size := by
  fun_induction heapSiftUpGo start elem fuel data pos with
  | case1 | case2 | case4 => exact ⟨H.set! _ hE, size_set! _ _ _⟩
  | case3 _ data pos _ parent _ ih =>
    have hpar : parent < data.size := by omega
    simpa using ih (H.set! pos (H.get! hpar)) (by simpa using hpar)

theorem heapSiftUp_all {P : FormattingNode → Prop} (data : NodeHeap) (start pos : Nat) (H : HAll P data)
    (hp : pos < data.size) : HAll P (heapSiftUp data start pos) ∧ (heapSiftUp data start pos).size = data.size :=
  heapSiftUpGo_all start _ (H.get! hp) _ data pos H hp

theorem heapPush_all {P : FormattingNode → Prop} (data : NodeHeap) (x : FormattingNode) (H : HAll P data) (hx : P x) :
    HAll P (heapPush data x) := by
  unfold heapPush
  exact (heapSiftUp_all (data.push x) 0 data.size (H.push hx) (by simp)).1

theorem heapSiftDownToBottomGo_all {P : FormattingNode → Prop} (endIdx : Nat)
    (fuel : Nat) (data : NodeHeap) (pos : Nat) (H : HAll P data) (he : endIdx = data.size) (hp : pos < data.size) :
      HAll P (heapSiftDownToBottomGo endIdx fuel data pos).1 ∧
      (heapSiftDownToBottomGo endIdx fuel data pos).1.size = data.size ∧
      (heapSiftDownToBottomGo endIdx fuel data pos).2 < data.size := by
  fun_induction heapSiftDownToBottomGo endIdx fuel data pos with
  | case1 | case4 => exact ⟨H, rfl, hp⟩
  | case2 _ data pos child hc child' ih =>
    have hch : child' < data.size := by dsimp only [child']; split <;> omega
    simpa using ih (H.set! pos (H.get! hch)) (by simpa using he) (by simpa using hch)
  | case3 _ data pos child _ hc =>
    have hc0 : child < data.size := by
      have : child = endIdx - 1 := by simpa using hc
      omega
    exact ⟨H.set! pos (H.get! hc0), by simp, hc0⟩

theorem heapSiftDownToBottom_all {P : FormattingNode → Prop} (data : NodeHeap) (pos : Nat) (H : HAll P data)
    (hp : pos < data.size) : HAll P (heapSiftDownToBottom data pos) := by
  unfold heapSiftDownToBottom
  simp only []
  obtain ⟨h1, h2, h3⟩ := heapSiftDownToBottomGo_all (P := P) data.size (data.size + 1) data pos H rfl hp
  exact (heapSiftUpGo_all pos _ (H.get! hp) _ _ _ h1 (by omega)).1

theorem heapPop_all {P : FormattingNode → Prop} (data : NodeHeap) (H : HAll P data) (x : FormattingNode) (rest : NodeHeap)
    (h : heapPop data = some (x, rest)) : P x ∧ HAll P rest := by
  unfold heapPop at h
  split at h
  · simp at h
  · rename_i item hb
    have hitem : P item := H _ (Array.mem_of_back? hb)
    simp only [] at h
    split at h
    · cases h; exact ⟨hitem, H.pop⟩
    · rename_i hne
      have hs : 0 < data.pop.size := by
        rcases Nat.eq_zero_or_pos data.pop.size with h0 | h0
        · exact absurd (by simpa [Array.isEmpty] using h0) hne
        · exact h0
      cases h
      exact ⟨H.pop.get! hs, heapSiftDownToBottom_all _ 0 (H.pop.set! 0 hitem) (by simpa using hs)⟩

theorem heapSiftDownRangeGo_all {P : FormattingNode → Prop} (endIdx : Nat) (elem : FormattingNode) (hE : P elem)
    (fuel : Nat) (data : NodeHeap) (pos : Nat) (H : HAll P data) (he : endIdx = data.size) (hp : pos < data.size) :
      HAll P (heapSiftDownRangeGo endIdx elem fuel data pos) ∧
      (heapSiftDownRangeGo endIdx elem fuel data pos).size = data.size := by
  fun_induction heapSiftDownRangeGo endIdx elem fuel data pos with
  | case1 | case2 | case5 => exact ⟨H.set! _ hE, by simp⟩
  | case3 _ data pos child hc child' _ ih =>
    have hch : child' < data.size := by dsimp only [child']; split <;> omega
    simpa using ih (H.set! pos (H.get! hch)) (by simpa using he) (by simpa using hch)
  | case4 _ data pos child _ hc =>
    have hc0 : child < data.size := by
      have : child = endIdx - 1 := by
        simp only [Bool.and_eq_true, beq_iff_eq] at hc; exact hc.1
      omega
    exact ⟨(H.set! pos (H.get! hc0)).set! _ hE, by simp⟩

theorem heapSiftDown_all {P : FormattingNode → Prop} (data : NodeHeap) (pos : Nat) (H : HAll P data)
    (hp : pos < data.size) : HAll P (heapSiftDown data pos) ∧ (heapSiftDown data pos).size = data.size :=
  heapSiftDownRangeGo_all data.size _ (H.get! hp) _ data pos H rfl hp

theorem foldl_heap_all {P : FormattingNode → Prop} (g : NodeHeap → Nat → NodeHeap)
    (hg : ∀ d n, HAll P d → n < d.size → HAll P (g d n) ∧ (g d n).size = d.size) :
    ∀ (l : List Nat) (data : NodeHeap), HAll P data → (∀ n ∈ l, n < data.size) →
      HAll P (l.foldl g data) ∧ (l.foldl g data).size = data.size := fun l data H hl =>
  List.foldlRecOn (motive := fun d => HAll P d ∧ d.size = data.size) l g ⟨H, rfl⟩ fun d h n hn =>
    ⟨(hg d n h.1 (h.2 ▸ hl n hn)).1, (hg d n h.1 (h.2 ▸ hl n hn)).2.trans h.2⟩

theorem heapRebuild_all {P : FormattingNode → Prop} (data : NodeHeap) (H : HAll P data) : HAll P (heapRebuild data) := by
  unfold heapRebuild
  refine (foldl_heap_all (fun d n => heapSiftDown d n) (fun d n a b => heapSiftDown_all d n a b) _ data H ?_).1
  intro n hn
  simp only [List.mem_reverse, List.mem_range] at hn
  omega

theorem heapRebuildTail_all {P : FormattingNode → Prop} (data : NodeHeap) (start : Nat) (H : HAll P data) :
    HAll P (heapRebuildTail data start) := by
  unfold heapRebuildTail
  split
  · exact H
  · simp only []
    generalize (if start < data.size - start then true else _) = b
    split
    · exact heapRebuild_all data H
    · refine (foldl_heap_all (fun d i => heapSiftUp d 0 i) (fun d n a b => heapSiftUp_all d 0 n a b) _ data H ?_).1
      intro n hn
      simp only [List.mem_range'_1] at hn
      omega

theorem heapExtend_all {P : FormattingNode → Prop} (data : NodeHeap) (items : List FormattingNode) (H : HAll P data)
    (hi : ∀ x ∈ items, P x) : HAll P (heapExtend data items) := by
  unfold heapExtend
  apply heapRebuildTail_all
  induction items generalizing data with
  | nil => exact H
  | cons x r ih => exact ih (data.push x) (H.push (hi x (by simp))) (fun y hy => hi y (by simp [hy]))

end Pasfmt
