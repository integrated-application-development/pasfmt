/-
  The child lines of the search, for any invariant: `find_optimal_child_lines_solution` (Model/Search.lean) offers, for
  each starting option, the list stored in the `child_line_cache` under the option's key, or the list `solveChildLines`
  computes and then stores.  So a predicate `K` of (key, list) that solving establishes holds of every cache entry and
  of every list offered (`findOptimalChildLinesSolution_inv`); what is known of the options is proved where the function
  is unfolded.  `findOptimalSolutionWith_each` closes the recursion for predicates of the single child solutions.
-/
import PasfmtModel.Proofs.SearchInvariants

namespace Pasfmt

/-- `child_starting_ws` of `find_optimal_child_lines_solution`: the whitespace an option hands to its child lines -/
def ChildLineOption.startingWs : ChildLineOption → ChildWhitespace
  | .continueAll => { whitespace := LineWhitespace.zero, deindent := 0 }
  | .breakAll ws | .continueThenBreak ws => ws

/-- does the `p`-th child line of this option start with a break? -/
def ChildLineOption.breaksAt : ChildLineOption → Nat → Bool
  | .continueAll, _ => false
  | .breakAll _, _ => true
  | .continueThenBreak _, p => p != 0

def childWs (cws : ChildWhitespace) (level : Nat) : LineWhitespace :=
  { cws.whitespace with indentations := (cws.whitespace.indentations + level) - cws.deindent }

/-- the whitespace of an option comes from the starting whitespace `W` of the parent solution: none at all
    (`ContinueAll`), or `W`'s indentations, at least `W`'s continuations, de-indented by at most one level -/
def OptionFrom (W : LineWhitespace) (option : ChildLineOption) : Prop :=
  option = .continueAll ∨
    (option.startingWs.whitespace.indentations = W.indentations ∧
      W.continuations ≤ option.startingWs.whitespace.continuations ∧ option.startingWs.deindent ≤ 1)

theorem andThenM_spec {α β σ : Type} (Inv : σ → Prop) (Q : α → β → Prop) (p : Potentials α)
    (f : σ → α → Option β × σ)
    (hf : ∀ s a, a ∈ p.toList → Inv s → Inv (f s a).2 ∧ ∀ b, (f s a).1 = some b → Q a b) (s : σ) (hs : Inv s) :
    Inv (p.andThenM f s).2 ∧ ∀ b ∈ (p.andThenM f s).1.toList, ∃ a ∈ p.toList, Q a b := by
  cases p with
  | none => exact ⟨hs, fun b hb => by cases hb⟩
  | one a =>
    obtain ⟨h1, h2⟩ := hf s a (by simp [Potentials.toList]) hs
    rcases hr : f s a with ⟨_ | b, s'⟩ <;> rw [hr] at h1 h2 <;> simp only [Potentials.andThenM, hr] <;>
      refine ⟨h1, fun b' hb => ?_⟩
    · cases hb
    · cases List.mem_singleton.1 hb
      exact ⟨a, by simp [Potentials.toList], h2 _ rfl⟩
  | two a1 a2 =>
    have m1 : a1 ∈ (Potentials.two a1 a2).toList := by simp [Potentials.toList]
    have m2 : a2 ∈ (Potentials.two a1 a2).toList := by simp [Potentials.toList]
    obtain ⟨h1, h2⟩ := hf s a1 m1 hs
    obtain ⟨h3, h4⟩ := hf (f s a1).2 a2 m2 h1
    rcases hr1 : f s a1 with ⟨ob1, s1⟩
    rw [hr1] at h2 h3 h4
    rcases hr2 : f s1 a2 with ⟨ob2, s2⟩
    rw [hr2] at h3 h4
    simp only [Potentials.andThenM, hr1, hr2]
    cases ob1 <;> cases ob2 <;> refine ⟨h3, fun b hb => ?_⟩ <;>
      simp only [Potentials.toList, List.mem_cons, List.not_mem_nil, or_false] at hb
    · exact ⟨a2, m2, h4 b (by rw [hb])⟩
    · exact ⟨a1, m1, h2 b (by rw [hb])⟩
    · rcases hb with rfl | rfl
      · exact ⟨a1, m1, h2 _ rfl⟩
      · exact ⟨a2, m2, h4 _ rfl⟩

theorem opts_ite {W : LineWhitespace} {c : Prop} [Decidable c] {a b : Potentials ChildLineOption}
    (ha : ∀ o ∈ a.toList, OptionFrom W o) (hb : ∀ o ∈ b.toList, OptionFrom W o) :
    ∀ o ∈ (if c then a else b).toList, OptionFrom W o := by
  split <;> assumption

/-- every entry of the map (the `child_line_cache`; `line_children`) satisfies `K` -/
def CacheBy {α β : Type} [BEq α] [Hashable α] (K : α → β → Prop) (cache : Std.HashMap α β) : Prop :=
  ∀ (key : α) sols, cache[key]? = some sols → K key sols

theorem CacheBy.insert {α β : Type} [BEq α] [Hashable α] [LawfulBEq α] {K : α → β → Prop} {cache : Std.HashMap α β} {key sols}
    (h : CacheBy K cache) (hk : K key sols) : CacheBy K (cache.insert key sols) := by
  intro key' sols' hk'
  rw [Std.HashMap.getElem?_insert] at hk'
  split at hk'
  · cases hk'
    exact eq_of_beq ‹_› ▸ hk
  · exact h _ _ hk'

theorem cacheBy_empty {α β : Type} [BEq α] [Hashable α] (K : α → β → Prop) : CacheBy K ({} : Std.HashMap α β) := by
  intro key sols h
  simp at h

/-- `first_token_decision` of the `idx`-th child line of an option -/
def ChildLineOption.firstDecision (option : ChildLineOption) (idx lll : Nat) : FirstDecision :=
  match option with
  | .continueAll => .cont lll false
  | .breakAll _ => .brk
  | .continueThenBreak _ => if idx == 0 then .cont lll true else .brk

theorem rootDec_firstDecision (O : Olf) (line : LineA) (option : ChildLineOption) (idx lll : Nat) :
    rootDec O line (option.firstDecision idx lll) = if option.breaksAt idx then rootDec O line .brk else .cont := by
  cases option with
  | continueAll => rfl
  | breakAll ws => rfl
  | continueThenBreak ws =>
    simp only [ChildLineOption.firstDecision, ChildLineOption.breaksAt]
    by_cases h0 : idx = 0
    · simp [h0, rootDec]
    · simp [h0]

/-- `P` holds of the list solved so far; the list returned holds the solutions of exactly the lines given, in order -/
theorem solveChildLines_inv (O : Olf) (solve : Solver) (option : ChildLineOption) (cws : ChildWhitespace)
    (C : ChildLineCache → Prop) (P : List (Nat × FormattingSolution) → Prop)
    (hstep : ∀ c sofar childLine lll, C c → P sofar →
      C (solve c (childWs cws (O.lines[childLine]!).level) childLine (option.firstDecision sofar.length lll)).2 ∧
      ∀ sol, (solve c (childWs cws (O.lines[childLine]!).level) childLine
          (option.firstDecision sofar.length lll)).1 = .ok sol → P (sofar ++ [(childLine, sol)]))
    (ls : List Nat) (idx : Nat) (cache : ChildLineCache) (lll : Nat) (acc : List (Nat × FormattingSolution))
    (r : Option (List (Nat × FormattingSolution))) (cache' : ChildLineCache)
    (hc : C cache) (hlen : acc.length = idx) (hacc : P acc.reverse)
    (h : solveChildLines O solve option cws ls idx cache lll acc = (r, cache')) :
    C cache' ∧ ∀ sols, r = some sols → P sols ∧ sols.map (·.1) = acc.reverse.map (·.1) ++ ls := by
  fun_induction solveChildLines O solve option cws ls idx cache lll acc with
  | case1 _ cache _ acc =>
    cases h
    exact ⟨hc, fun sols hs => by cases hs; exact ⟨hacc, by simp⟩⟩
  | case2 childLine rest idx cache lll acc line cw fd e c1 hs =>
    have hok := hstep cache acc.reverse childLine lll hc hacc
    change solve cache (childWs cws line.level) childLine (option.firstDecision idx lll) = _ at hs
    rw [List.length_reverse, hlen, hs] at hok
    cases h
    exact ⟨hok.1, fun sols h => nomatch h⟩
  | case3 childLine rest idx cache lll acc line cw fd sol c1 hs lll' ih =>
    have hok := hstep cache acc.reverse childLine lll hc hacc
    change solve cache (childWs cws line.level) childLine (option.firstDecision idx lll) = _ at hs
    rw [List.length_reverse, hlen, hs] at hok
    obtain ⟨r1, r2⟩ := ih hok.1 (by simp [hlen]) (by rw [List.reverse_cons]; exact hok.2 _ rfl) h
    exact ⟨r1, fun sols h => ⟨(r2 sols h).1, by rw [(r2 sols h).2]; simp⟩⟩

def firstChildTokenType (O : Olf) (lineChildren : LineChildren) : Option TokenType :=
  ((lineChildren.lineIndices[0]?.bind fun lineIndex => O.lines[lineIndex]?).bind fun line => line.tokens[0]?).bind
    fun tokenIndex => O.getTokenType tokenIndex

/-- the child lines of this record hang off `else`, `then`, `do` or the colon of a case arm, the first of them starts
    with `begin`, and `begin_style = always_wrap` -/
def BeginCond (O : Olf) (lc : LineChildren) : Prop :=
  O.breakBeforeBegin = true ∧
  (O.getTokenType lc.parentToken = some (.tKeyword .kElse) ∨ O.getTokenType lc.parentToken = some (.tKeyword .kThen) ∨
   O.getTokenType lc.parentToken = some (.tKeyword .kDo) ∨ O.getTokenType lc.parentToken = some (.tOp .oColon)) ∧
  firstChildTokenType O lc = some (.tKeyword .kBegin)

/-- every list offered is empty or satisfies `K` for the key of a starting option; such an option comes from `W`
    (`OptionFrom`) and is "break all at the parent's indentation" for a `begin` under `begin_style = always_wrap` -/
theorem findOptimalChildLinesSolution_inv (O : Olf) (solve : Solver)
    (K : ChildLineInitialConditions → List (Nat × FormattingSolution) → Prop)
    (L : List (Nat × FormattingSolution) → Prop) (cache : ChildLineCache) (line : Nat × LineA) (nli : Nat)
    (W : LineWhitespace) (decision : DecisionRef) (stack : SpecificContextStack) (node : FormattingNode) (tll pc : Nat)
    (hnil : L [])
    (hsolve : ∀ lineChildren, O.lineChildren.get? (line.1, line.2.tokens[nli]!) = some lineChildren →
      ∀ option c r c', CacheBy K c →
      solveChildLines O solve option option.startingWs lineChildren.lineIndices.toList 0 c tll [] = (r, c') →
      CacheBy K c' ∧ ∀ sols, r = some sols →
        K { lastLineLength := tll, parentLine := line.1, parentToken := line.2.tokens[nli]!, childLineOption := option } sols)
    (hL : ∀ lineChildren, O.lineChildren.get? (line.1, line.2.tokens[nli]!) = some lineChildren →
      ∀ option, OptionFrom W option →
        (BeginCond O lineChildren → option = .breakAll { whitespace := W, deindent := 1 }) →
        ∀ sols,
          K { lastLineLength := tll, parentLine := line.1, parentToken := line.2.tokens[nli]!, childLineOption := option } sols →
          L sols)
    (hc : CacheBy K cache) :
    CacheBy K (O.findOptimalChildLinesSolution solve cache line nli W decision stack node tll pc).2 ∧
    ∀ sols ∈ (O.findOptimalChildLinesSolution solve cache line nli W decision stack node tll pc).1.toList, L sols := by
  have hone : ∀ sols ∈ (Potentials.one ([] : List (Nat × FormattingSolution))).toList, L sols := by
    intro sols hs
    simp only [Potentials.toList, List.mem_singleton] at hs
    subst hs
    exact hnil
  fun_cases Olf.findOptimalChildLinesSolution O solve cache line nli W decision stack node tll pc with
  | case1 | case2 => exact ⟨hc, hone⟩
  | case3 lineParent lineChildren hlc startingContinuations childStartingWs getFirstChildToken parentBaseWs
      parentIndentedWs firstChild hfc mustBreakFirstChild parentTokenType brokenOrChild startingOptions =>
    have hbegin : O.breakBeforeBegin = true →
        (parentTokenType = some (.tKeyword .kElse) ∨ parentTokenType = some (.tKeyword .kThen) ∨
          parentTokenType = some (.tKeyword .kDo) ∨ parentTokenType = some (.tOp .oColon)) →
        getFirstChildToken () = some (.tKeyword .kBegin) →
        ∀ o ∈ startingOptions.toList, o = .breakAll { whitespace := W, deindent := 1 } := by
      intro hbb hpt hfirst
      -- `↓reduceIte` decides each condition before the branches are visited
      rcases hpt with h | h | h | h <;>
        simp only [startingOptions, hfirst, hbb, h, isKw, isOp, ↓reduceIte, Bool.false_eq_true, Bool.true_or,
          beq_self_eq_true, Bool.and_true, beq_iff_eq, reduceCtorEq, ite_self, Potentials.toList] <;>
        exact fun o ho => List.mem_singleton.1 ho
    have hopts : ∀ o ∈ startingOptions.toList, OptionFrom W o := by
      have hA : OptionFrom W .continueAll := Or.inl rfl
      have hB1 : OptionFrom W (.breakAll childStartingWs) := Or.inr ⟨by simp [ChildLineOption.startingWs, childStartingWs, LineWhitespace.add], by simp [ChildLineOption.startingWs, childStartingWs, LineWhitespace.add], by simp [ChildLineOption.startingWs, childStartingWs]⟩
      have hB2 : OptionFrom W (.breakAll parentBaseWs) := Or.inr ⟨rfl, Nat.le_refl _, Nat.le_refl _⟩
      have hB3 : OptionFrom W (.breakAll parentIndentedWs) := Or.inr ⟨rfl, Nat.le_refl _, Nat.zero_le _⟩
      have hC2 : OptionFrom W (.continueThenBreak parentBaseWs) := Or.inr ⟨rfl, Nat.le_refl _, Nat.le_refl _⟩
      clear hbegin
      clear_value childStartingWs parentBaseWs parentIndentedWs mustBreakFirstChild getFirstChildToken parentTokenType
      simp only [startingOptions]
      repeat' with_reducible apply opts_ite
      all_goals repeat' split
      all_goals
        intro o ho
        simp only [Potentials.toList, List.mem_cons, List.not_mem_nil, or_false] at ho <;>
          first
            | (rcases ho with rfl | rfl <;> assumption)
            | (subst ho; assumption)
    clear_value startingOptions
    have key : ∀ f : ChildLineCache → ChildLineOption → Option (List (Nat × FormattingSolution)) × ChildLineCache,
        (∀ c o, o ∈ startingOptions.toList → CacheBy K c → CacheBy K (f c o).2 ∧ ∀ b, (f c o).1 = some b →
          K { lastLineLength := tll, parentLine := lineParent.1, parentToken := lineParent.2, childLineOption := o } b) →
        CacheBy K (startingOptions.andThenM f cache).2 ∧
        ∀ sols ∈ (startingOptions.andThenM f cache).1.toList, L sols := by
      intro f hf
      have := andThenM_spec (CacheBy K) (fun o sols =>
        K { lastLineLength := tll, parentLine := lineParent.1, parentToken := lineParent.2, childLineOption := o } sols)
        startingOptions f hf cache hc
      refine ⟨this.1, fun sols hs => ?_⟩
      obtain ⟨o, ho, hk⟩ := this.2 sols hs
      exact hL lineChildren hlc o (hopts o ho) (fun hb => hbegin hb.1 hb.2.1 hb.2.2 o ho) sols hk
    refine key _ ?_
    · intro c o _ hcO
      dsimp only
      split
      · rename_i sol hg
        rw [Std.HashMap.get?_eq_getElem?] at hg
        exact ⟨hcO, fun b hb => by cases hb; exact hcO _ _ hg⟩
      · split
        · rename_i c1 hs
          exact ⟨(hsolve lineChildren hlc o c none c1 hcO (by cases o <;> exact hs)).1, fun b hb => by cases hb⟩
        · rename_i cs c1 hs
          have := hsolve lineChildren hlc o c (some cs) c1 hcO (by cases o <;> exact hs)
          exact ⟨this.1.insert (this.2 _ rfl), fun b hb => by cases hb; exact this.2 _ rfl⟩

/-- every solution in every entry of the `child_line_cache` satisfies `T` for its line -/
def CacheEach (T : Nat → FormattingSolution → Prop) : ChildLineCache → Prop :=
  CacheBy fun _ sols => ∀ x ∈ sols, T x.1 x.2

theorem findOptimalChildLinesSolution_each (O : Olf) (solve : Solver) (T : Nat → FormattingSolution → Prop)
    (hS : SolverAll (CacheEach T) T solve) (cache : ChildLineCache) (line : Nat × LineA) (nli : Nat)
    (W : LineWhitespace) (decision : DecisionRef) (stack : SpecificContextStack) (node : FormattingNode) (tll pc : Nat)
    (hc : CacheEach T cache) :
    CacheEach T (O.findOptimalChildLinesSolution solve cache line nli W decision stack node tll pc).2 ∧
    ∀ sols ∈ (O.findOptimalChildLinesSolution solve cache line nli W decision stack node tll pc).1.toList,
      ∀ x ∈ sols, T x.1 x.2 := by
  refine findOptimalChildLinesSolution_inv O solve _ (fun sols => ∀ x ∈ sols, T x.1 x.2) cache line nli W decision
    stack node tll pc (by simp) (fun lc _ option c r c' hcc h => ?_) (fun _ _ _ _ _ _ hk => hk) hc
  obtain ⟨h1, h2⟩ := solveChildLines_inv O solve option option.startingWs (CacheEach T)
    (fun sofar => ∀ x ∈ sofar, T x.1 x.2) (fun c sofar childLine lll hc hP => by
      have hok := hS c (childWs option.startingWs (O.lines[childLine]!).level) childLine
        (option.firstDecision sofar.length lll) hc
      refine ⟨hok.1, fun sol hs x hx => ?_⟩
      rcases List.mem_append.1 hx with h | h
      · exact hP x h
      · rw [List.mem_singleton] at h
        subst h
        exact hok.2 _ hs) _ 0 c tll [] r c' hcc rfl (by simp) h
  exact ⟨h1, fun sols hs => (h2 sols hs).1⟩

/-- one level of `find_optimal_solution` when `D` reads no child solution -/
theorem findOptimalSolutionWith_each {D : Nat → LineWhitespace → Nat → TokenDecision → Prop}
    {T : Nat → FormattingSolution → Prop}
    (hA : ∀ li sol, T li sol ↔ TreeAll D li sol)
    (O : Olf) (solve : Solver) (hS : SolverAll (CacheEach T) T solve) (ws : LineWhitespace) (lineIdx : Nat)
    (fd : FirstDecision)
    (hD : ∀ (n : FormattingNode) (rd : RawDecision) (req : DR) (cs : List (Nat × FormattingSolution)) (tll cc : Nat),
      (O.env solve lineIdx).Offers n rd →
      D lineIdx n.startingWs n.nextLineIndex
        { decision := rd.withContinuation cc, requirement := req, childSolutions := cs, lastLineLength := tll })
    (hD0 : ∀ (req : DR) (cs : List (Nat × FormattingSolution)) (lll : Nat), 0 < (O.lines[lineIdx]!).tokens.size →
      (O.getFormattingInvariant 0 (O.lines[lineIdx]!) = some .mustBreak → (rootDec O (O.lines[lineIdx]!) fd).toRaw = .brk) →
      D lineIdx ws 0
        { decision := rootDec O (O.lines[lineIdx]!) fd, requirement := req, childSolutions := cs, lastLineLength := lll })
    (cache : ChildLineCache) (hc : CacheEach T cache) :
    CacheEach T (O.findOptimalSolutionWith solve cache ws lineIdx fd).2 ∧
    ∀ sol, (O.findOptimalSolutionWith solve cache ws lineIdx fd).1 = .ok sol → T lineIdx sol :=
  findOptimalSolutionWith_all hA O solve ws lineIdx fd (CacheEach T) (fun _ cs => ∀ x ∈ cs, T x.1 x.2)
    (fun c line nli W dref stack node tll pc => findOptimalChildLinesSolution_each O solve T hS c line nli W dref stack
      node tll pc)
    (fun _ _ h => h) (fun n rd req cs tll cc ho _ => hD n rd req cs tll cc ho)
    (fun req cs lll hsz hmb _ => hD0 req cs lll hsz hmb) cache hc

end Pasfmt
