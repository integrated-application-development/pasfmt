/-
  The model's scanners that pass non-ASCII bytes, in the terms of `Proofs/ScanLemmas` (the number scanners are in
  `Proofs/AsciiScan`).  The identifier scan and `lineCommentEnd` are spans (`identLen_eq_span`, `lineCommentEnd_eq`);
  `find_block_comment_end` is one `findSub` for the closer of the comment (`findBlockCommentEnd_eq`).  Of the loop of
  `text_literal` only the name for it with the fuel the model gives it (`tl`) and the two "nothing to consume" cases
  of its part scanners are here; the loop itself is opened once, against its grammar, in `LexSpecs` (`tll_only`).
-/
import PasfmtModel.Proofs.AsciiScan

namespace Pasfmt

/-! ### identifiers -/

/-- a byte that may appear in an identifier: ASCII letter, digit, `_`, or any byte of a non-ASCII
    character (`≥ 0x80`) -/
def isIdentByte (b : UInt8) : Bool := isIdentAscii b || b ≥ 0x80

/-- UTF-8 encoding of U+3000 IDEOGRAPHIC SPACE, the only non-ASCII character that is a blank -/
def u3000 : Bytes := [0xE3, 0x80, 0x80]

/-- an identifier byte at which U+3000 does not start -/
def identAt (t : Bytes) : Bool := headIs isIdentByte t && !u3000.isPrefixOf t

theorem identLen_eq_span (l : Bytes) : identLen l = spanLen identAt l := by
  induction l using identLen.induct with
  | case1 => rfl
  | case2 r => rw [identLen, spanLen]; rfl
  | case3 b r hne h ih =>
    have hp : u3000.isPrefixOf (b :: r) = false := by
      apply (Bool.not_eq_true _).mp
      intro hp
      obtain ⟨t, ht⟩ := List.isPrefixOf_iff_prefix.1 hp
      simp only [u3000, List.cons_append, List.nil_append, List.cons.injEq] at ht
      exact hne t ht.1.symm ht.2.symm
    rw [identLen.eq_3 b r hne, if_pos h, spanLen, ih, identAt, hp, headIs, show isIdentByte b = true from h]; rfl
  | case4 b r hne h =>
    rw [identLen.eq_3 b r hne, if_neg h, spanLen, identAt, headIs, show isIdentByte b = false from (Bool.not_eq_true _).mp h]; rfl

theorem identLen_le (l : Bytes) : identLen l ≤ l.length := identLen_eq_span l ▸ spanLen_le _ l

/-! ### line comments -/

theorem lineCommentEnd_eq (l : Bytes) :
    lineCommentEnd l = countWhile (fun b => !(b == 0x0A || b == 0x0D)) l := by
  have := countWhile_le (fun b => !(b == 0x0A || b == 0x0D)) l
  rw [lineCommentEnd, findIdx_eq_countWhile]
  by_cases h : countWhile (fun b => !(b == 0x0A || b == 0x0D)) l < l.length
  · rw [if_pos h]
  · rw [if_neg h]; show l.length = _; omega

theorem lineCommentEnd_pd : PrefixDet 1 id lineCommentEnd :=
  (funext lineCommentEnd_eq : lineCommentEnd = _) ▸ countWhile_pd _

/-! ### block comments -/

/-- the closing delimiter of the two kinds of block comment: `}` and `*)` -/
def closer : BlockCommentKind → Bytes
  | .brace => [0x7D]
  | .parenStar => [0x2A, 0x29]

theorem closer_ne_nil (k : BlockCommentKind) : closer k ≠ [] := by cases k <;> simp [closer]

theorem findBlockCommentEnd_eq (k : BlockCommentKind) (l : Bytes) :
    findBlockCommentEnd k l = (findSub (closer k) l).map (· + (closer k).length) := by
  cases k
  · rfl
  · simp only [findBlockCommentEnd, findByte_eq_findSub]; rfl

/-! ### text literals -/

/-- the model's loop with the fuel it is always called with -/
def tl (l : Bytes) : Nat × TextLiteralKind := textLiteralLoop (l.length + 1) l

def shiftTL (n : Nat) (x : Nat × TextLiteralKind) : Nat × TextLiteralKind := (n + x.1, x.2)

theorem consumeEscapedChars_nohash (fuel : Nat) (l : Bytes) (h : ∀ r, l ≠ 0x23 :: r) :
    consumeEscapedChars fuel l = .cont 0 := by
  cases fuel with
  | zero => simp [consumeEscapedChars]
  | succ k =>
    unfold consumeEscapedChars
    split
    · rename_i r; exact absurd rfl (h r)
    · rfl

theorem consumePascalStr_noquote (l : Bytes) (h : ∀ r, l ≠ 0x27 :: r) : consumePascalStr l = .stop 0 := by
  unfold consumePascalStr
  split
  · rename_i r; exact absurd rfl (h r)
  · rfl

end Pasfmt
