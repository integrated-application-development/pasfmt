/-
  The comment formatter is idempotent.  The line-comment rule applied to its own result does not call `set_content`
  again (for every comment text and every behaviour of the Unicode-alphanumeric test): its result has a blank or
  nothing behind the slashes and is trimmed.  The directive rule neither: its scanner does not look at letter case, and
  the part it delimits has no lower-case letter left.
-/
import PasfmtModel.Proofs.RulesSim

namespace Pasfmt

theorem dropWhile_idem (p : UInt8 → Bool) (l : Bytes) : (l.dropWhile p).dropWhile p = l.dropWhile p := by
  induction l with
  | nil => rfl
  | cons a r ih =>
    rw [List.dropWhile_cons]
    split
    · exact ih
    · rename_i h
      rw [List.dropWhile_cons]; simp [h]

theorem trimAsciiEnd_idem' (y : Bytes) : trimAsciiEnd (trimAsciiEnd y) = trimAsciiEnd y := by
  unfold trimAsciiEnd
  rw [List.reverse_reverse, dropWhile_idem]

theorem trimAsciiEnd_append_nil (x y : Bytes) (h : trimAsciiEnd y = []) :
    trimAsciiEnd (x ++ y) = trimAsciiEnd x := by
  unfold trimAsciiEnd at *
  rw [List.reverse_append, List.dropWhile_append]
  have : (List.dropWhile isAsciiWs y.reverse).isEmpty = true := by
    have := congrArg List.reverse h
    simp at this
    rw [this]; rfl
  rw [this]
  simp

theorem trimAsciiEnd_last (y : Bytes) : trimAsciiEnd y = [] ∨
    ∃ x b, trimAsciiEnd y = x ++ [b] ∧ isAsciiWs b = false := by
  unfold trimAsciiEnd
  have h := List.head?_dropWhile_not isAsciiWs y.reverse
  cases hd : List.dropWhile isAsciiWs y.reverse with
  | nil => left; rfl
  | cons b t =>
    right
    rw [hd] at h
    simp at h
    exact ⟨t.reverse, b, by simp, h⟩

theorem trimAsciiEnd_head (y : Bytes) (h : trimAsciiEnd y ≠ []) : (trimAsciiEnd y).head? = y.head? := by
  obtain ⟨t, ht⟩ := trimAsciiEnd_prefix y
  cases hy : trimAsciiEnd y with
  | nil => exact absurd hy h
  | cons a r => rw [hy] at ht; rw [← ht]; rfl

theorem commentIsSeparator_trim (U : Bytes → Bool) (comment : Bytes) :
    commentIsSeparator U (trimAsciiEnd comment) = commentIsSeparator U comment := by
  unfold commentIsSeparator
  rw [trimAsciiEnd_idem']

theorem lineCommentParts_of (pre comment : Bytes) (h : IsSlashes pre comment) :
    lineCommentParts (pre ++ comment) = some (pre, comment) := by
  rcases h with rfl | ⟨rfl, hh⟩
  · rfl
  · cases comment with
    | nil => rfl
    | cons a t =>
      have : a ≠ 0x2F := by intro e; subst e; simp at hh
      unfold lineCommentParts
      simp only [List.cons_append, List.nil_append]
      split
      · rename_i heq; simp at heq; exact absurd heq.1 this
      · rename_i heq; simp at heq; rw [heq]
      · rename_i h1 h2; exact absurd rfl (h2 _)

theorem trim_slashes (pre comment : Bytes) (h : IsSlashes pre comment) : trimAsciiEnd pre = pre := by
  rcases h with rfl | ⟨rfl, _⟩ <;> decide

/-- trimming the comment, when it leaves something, does not change whether a space goes in front -/
theorem lineCommentSpace_trim (U : Bytes → Bool) (comment : Bytes) (h : trimAsciiEnd comment ≠ []) :
    lineCommentSpace U (trimAsciiEnd comment) = lineCommentSpace U comment := by
  unfold lineCommentSpace
  rw [trimAsciiEnd_head comment h, commentIsSeparator_trim]

theorem formatLineComment_idem (U : Bytes → Bool) (c c' : Bytes) (h : formatLineComment U c = some c') :
    formatLineComment U c' = none := by
  rw [formatLineComment_eq, Option.bind_eq_some_iff] at h
  obtain ⟨⟨pre, comment⟩, hparts, h⟩ := h
  obtain ⟨rfl, hsl⟩ := lineCommentParts_inv _ _ _ hparts
  split at h
  · cases h
  · cases h
    -- the result is `pre ++ k` with a `k` that takes no space: a blank in front, the trimmed comment, or nothing
    have shape : ∃ k, trimAsciiEnd (pre ++ lineCommentSpace U comment ++ comment) = pre ++ k ∧ IsSlashes pre k ∧
        lineCommentSpace U k = [] := by
      rcases lineCommentSpace_cases U pre comment with ⟨hs, _⟩ | ⟨hs, _, hne, _⟩ <;> rw [hs]
      · rw [List.append_nil]
        by_cases hne : trimAsciiEnd comment = []
        · refine ⟨[], ?_, hsl.imp id (fun h1 => ⟨h1.1, by simp⟩), rfl⟩
          rw [trimAsciiEnd_append_nil _ _ hne, trim_slashes pre comment hsl, List.append_nil]
        · refine ⟨trimAsciiEnd comment, trimAsciiEnd_append_ne _ _ hne, ?_, ?_⟩
          · exact hsl.imp id (fun h1 => ⟨h1.1, by rw [trimAsciiEnd_head comment hne]; exact h1.2⟩)
          · rw [lineCommentSpace_trim U comment hne, hs]
      · refine ⟨0x20 :: trimAsciiEnd comment, ?_, hsl.imp id (fun h1 => ⟨h1.1, by simp⟩), ?_⟩
        · rw [trimAsciiEnd_append_ne _ _ hne, List.append_assoc]; rfl
        · simp [lineCommentSpace, isAsciiWs]
    obtain ⟨k, hk, hsk, hspk⟩ := shape
    -- so the rule computes `trimAsciiEnd (pre ++ k)` the second time, and the result of the first time is trimmed
    have htr : trimAsciiEnd (pre ++ k) = pre ++ k := by rw [← hk]; exact trimAsciiEnd_idem' _
    rw [hk, formatLineComment_eq, lineCommentParts_of pre k hsk, Option.bind_some]
    simp only []
    rw [hspk, List.append_nil, htr, if_pos rfl]

theorem formatCompilerDirective_idem (c c' : Bytes) (h : formatCompilerDirective c = some c') :
    formatCompilerDirective c' = none := by
  obtain ⟨pre, name, rest, _, rfl, hpre, _, hscan⟩ := formatCompilerDirective_some h
  have htake : (asciiUpper name ++ rest).take name.length = asciiUpper name :=
    List.take_left' (List.length_map _)
  -- the scanner delimits the same part again, and it has no lower-case letter left
  unfold formatCompilerDirective
  rcases hpre with rfl | rfl <;>
    simp only [List.cons_append, List.nil_append, hscan, htake, asciiUpper_no_lower] <;> simp

theorem commentText_idem (U : Bytes → Bool) (k : Kind) (c c' : Bytes) (h : commentText U k c = some c') :
    commentText U k c' = none := by
  unfold commentText at h ⊢
  split at h
  · exact formatCompilerDirective_idem c c' h
  · exact formatCompilerDirective_idem c c' h
  · exact formatLineComment_idem U c c' h
  · exact formatLineComment_idem U c c' h
  · cases h

theorem commentFormatTok_idem (U : Bytes → Bool) (t : FTok) :
    commentFormatTok U (commentFormatTok U t) = commentFormatTok U t := by
  rw [commentFormatTok_eq U t, commentFormatTok_eq]
  exact applyRule_idem (commentText U) (commentText_idem U) t

theorem commentFormatter_idem (U : Bytes → Bool) (ft : FT) :
    commentFormatter U (commentFormatter U ft) = commentFormatter U ft := by
  unfold commentFormatter
  rw [List.map_map]
  apply List.map_congr_left
  intro t _
  exact commentFormatTok_idem U t

end Pasfmt
