/-
  Declarative specifications of the two token ignorers (`formatting_toggle.rs`,
  `ignore_asm_instructions.rs`) as modelled in `Model/Rules.lean`, each proved for every input:

  * `parseToggle` recognises exactly the comments of the shape
    opener, blanks, `pasfmt` (any letter case), at least one blank, `on`/`off` (any letter case) as a whole word;
  * `togglerMarks` marks exactly the toggle comments and the tokens whose nearest earlier toggle is an `off`;
  * `asmMarked`, `ignoredMarks`, `voidLines`, and the `ignored` flag of `FT.new`.
-/
import PasfmtModel.Proofs.ScanLemmas
import PasfmtModel.Proofs.AsciiCase
import PasfmtModel.Proofs.PreStage

namespace Pasfmt

/-- `//`, `(*` or `{` -/
def IsCommentOpener (p : Bytes) : Prop := p = [0x2F, 0x2F] ∨ p = [0x28, 0x2A] ∨ p = [0x7B]

instance (p : Bytes) : Decidable (IsCommentOpener p) := inferInstanceAs (Decidable (_ ∨ _ ∨ _))

/-- the first `match` of `parseToggle`: the text after each of the three openers is read by the same rule, so what
    follows speaks of `parseToggle (0x7B :: body)` -/
theorem parseToggle_opener {p : Bytes} (hp : IsCommentOpener p) (body : Bytes) :
    parseToggle (p ++ body) = parseToggle (0x7B :: body) := by
  rcases hp with rfl | rfl | rfl <;> rfl

theorem parseToggle_only_openers {c : Bytes} {tg : Toggle} (h : parseToggle c = some tg) :
    ∃ p body, IsCommentOpener p ∧ c = p ++ body := by
  unfold parseToggle at h
  split at h
  · exact ⟨_, _, .inl rfl, rfl⟩
  · exact ⟨_, _, .inr (.inl rfl), rfl⟩
  · exact ⟨_, _, .inr (.inr rfl), rfl⟩
  · cases h

def kwPasfmt : Bytes := [112, 97, 115, 102, 109, 116]
def toggleWord : Toggle → Bytes
  | .on => [111, 110]
  | .off => [111, 102, 102]

theorem pasfmt_bytes : "pasfmt".toUTF8.toList = kwPasfmt := by decide +kernel
theorem on_bytes : "on".toUTF8.toList = toggleWord .on := by decide +kernel
theorem off_bytes : "off".toUTF8.toList = toggleWord .off := by decide +kernel

theorem dropWhile_append_stop (p : UInt8 → Bool) (x rest : Bytes) (h : AllBytes p x)
    (hs : StopsAt p rest) : (x ++ rest).dropWhile p = rest := by
  rw [← drop_countWhile, countWhile_append_stop p x rest h hs]; simp

theorem eqIgnoreCase_on_off (word : Bytes) (h : eqIgnoreCase word (toggleWord .off) = true) :
    eqIgnoreCase word (toggleWord .on) = false := by
  cases hh : eqIgnoreCase word (toggleWord .on)
  · rfl
  · have h1 := eqIgnoreCase_length hh
    have h2 := eqIgnoreCase_length h
    simp [toggleWord] at h1 h2; omega

/-- the last step of `parseToggle` -/
theorem wordToggle_iff (word : Bytes) (tg : Toggle) :
    (if eqIgnoreCase word (toggleWord .on) = true then some Toggle.on
      else if eqIgnoreCase word (toggleWord .off) = true then some Toggle.off else none) = some tg ↔
      eqIgnoreCase word (toggleWord tg) = true := by
  have hoo := eqIgnoreCase_on_off word
  by_cases hon : eqIgnoreCase word (toggleWord .on) = true <;>
    by_cases hoff : eqIgnoreCase word (toggleWord .off) = true <;> cases tg <;> simp_all

/-- **The toggle parser on the cut of a text.**  Every text `body` is cut, in one way only, into its blank run `w1` and
    the rest `s1`; `s1` from its seventh byte on into the blank run `w2`, the alphanumeric run `word`, and `rest`
    (`span_spec` three times).  On that cut the parser asks three things. -/
theorem parseToggle_cut {w1 s1 w2 word rest : Bytes} (hw1 : AllBytes isAsciiWs w1) (hs1 : StopsAt isAsciiWs s1)
    (e : s1.drop 6 = w2 ++ (word ++ rest)) (hw2 : AllBytes isAsciiWs w2) (hs2 : StopsAt isAsciiWs (word ++ rest))
    (hword : AllBytes isAlnum word) (hrest : StopsAt isAlnum rest) (tg : Toggle) :
    parseToggle (0x7B :: (w1 ++ s1)) = some tg ↔
      eqIgnoreCase (s1.take 6) kwPasfmt = true ∧ w2 ≠ [] ∧ eqIgnoreCase word (toggleWord tg) = true := by
  unfold parseToggle
  simp only [dropWhile_append_stop _ _ _ hw1 hs1, e, countWhile_append_stop _ _ _ hw2 hs2, List.drop_left,
    countWhile_append_stop _ _ _ hword hrest, List.take_left, pasfmt_bytes, on_bytes, off_bytes]
  by_cases hk : eqIgnoreCase (s1.take 6) kwPasfmt = true
  · -- the model's test `s1.length < 6` is implied by the comparison
    have h6 : ¬ s1.length < 6 := by
      have := eqIgnoreCase_length hk
      simp only [List.length_take, kwPasfmt, List.length_cons, List.length_nil] at this
      omega
    by_cases hne : w2 = []
    · simp [hne]
    · simp [hk, h6, hne, wordToggle_iff]
  · simp [hk]

/-- `x` is the ASCII letter whose lower-case form is `y`, in either case -/
def LetterIC (x y : UInt8) : Prop := x = y ∨ x = y - 0x20

/-- `a` spells the lower-case ASCII word `w` up to the case of each letter -/
def SpellsIC : Bytes → Bytes → Prop
  | [], [] => True
  | x :: a, y :: w => LetterIC x y ∧ SpellsIC a w
  | _, _ => False

instance (x y : UInt8) : Decidable (LetterIC x y) := inferInstanceAs (Decidable (_ ∨ _))

instance instDecidableSpellsIC : (a w : Bytes) → Decidable (SpellsIC a w)
  | [], [] => isTrue trivial
  | x :: a, y :: w =>
    match (inferInstance : Decidable (LetterIC x y)), instDecidableSpellsIC a w with
    | isTrue h1, isTrue h2 => isTrue ⟨h1, h2⟩
    | isFalse h1, _ => isFalse fun h => h1 h.1
    | _, isFalse h2 => isFalse fun h => h2 h.2
  | [], _ :: _ => isFalse (fun h => h)
  | _ :: _, [] => isFalse (fun h => h)

instance (p : UInt8 → Bool) (w : Bytes) : Decidable (AllBytes p w) :=
  inferInstanceAs (Decidable (∀ b ∈ w, p b = true))

theorem toLower_eq_iff (x y : UInt8) (hy : isLower y = true) : toLowerByte x = y ↔ LetterIC x y := by
  constructor
  · rintro rfl
    exact toLowerByte_ind (P := fun x => x = toLowerByte x ∨ x = toLowerByte x - 0x20) (by decide +kernel)
      (fun _ _ e => .inl e.symm) x
  · rintro (rfl | rfl)
    · exact lower_fix x hy
    · exact lower_forall (P := fun y => toLowerByte (y - 0x20) = y) (by decide +kernel) y hy

theorem eqIgnoreCase_iff_spells (a w : Bytes) (hw : ∀ y ∈ w, isLower y = true) :
    eqIgnoreCase a w = true ↔ SpellsIC a w := by
  unfold eqIgnoreCase asciiLower
  rw [beq_iff_eq]
  induction a generalizing w with
  | nil => cases w <;> simp [SpellsIC]
  | cons x a ih =>
    cases w with
    | nil => simp [SpellsIC]
    | cons y w =>
      have hy := hw y (by simp)
      simp only [List.map_cons, List.cons.injEq, SpellsIC, lower_fix y hy, toLower_eq_iff x y hy]
      rw [ih w (fun z hz => hw z (by simp [hz]))]

theorem kwPasfmt_lower : ∀ y ∈ kwPasfmt, isLower y = true := by decide
theorem toggleWord_lower (tg : Toggle) : ∀ y ∈ toggleWord tg, isLower y = true := by cases tg <;> decide

/-- a word that spells a word of letters is not empty and starts with a letter: it ends a blank run -/
theorem stopsAt_ws_of_spells {a w : Bytes} (hs : SpellsIC a w) (hw : ∀ y ∈ w, isLower y = true)
    (hne : w ≠ []) (X : Bytes) : StopsAt isAsciiWs (a ++ X) := by
  match a, w, hs with
  | _, [], _ => exact absurd rfl hne
  | x :: a, y :: w, hs =>
    intro b t e
    cases e
    rw [← ws_lower, (toLower_eq_iff x y (hw y (by simp))).2 hs.1]
    exact lower_forall (P := fun y => isAsciiWs y = false) (by decide +kernel) y (hw y (by simp))

/-- **Declarative definition of a toggle comment** (no reference to the control structure of `parseToggle`).
    `c` is cut into six pieces `p ++ w1 ++ kw ++ w2 ++ word ++ rest`:
    * `p` is a comment opener: `//`, `(*` or `{`;
    * `w1` is any number (possibly zero) of ASCII blanks (`u8::is_ascii_whitespace`: space, `\t`, `\n`, `\x0C`, `\r`;
      not `\x0B`);
    * `kw` spells `pasfmt`, each letter in either case;
    * `w2` is at least one ASCII blank;
    * `word` consists of ASCII letters and digits and spells `on` / `off`, each letter in either case;
    * `rest` is empty or starts with a byte that is not an ASCII letter or digit, so `word` is the whole
      alphanumeric run (`w1` and `w2` are then necessarily the whole blank runs, since `kw` and `word` start with a letter).

    What the model (the ground truth, compared with the real `parse_toggle`) does at the edges, all consequences of
    this definition and checked by `example`s in `Props/C07.lean`:
    * `/// pasfmt off` is **not** a toggle: after the opener `//` comes `/`, neither a blank nor `p`;
    * `{$pasfmt off}` and `(*$pasfmt off*)` are not toggles (the `$`); the lexer types them as directives anyway and
      `togglerMarks` only looks at comment tokens;
    * `pasfmt ONx`, `pasfmt on1`, `pasfmt offf`, `pasfmt o`, `pasfmt only`, `pasfmt office` are not toggles: the whole alphanumeric run
      must be the word;
    * `pasfmt on.`, `pasfmt on)`, `pasfmt on_`, `pasfmt on*)`, `pasfmt on}` and `pasfmt on` followed by a non-ASCII character
      **are** toggles: an underscore, punctuation and every byte ≥ 0x80 end the word;
    * `pasfmtoff` is not a toggle (no blank), `pasfmt` + vertical tab + `on` is not (`\x0B` is not an ASCII blank for Rust);
    * the comment closer is not looked at; anything may follow the word. -/
def IsToggle (c : Bytes) (tg : Toggle) : Prop :=
  ∃ p w1 kw w2 word rest : Bytes, c = p ++ w1 ++ kw ++ w2 ++ word ++ rest ∧
    IsCommentOpener p ∧ AllBytes isAsciiWs w1 ∧ SpellsIC kw kwPasfmt ∧
    AllBytes isAsciiWs w2 ∧ w2 ≠ [] ∧
    AllBytes isAlnum word ∧ (∀ b t, rest = b :: t → isAlnum b = false) ∧ SpellsIC word (toggleWord tg)

/-- with the keyword in place, the whole blank run `w2` and the whole alphanumeric run `word` after it, the
    comment is a toggle exactly when `word` spells `on` / `off` -/
theorem toggle_word_iff (p w1 kw w2 word rest : Bytes) (tg : Toggle)
    (hp : IsCommentOpener p) (hw1 : AllBytes isAsciiWs w1) (hkw : SpellsIC kw kwPasfmt)
    (hw2 : AllBytes isAsciiWs w2) (hne : w2 ≠ []) (hmax : ∀ b t, word ++ rest = b :: t → isAsciiWs b = false)
    (hword : AllBytes isAlnum word) (hrest : ∀ b t, rest = b :: t → isAlnum b = false) :
    parseToggle (p ++ w1 ++ kw ++ w2 ++ word ++ rest) = some tg ↔ SpellsIC word (toggleWord tg) := by
  have hkw' := (eqIgnoreCase_iff_spells kw _ kwPasfmt_lower).mpr hkw
  have h6 : kw.length = 6 := eqIgnoreCase_length hkw'
  simp only [List.append_assoc]
  rw [parseToggle_opener hp,
    parseToggle_cut hw1 (stopsAt_ws_of_spells hkw kwPasfmt_lower (by decide) _) (List.drop_left' h6) hw2 hmax hword hrest,
    List.take_left' h6, eqIgnoreCase_iff_spells word _ (toggleWord_lower tg)]
  exact ⟨fun h => h.2.2, fun h => ⟨hkw', hne, h⟩⟩

/-- **`parseToggle` recognises exactly the toggle comments of the declarative definition**, for every byte string. -/
theorem toggle_spec (c : Bytes) (tg : Toggle) : parseToggle c = some tg ↔ IsToggle c tg := by
  constructor
  · intro h
    obtain ⟨p, body, hp, rfl⟩ := parseToggle_only_openers h
    obtain ⟨w1, s1, rfl, hw1, hs1⟩ := span_spec isAsciiWs body
    obtain ⟨w2, s3, e, hw2, hs2⟩ := span_spec isAsciiWs (s1.drop 6)
    obtain ⟨word, rest, rfl, hword, hrest⟩ := span_spec isAlnum s3
    rw [parseToggle_opener hp] at h
    obtain ⟨hkw, hne, htg⟩ := (parseToggle_cut hw1 hs1 e hw2 hs2 hword hrest tg).1 h
    refine ⟨p, w1, s1.take 6, w2, word, rest, ?_, hp, hw1, (eqIgnoreCase_iff_spells _ _ kwPasfmt_lower).1 hkw, hw2, hne,
      hword, hrest, (eqIgnoreCase_iff_spells _ _ (toggleWord_lower tg)).1 htg⟩
    simp only [List.append_assoc]
    rw [← e, List.take_append_drop]
  · rintro ⟨p, w1, kw, w2, word, rest, rfl, hp, hw1, hkw, hw2, hne, hword, hrest, htg⟩
    exact (toggle_word_iff p w1 kw w2 word rest tg hp hw1 hkw hw2 hne
      (stopsAt_ws_of_spells htg (toggleWord_lower tg) (by cases tg <;> decide) rest) hword hrest).2 htg

/-- only the exact words: with the keyword in place, if the whole alphanumeric run after the blanks spells neither `on`
    nor `off` (`only`, `offf`, `o`, `on1`, the empty word, …) the comment is not a toggle -/
theorem toggle_exact_words (p w1 kw w2 word rest : Bytes)
    (hp : IsCommentOpener p) (hw1 : AllBytes isAsciiWs w1) (hkw : SpellsIC kw kwPasfmt)
    (hw2 : AllBytes isAsciiWs w2) (hne : w2 ≠ []) (hmax : ∀ b t, word ++ rest = b :: t → isAsciiWs b = false)
    (hword : AllBytes isAlnum word) (hrest : ∀ b t, rest = b :: t → isAlnum b = false)
    (hon : ¬ SpellsIC word (toggleWord .on)) (hoff : ¬ SpellsIC word (toggleWord .off)) :
    parseToggle (p ++ w1 ++ kw ++ w2 ++ word ++ rest) = none := by
  cases h : parseToggle (p ++ w1 ++ kw ++ w2 ++ word ++ rest) with
  | none => rfl
  | some tg =>
    have := (toggle_word_iff p w1 kw w2 word rest tg hp hw1 hkw hw2 hne hmax hword hrest).mp h
    cases tg
    · exact absurd this hon
    · exact absurd this hoff

/-- the three comment forms are treated alike: the text after `//`, after `(*` and after `{` is read by the same rule -/
theorem toggle_three_comment_forms (body : Bytes) :
    parseToggle ([0x2F, 0x2F] ++ body) = parseToggle ([0x7B] ++ body) ∧
    parseToggle ([0x28, 0x2A] ++ body) = parseToggle ([0x7B] ++ body) :=
  ⟨parseToggle_opener (.inl rfl) body, parseToggle_opener (.inr (.inl rfl)) body⟩

/-! lower-casing the text changes no test of the parser -/

theorem countWhile_lower (p : UInt8 → Bool) (hp : ∀ x, p (toLowerByte x) = p x) (l : Bytes) :
    countWhile p (asciiLower l) = countWhile p l := by
  rw [countWhile_eq_takeWhile, countWhile_eq_takeWhile, asciiLower, List.takeWhile_map, List.length_map,
    (funext hp : p ∘ toLowerByte = p)]

theorem dropWhile_lower (p : UInt8 → Bool) (hp : ∀ x, p (toLowerByte x) = p x) (l : Bytes) :
    (asciiLower l).dropWhile p = asciiLower (l.dropWhile p) := by
  rw [asciiLower, List.dropWhile_map, (funext hp : p ∘ toLowerByte = p)]; rfl

theorem parseToggle_body_lower (b : Bytes) : parseToggle (0x7B :: asciiLower b) = parseToggle (0x7B :: b) := by
  unfold parseToggle
  simp only [dropWhile_lower isAsciiWs ws_lower]
  have e1 : ∀ n (l : Bytes), (asciiLower l).take n = asciiLower (l.take n) := by intro n l; simp [asciiLower]
  have e2 : ∀ n (l : Bytes), (asciiLower l).drop n = asciiLower (l.drop n) := by intro n l; simp [asciiLower]
  simp only [e1, e2, countWhile_lower isAsciiWs ws_lower, countWhile_lower isAlnum alnum_lower,
    eqIgnoreCase_lower, asciiLower_length]

theorem parseToggle_lower (c : Bytes) : parseToggle (asciiLower c) = parseToggle c := by
  have hA : ∀ {p body}, IsCommentOpener p → parseToggle (asciiLower (p ++ body)) = parseToggle (p ++ body) := by
    intro p body hp
    rw [asciiLower_append, show asciiLower p = p by rcases hp with rfl | rfl | rfl <;> rfl, parseToggle_opener hp,
      parseToggle_opener hp, parseToggle_body_lower]
  cases h : parseToggle (asciiLower c) with
  | some tg =>
    obtain ⟨p, body', hp, e⟩ := parseToggle_only_openers h
    -- no byte of an opener is a letter
    obtain ⟨body, rfl, -⟩ := (asciiLower_eq_append_iff (by rcases hp with rfl | rfl | rfl <;> decide) c body').1 e
    rw [← h, hA hp]
  | none =>
    cases h' : parseToggle c with
    | none => rfl
    | some tg =>
      obtain ⟨p, body, hp, rfl⟩ := parseToggle_only_openers h'
      rw [← h', ← hA hp, h]

/-- two comments that differ only in the case of ASCII letters (anywhere: in `pasfmt`, in `on`/`off`, in the trailing text)
    get the same answer -/
theorem toggle_case_insensitive (c c' : Bytes) (h : asciiLower c' = asciiLower c) :
    parseToggle c' = parseToggle c := by
  rw [← parseToggle_lower c', h, parseToggle_lower]

/-- the toggle value of a token: only comment tokens can be toggles -/
def tokToggle (t : Tok) : Option Toggle := if isCommentKind t.kind then parseToggle t.content else none

/-- token `t` is a toggle comment with value `tg` (declarative) -/
def IsToggleTok (t : Tok) (tg : Toggle) : Prop := isCommentKind t.kind = true ∧ IsToggle t.content tg

theorem tokToggle_iff (t : Tok) (tg : Toggle) : tokToggle t = some tg ↔ IsToggleTok t tg := by
  unfold tokToggle IsToggleTok
  split
  · rename_i h; simp [h, toggle_spec]
  · rename_i h; simp [h]

theorem tokToggle_none_iff (t : Tok) : tokToggle t = none ↔ ∀ tg, ¬ IsToggleTok t tg := by
  simp only [← tokToggle_iff, Option.eq_none_iff_forall_ne_some, ne_eq]

/-- one step of the loop's variable `ignored` -/
def togStep (ig : Bool) (t : Tok) : Bool :=
  match tokToggle t with | some .off => true | some .on => false | none => ig

/-- the loop's variable `ignored` when it reaches position `i` -/
def togState (ig : Bool) (toks : List Tok) (i : Nat) : Bool := (toks.take i).foldl togStep ig

theorem togStep_or (ig : Bool) (t : Tok) : (togStep ig t || (tokToggle t).isSome) = ((tokToggle t).isSome || ig) := by
  unfold togStep
  cases tokToggle t with
  | none => simp
  | some tg => cases tg <;> rfl

/-- the marks position by position: a toggle comment is marked, every other token as the loop's variable says -/
theorem togglerMarksGo_getElem? (ig : Bool) (toks : List Tok) (i : Nat) :
    (togglerMarksGo ig toks)[i]? =
      (toks[i]?).map fun t => (tokToggle t).isSome || togState ig toks i := by
  induction toks generalizing ig i with
  | nil => rfl
  | cons t r ih =>
    cases i with
    | zero => exact congrArg some (togStep_or ig t)
    | succ i => exact ih _ i

theorem togglerMarks_getElem? {toks : List Tok} {i : Nat} {t : Tok} (h : toks[i]? = some t) :
    (togglerMarks toks)[i]? = some ((tokToggle t).isSome || togState false toks i) := by
  unfold togglerMarks
  rw [togglerMarksGo_getElem?, h]; rfl

theorem togStep_of_toggle {t : Tok} {tg : Toggle} (h : IsToggleTok t tg) (ig : Bool) :
    togStep ig t = (tg == .off) := by
  unfold togStep; rw [(tokToggle_iff t tg).mpr h]; cases tg <;> rfl

theorem togStep_of_not {t : Tok} {v : Bool} (h : ¬ IsToggleTok t (if v then .on else .off)) : togStep v t = v := by
  unfold togStep
  cases ht : tokToggle t with
  | none => rfl
  | some tg =>
    have := (tokToggle_iff t tg).mp ht
    cases tg <;> cases v <;> first | rfl | exact absurd this h

/-- the loop's step at any position, past the end included -/
theorem togState_succ (ig : Bool) (toks : List Tok) (i : Nat) :
    togState ig toks (i + 1) = (toks[i]?).elim (togState ig toks i) (togStep (togState ig toks i)) := by
  unfold togState
  rw [List.take_add_one, List.foldl_append]; cases toks[i]? <;> rfl

/-- the variable keeps the value `v` over a stretch with no toggle of the other value -/
theorem togState_run {toks : List Tok} {ig v : Bool} {j : Nat} (hj : togState ig toks j = v) (i : Nat) (hji : j ≤ i)
    (h : ∀ k t, j ≤ k → k < i → toks[k]? = some t → ¬ IsToggleTok t (if v then .on else .off)) :
    togState ig toks i = v := by
  obtain ⟨d, rfl⟩ := Nat.exists_eq_add_of_le hji
  clear hji
  induction d with
  | zero => exact hj
  | succ d ih =>
    rw [← Nat.add_assoc, togState_succ, ih fun k t h1 h2 => h k t h1 (by omega)]
    cases ht : toks[j + d]? with
    | none => rfl
    | some t => exact togStep_of_not (h _ t (by omega) (by omega) ht)

theorem togState_after {toks : List Tok} {j : Nat} {tj : Tok} {tg : Toggle} (hj : toks[j]? = some tj)
    (h : IsToggleTok tj tg) (ig : Bool) : togState ig toks (j + 1) = (tg == .off) := by
  rw [togState_succ, hj]; exact togStep_of_toggle h _

theorem isSome_tokToggle (t : Tok) : (tokToggle t).isSome = true ↔ ∃ tg, IsToggleTok t tg := by
  simp only [Option.isSome_iff_exists, tokToggle_iff]

theorem togglerMarksGo_length (ig : Bool) (toks : List Tok) : (togglerMarksGo ig toks).length = toks.length := by
  induction toks generalizing ig with
  | nil => rfl
  | cons t r ih => simp [togglerMarksGo, ih]

theorem togglerMarks_length (toks : List Tok) : (togglerMarks toks).length = toks.length :=
  togglerMarksGo_length false toks

/-- no toggle comment strictly between positions `j` and `i` -/
def NoToggleBetween (toks : List Tok) (j i : Nat) : Prop :=
  ∀ k t, j < k → k < i → toks[k]? = some t → ∀ tg, ¬ IsToggleTok t tg

/-- the nearest toggle comment strictly before position `i` exists and is an `off` -/
def AfterOff (toks : List Tok) (i : Nat) : Prop :=
  ∃ j tj, j < i ∧ toks[j]? = some tj ∧ IsToggleTok tj .off ∧ NoToggleBetween toks j i

/-- the variable is set exactly after an `off` with no toggle since -/
theorem togState_true_iff (toks : List Tok) (i : Nat) : togState false toks i = true ↔ AfterOff toks i := by
  constructor
  · induction i with
    | zero => intro h; cases h
    | succ i ih =>
      rw [togState_succ]
      intro h
      by_cases hti : ∃ t tg, toks[i]? = some t ∧ IsToggleTok t tg
      · obtain ⟨t, tg, ht, htg⟩ := hti
        rw [ht, Option.elim_some, togStep_of_toggle htg] at h
        cases tg
        · cases h
        · exact ⟨i, t, by omega, ht, htg, fun k t h1 h2 => by omega⟩
      · have hs : togState false toks i = true := by
          cases ht : toks[i]? with
          | none => rwa [ht] at h
          | some t => rwa [ht, Option.elim_some, togStep_of_not fun h' => hti ⟨t, _, ht, h'⟩] at h
        obtain ⟨j, tj, hj, htj, hoff, hb⟩ := ih hs
        refine ⟨j, tj, by omega, htj, hoff, fun k t h1 h2 hk tg htg => ?_⟩
        by_cases hki : k < i
        · exact hb k t h1 hki hk tg htg
        · exact hti ⟨t, tg, (show k = i by omega) ▸ hk, htg⟩
  · rintro ⟨j, tj, hj, htj, hoff, hb⟩
    exact togState_run (togState_after htj hoff _) i hj fun k t h1 h2 hk => hb k t h1 h2 hk _

/-- **Which tokens the toggler marks**, for every token list: position `i` is marked iff it holds a token and
    * that token is itself a toggle comment (`on` or `off`: both comments are kept as they are), or
    * there is an `off` toggle comment at some `j < i` with no toggle comment strictly between `j` and `i`
      (the nearest toggle before `i` is an `off`).
    Nothing is said about the kind of token `i`: the end-of-file token is marked like any other. -/
theorem toggler_regions (toks : List Tok) (i : Nat) :
    (togglerMarks toks)[i]? = some true ↔
      ∃ t, toks[i]? = some t ∧ ((∃ tg, IsToggleTok t tg) ∨ AfterOff toks i) := by
  unfold togglerMarks
  simp only [togglerMarksGo_getElem?, Option.map_eq_some_iff, Bool.or_eq_true, isSome_tokToggle, togState_true_iff]

theorem getD_false_eq_true_iff (l : List Bool) (i : Nat) : l.getD i false = true ↔ l[i]? = some true := by
  rw [List.getD_eq_getElem?_getD]
  cases l[i]? <;> simp

/-- `IgnoreAsmIstructions` marks exactly the token indices listed in the lines typed `AsmInstruction` -/
theorem asm_marks_spec (lines : List Line) (i : Nat) :
    i ∈ asmMarked lines ↔ ∃ l ∈ lines, l.ltype = .lAsmInstruction ∧ i ∈ l.tokens := by
  unfold asmMarked
  simp only [List.mem_flatMap, List.mem_filter, beq_iff_eq]
  constructor
  · rintro ⟨l, ⟨hl, ht⟩, hi⟩; exact ⟨l, hl, ht, hi⟩
  · rintro ⟨l, hl, ht, hi⟩; exact ⟨l, ⟨hl, ht⟩, hi⟩

theorem ignoredMarks_getElem? (toks : List Tok) (lines : List Line) (i : Nat) :
    (ignoredMarks toks lines)[i]? = (toks[i]?).map fun t =>
      (tokToggle t).isSome || togState false toks i || (asmMarked lines).contains i := by
  unfold ignoredMarks togglerMarks
  simp only [List.getElem?_map, List.getElem?_zipIdx, togglerMarksGo_getElem?, Nat.zero_add]
  cases toks[i]? <;> rfl

/-- **Which tokens are ignored**: position `i` holds a token and that token is a toggle comment, or comes after an
    `off` with no toggle comment in between, or belongs to a line that the parser typed as an asm instruction. -/
theorem ignoredMarks_spec (toks : List Tok) (lines : List Line) (i : Nat) :
    (ignoredMarks toks lines)[i]? = some true ↔
      ∃ t, toks[i]? = some t ∧ ((∃ tg, IsToggleTok t tg) ∨ AfterOff toks i ∨
        ∃ l ∈ lines, l.ltype = .lAsmInstruction ∧ i ∈ l.tokens) := by
  simp only [ignoredMarks_getElem?, Option.map_eq_some_iff, Bool.or_eq_true, isSome_tokToggle, togState_true_iff,
    List.contains_iff_mem, asm_marks_spec, or_assoc]

/-- the `ignored` flag of `FormattedTokens::new_from_tokens` is the mark, and the token is the scanned token -/
theorem FT_new_ignored (toks : List Tok) (marks : List Bool) (i : Nat) (ft : FTok)
    (h : (FT.new toks (fun i => marks.getD i false))[i]? = some ft) :
    ft.fmt.ignored = marks.getD i false ∧ toks[i]? = some ft.tok := by
  rw [ftNew_getElem?] at h
  obtain ⟨t, ht, rfl⟩ := Option.map_eq_some_iff.1 h
  exact ⟨rfl, ht⟩

/-- a token whose mark is `false` enters the rules with `ignored = false`: nothing protects it, the token rules
    (`set_content`, spacing, …) apply to it -/
theorem unmarked_still_formatted (toks : List Tok) (marks : List Bool) (i : Nat) (ft : FTok)
    (h : (FT.new toks (fun i => marks.getD i false))[i]? = some ft) (hm : marks[i]? = some false) :
    ft.fmt.ignored = false := by
  rw [(FT_new_ignored toks marks i ft h).1, List.getD_eq_getElem?_getD, hm]; rfl

theorem any_id_iff (marks : List Bool) : marks.any id = true ↔ ∃ i : Nat, marks[i]? = some true := by
  simp [List.mem_iff_getElem?]

/-- the line `l` is one that the void step empties: some token of the file is marked, and every token of the
    line is marked (true of a line without tokens) -/
def Voided (marks : List Bool) (l : Line) : Prop :=
  (∃ i : Nat, marks[i]? = some true) ∧ ∀ t ∈ l.tokens, marks[t]? = some true

/-- the void step line by line: one test for every line -/
theorem voidLines_eq_map (marks : List Bool) (lines : List Line) :
    voidLines marks lines = lines.map fun l =>
      if marks.any id && l.tokens.all fun t => marks.getD t false then { l with ltype := .lVoided, tokens := [] } else l := by
  unfold voidLines
  cases marks.any id <;> simp

/-- `Voided` is that test -/
theorem voided_iff (marks : List Bool) (l : Line) :
    Voided marks l ↔ (marks.any id && l.tokens.all fun t => marks.getD t false) = true := by
  simp only [Voided, Bool.and_eq_true, List.all_eq_true, getD_false_eq_true_iff, any_id_iff]

/-- a line is voided (type `Voided`, no tokens) exactly when at least one token of the file is marked and every
    token of the line is marked; every other line is unchanged -/
theorem voidLines_spec (marks : List Bool) (lines : List Line) (n : Nat) (l : Line) (hl : lines[n]? = some l) :
    (Voided marks l → (voidLines marks lines)[n]? = some { l with ltype := .lVoided, tokens := [] }) ∧
    (¬ Voided marks l → (voidLines marks lines)[n]? = some l) := by
  rw [voidLines_eq_map, List.getElem?_map, hl, voided_iff, Option.map_some]
  generalize (marks.any id && l.tokens.all fun t => marks.getD t false) = c
  cases c <;> simp

end Pasfmt
