/-
  `begin_style = always_wrap`, carried from the point where the search decides it (`begin_always_wrap_partial`) to the
  solution the search RETURNS: the invariants of `SearchChildLines` (`TreeOk`, `CacheOk`) are strengthened so
  that every decision remembers WHICH record of `O.lineChildren` its child solutions were made for (identified through
  the child line indices), and that for a record "children of `else`/`then`/`do`/case-arm colon, first child line
  starts with `begin`" the option chosen was "break before every child line, at the parent line's indentation".
-/
import PasfmtModel.Proofs.SearchChildLines

namespace Pasfmt

/-- where the child solutions of a decision come from: there are none, or they are the solutions of exactly the child
    lines of a record of `O.lineChildren`, and if that record satisfies `BeginCond` the option they were placed by is
    "break before every child line, at the parent's indentation" -/
def ChildrenFrom (O : Olf) (W : LineWhitespace) (option : ChildLineOption) (sols : List (Nat × FormattingSolution)) :
    Prop :=
  sols = [] ∨ ∃ key lc, O.lineChildren.get? key = some lc ∧ sols.map (·.1) = lc.lineIndices.toList ∧
      (BeginCond O lc → option = .breakAll { whitespace := W, deindent := 1 })

/-- `TreeOk`, and every decision knows where its child solutions come from (`ChildrenFrom`) -/
inductive TreeOk' (O : Olf) : FormattingSolution → Prop
  | mk (ws : LineWhitespace) (decs : List TokenDecision) (pen len : Nat)
      (h : ∀ d ∈ decs, ∃ option : ChildLineOption, OptionFrom ws option ∧
          (∀ p x, d.childSolutions[p]? = some x → ChildSolOk O option p x) ∧
          ChildrenFrom O ws option d.childSolutions)
      (hrec : ∀ d ∈ decs, ∀ x ∈ d.childSolutions, TreeOk' O x.2) :
      TreeOk' O (.mk ws decs pen len)


/-- a list of child solutions of one option, with the strengthened invariant inside each of them -/
def ChildListOk' (O : Olf) (option : ChildLineOption) (sols : List (Nat × FormattingSolution)) : Prop :=
  (∀ p x, sols[p]? = some x → ChildSolOk O option p x) ∧ ∀ x ∈ sols, TreeOk' O x.2

/-- what `TreeOk'` asks of every decision of the tree -/
theorem treeOk'_iff_all (O : Olf) (li : Nat) (sol : FormattingSolution) :
    TreeOk' O sol ↔ TreeAll (fun _ W _ d => ∃ option : ChildLineOption, OptionFrom W option ∧
      (∀ p x, d.childSolutions[p]? = some x → ChildSolOk O option p x) ∧
      ChildrenFrom O W option d.childSolutions) li sol := by
  constructor
  · intro h
    induction h generalizing li with
    | mk ws decs pen len h _ ih =>
      exact .mk li ws decs pen len (fun i d hd => h d (List.mem_of_getElem? hd)) fun d hd x hx => ih d hd x hx x.1
  · intro h
    induction h with
    | mk li ws decs pen len h _ ih =>
      refine .mk ws decs pen len (fun d hd => ?_) ih
      obtain ⟨i, hi⟩ := List.getElem?_of_mem hd
      exact h i d hi

theorem TreeOk'.toTreeOk {O : Olf} {sol : FormattingSolution} (h : TreeOk' O sol) : TreeOk O sol :=
  (treeOk_iff_all O 0 sol).2 (((treeOk'_iff_all O 0 sol).1 h).mono fun _ _ _ _ ⟨o, a, b, _⟩ => ⟨o, a, b⟩)

/-- every entry of the cache is a well-placed list of child solutions for the option in its key, and the solutions of
    exactly the child lines of the record of `O.lineChildren` its key names -/
def CacheOk' (O : Olf) (cache : ChildLineCache) : Prop :=
  ∀ (key : ChildLineInitialConditions) sols, cache[key]? = some sols →
    ChildListOk' O key.childLineOption sols ∧
    ∀ lc, O.lineChildren.get? (key.parentLine, key.parentToken) = some lc → sols.map (·.1) = lc.lineIndices.toList


theorem findOptimalChildLinesSolution_ok' (O : Olf) (solve : Solver) (hK : SolverKey O solve)
    (hT : SolverAll (CacheOk' O) (fun _ => TreeOk' O) solve)
    (cache : ChildLineCache) (line : Nat × LineA) (nli : Nat) (W : LineWhitespace) (decision : DecisionRef)
    (stack : SpecificContextStack) (node : FormattingNode) (tll pc : Nat) (hc : CacheOk' O cache) :
    CacheOk' O (O.findOptimalChildLinesSolution solve cache line nli W decision stack node tll pc).2 ∧
    ∀ sols ∈ (O.findOptimalChildLinesSolution solve cache line nli W decision stack node tll pc).1.toList,
      ∃ option, OptionFrom W option ∧ ChildListOk' O option sols ∧ ChildrenFrom O W option sols := by
  refine findOptimalChildLinesSolution_inv O solve
    (fun key sols => ChildListOk' O key.childLineOption sols ∧
      ∀ lc, O.lineChildren.get? (key.parentLine, key.parentToken) = some lc → sols.map (·.1) = lc.lineIndices.toList)
    (fun sols => ∃ option, OptionFrom W option ∧ ChildListOk' O option sols ∧ ChildrenFrom O W option sols)
    cache line nli W decision stack node tll pc ⟨.continueAll, Or.inl rfl, ⟨fun _ _ h => by simp at h, fun _ h => by simp at h⟩, Or.inl rfl⟩ ?_ ?_ hc
  · intro lc hlc option c r c' hcc h
    obtain ⟨h1, h2⟩ := solveChildLines_placed O solve hK _ (fun _ => TreeOk' O) hT option _ c tll r c' hcc h
    refine ⟨h1, fun sols hs => ⟨⟨(h2 sols hs).1, (h2 sols hs).2.1⟩, fun lc' hlc' => ?_⟩⟩
    cases hlc.symm.trans hlc'
    exact (h2 sols hs).2.2
  · intro lc hlc option ho hb sols hk
    exact ⟨option, ho, hk.1, Or.inr ⟨_, lc, hlc, hk.2 lc hlc, hb⟩⟩

theorem findOptimalSolution_ok' (O : Olf) (fuel : Nat) :
    SolverAll (CacheOk' O) (fun _ => TreeOk' O) (O.findOptimalSolution fuel) :=
  findOptimalSolution_all O (CacheOk' O) (fun _ => TreeOk' O) (fun fuel hT cache ws lineIdx fd hc =>
    findOptimalSolutionWith_all (T := fun _ => TreeOk' O) (treeOk'_iff_all O)
      O _ ws lineIdx fd (CacheOk' O)
      (fun W cs => ∃ option, OptionFrom W option ∧ ChildListOk' O option cs ∧ ChildrenFrom O W option cs)
      (fun c line nli W dref stack node tll pc =>
        findOptimalChildLinesSolution_ok' O _ (findOptimalSolution_key O fuel) hT c line nli W dref stack node tll pc)
      (fun _ _ ⟨_, _, h, _⟩ => h.2) (fun _ _ _ _ _ _ _ ⟨o, h1, h2, h3⟩ => ⟨o, h1, h2.1, h3⟩)
      (fun _ _ _ _ _ ⟨o, h1, h2, h3⟩ => ⟨o, h1, h2.1, h3⟩) cache hc) fuel

theorem format_line_begin_always_wrap (O : Olf) (cache : ChildLineCache) (lineIdx : Nat) (hc : CacheOk' O cache) :
    CacheOk' O (O.formatLine cache lineIdx).2 ∧ ∀ sol, (O.formatLine cache lineIdx).1 = some sol → TreeOk' O sol :=
  formatLine_all O (CacheOk' O) (fun _ => TreeOk' O) (findOptimalSolution_ok' O _) cache lineIdx hc

theorem TreeOk'.child {O : Olf} {sol : FormattingSolution} (h : TreeOk' O sol) {d : TokenDecision}
    (hd : d ∈ sol.decisions) {p : Nat} {x : Nat × FormattingSolution} (hx : d.childSolutions[p]? = some x) :
    TreeOk' O x.2 := by
  exact (treeOk'_iff_all O _ _).2 ((((treeOk'_iff_all O 0 sol).1 h).mem hd).2 x (List.mem_of_getElem? hx))

theorem begin_always_wrap {O : Olf} {sol : FormattingSolution} (h : TreeOk' O sol) {d : TokenDecision}
    (hd : d ∈ sol.decisions) :
    ∃ option, OptionFrom sol.startingWs option ∧
      (∀ p x, d.childSolutions[p]? = some x → ChildSolOk O option p x ∧ TreeOk' O x.2) ∧
      (d.childSolutions = [] ∨ ∃ key lc, O.lineChildren.get? key = some lc ∧
        d.childSolutions.map (·.1) = lc.lineIndices.toList ∧
        (BeginCond O lc → option = .breakAll { whitespace := sol.startingWs, deindent := 1 } ∧
          ∀ x, d.childSolutions[0]? = some x →
            x.2.startingWs = { indentations := sol.startingWs.indentations + (O.lines[x.1]!).level - 1,
                               continuations := sol.startingWs.continuations } ∧
            ((O.lines[x.1]!).tokens[0]?.isSome →
              (x.2.decisions.head?).map (·.decision) = some (rootDec O (O.lines[x.1]!) .brk)))) := by
  obtain ⟨⟨_, o, h1, h2, h3⟩, hc⟩ := ((treeOk'_iff_all O 0 sol).1 h).mem hd
  refine ⟨o, h1, fun p x hx => ⟨h2 p x hx, (treeOk'_iff_all O _ _).2 (hc x (List.mem_of_getElem? hx))⟩, ?_⟩
  rcases h3 with h3 | ⟨key, lc, a, b, c⟩
  · exact Or.inl h3
  · refine Or.inr ⟨key, lc, a, b, fun hb => ?_⟩
    have ho := c hb
    subst ho
    refine ⟨rfl, fun x hx => ?_⟩
    obtain ⟨e1, e2⟩ := h2 0 x hx
    exact ⟨by rw [e1]; rfl, fun hne => by rw [e2 hne]; rfl⟩

theorem BeginCond.congr {O O' : Olf} (h : SameView O O') {lc : LineChildren} (hb : BeginCond O lc) :
    BeginCond O' lc := by
  unfold BeginCond firstChildTokenType Olf.breakBeforeBegin at hb ⊢
  rw [h.cfg, h.lines]
  simp only [h.kinds]
  exact hb

theorem ChildrenFrom.congr {O O' : Olf} (h : SameView O O') {W : LineWhitespace} {option : ChildLineOption}
    {sols : List (Nat × FormattingSolution)} (hc : ChildrenFrom O W option sols) : ChildrenFrom O' W option sols := by
  rcases hc with hc | ⟨key, lc, a, b, c⟩
  · exact Or.inl hc
  · exact Or.inr ⟨key, lc, by rw [h.lineChildren]; exact a, b, fun hb => c (hb.congr h.symm)⟩

theorem TreeOk'.congr {O O' : Olf} (h : SameView O O') {sol : FormattingSolution} (hs : TreeOk' O sol) :
    TreeOk' O' sol :=
  (treeOk'_iff_all O' 0 sol).2 (((treeOk'_iff_all O 0 sol).1 hs).mono
    fun _ _ _ _ ⟨o, a, b, c⟩ => ⟨o, a, fun p x hx => (b p x hx).congr h, c.congr h⟩)

theorem CacheOk'.congr {O O' : Olf} (h : SameView O O') {cache : ChildLineCache} (hc : CacheOk' O cache) :
    CacheOk' O' cache := by
  intro key sols hk
  obtain ⟨⟨a, b⟩, c⟩ := hc key sols hk
  refine ⟨⟨fun p x hx => (a p x hx).congr h, fun x hx => (b x hx).congr h⟩, ?_⟩
  rw [h.lineChildren]
  exact c

/-- an applied solution `(phase, line, solution)` is the image of a search solution that starts with the line's level
    and satisfies the strengthened invariant `TreeOk'` -/
def SolOk' (O : Olf) (x : Nat × Nat × Sol) : Prop :=
  ∃ sol : FormattingSolution, x.2.2 = sol.toSol (O.lines.size + 1) ∧ TreeOk' O sol ∧
    sol.startingWs = { indentations := (O.lines[x.2.1]!).level, continuations := 0 }

theorem SolOk'.toSolOk {O : Olf} {x : Nat × Nat × Sol} (h : SolOk' O x) : SolOk O x := by
  obtain ⟨sol, a, b, c⟩ := h
  exact ⟨sol, a, b.toTreeOk, c⟩

/-- every solution the stage applies is the image of a search solution with `TreeOk'` that starts with its line's level -/
theorem wrapStageFull_begin_always_wrap (cfg : Config) (lines : List Line) (ft ftz : FT)
    (sols : List (Nat × Nat × Sol)) (h : wrapStageFull cfg lines ft = some (ftz, sols)) :
    ∀ x ∈ sols, SolOk' (stageOlf (searchInit cfg lines ft) ft) x :=
  wrapStageFull_inv CacheOk'
    (fun O li sol => TreeOk' O sol ∧ sol.startingWs = { indentations := (O.lines[li]!).level, continuations := 0 })
    (fun hv hc => hc.congr hv) (fun hv h => ⟨h.1.congr hv, by rw [hv.lines]; exact h.2⟩)
    (fun O cache i hc => ⟨(format_line_begin_always_wrap O cache i hc).1, fun sol hs =>
      ⟨(format_line_begin_always_wrap O cache i hc).2 sol hs, formatLine_level O cache i sol hs⟩⟩)
    (fun _ => cacheBy_empty _) cfg lines ft ftz sols h

theorem wrapStageFull_children (cfg : Config) (lines : List Line) (ft ftz : FT) (sols : List (Nat × Nat × Sol))
    (h : wrapStageFull cfg lines ft = some (ftz, sols)) :
    ∀ x ∈ sols, SolOk (stageOlf (searchInit cfg lines ft) ft) x :=
  fun x hx => (wrapStageFull_begin_always_wrap cfg lines ft ftz sols h x hx).toSolOk

/-- in the formatter state of the wrapper stage, `break_before_begin` is the configuration's `begin_style = always_wrap` -/
theorem stageOlf_breakBeforeBegin (cfg : Config) (lines : List Line) (ft : FT) :
    (stageOlf (searchInit cfg lines ft) ft).breakBeforeBegin = cfg.searchCfg.beginAlwaysWrap := rfl

end Pasfmt
