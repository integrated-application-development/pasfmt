/-
  The wrapper stage (`wrapStageFull`, `wrapStage`) is a fixed sequence of passes over the token state: apply solutions
  (`applySol`), re-indent the multi-line literals (`mlsLine`), zero the spaces at line starts.  The induction through
  that sequence is done once, for two runs on token states related position by position (`Pw`): the second run answers
  whenever the first does, with related answers of the same length; an instance supplies the fact about one token.
  A relation `R w j t t'` may ask more of a position that a solution has written (`w`; `DecLift`).  One run is the case
  where the second state is the first (`Since`, `since_run`, `StepRel`).
  `Model/LayoutCheck.lean` supplies `solTokens` and `allWritten`.
-/
import PasfmtModel.Model.WrapStageFull
import PasfmtModel.Model.LayoutCheck
import PasfmtModel.Proofs.TextRule

namespace Pasfmt

theorem getElem?_lt_of_some {α : Type} {l : List α} {j : Nat} {a : α} (h : l[j]? = some a) : j < l.length := by
  rcases Nat.lt_or_ge j l.length with h1 | h1
  · exact h1
  · rw [List.getElem?_eq_none h1] at h; cases h

theorem set_self {α : Type} (l : List α) (i : Nat) (x : α) (h : l[i]? = some x) : l.set i x = l := by
  obtain ⟨hi, rfl⟩ := List.getElem?_eq_some_iff.1 h
  exact List.set_getElem_self hi

/-- two lists of equal length related position by position (`R` may depend on the position) -/
def Pw {α : Type} (R : Nat → α → α → Prop) (l l' : List α) : Prop :=
  l.length = l'.length ∧ ∀ j a b, l[j]? = some a → l'[j]? = some b → R j a b

theorem Pw.get {α : Type} {R : Nat → α → α → Prop} {l l' : List α} (h : Pw R l l') {j : Nat} {a : α}
    (ha : l[j]? = some a) : ∃ b, l'[j]? = some b ∧ R j a b := by
  have hj' : j < l'.length := h.1 ▸ getElem?_lt_of_some ha
  exact ⟨l'[j], List.getElem?_eq_getElem hj', h.2 j a _ ha (List.getElem?_eq_getElem hj')⟩

theorem Pw.get_none {α : Type} {R : Nat → α → α → Prop} {l l' : List α} (h : Pw R l l') {j : Nat}
    (ha : l[j]? = none) : l'[j]? = none := by
  rw [List.getElem?_eq_none_iff] at ha ⊢
  rw [← h.1]; exact ha

theorem Pw.imp {α : Type} {R S : Nat → α → α → Prop} {l l' : List α} (h : Pw R l l')
    (hrs : ∀ j a b, j < l.length → R j a b → S j a b) : Pw S l l' :=
  ⟨h.1, fun j a b ha hb => hrs j a b (getElem?_lt_of_some ha) (h.2 j a b ha hb)⟩

theorem Pw.tail {α : Type} {R : Nat → α → α → Prop} {a b : α} {l l' : List α} (h : Pw R (a :: l) (b :: l')) :
    R 0 a b ∧ Pw (fun j => R (j + 1)) l l' :=
  ⟨h.2 0 a b rfl rfl, by have := h.1; simpa using this,
    fun j x y hx hy => h.2 (j + 1) x y (by simpa using hx) (by simpa using hy)⟩

theorem Pw.set {α : Type} {R : Nat → α → α → Prop} {l l' : List α} (h : Pw R l l') (i : Nat) (u u' : α)
    (hu : R i u u') : Pw R (l.set i u) (l'.set i u') := by
  refine ⟨by simp [h.1], fun j x x' hx hx' => ?_⟩
  rw [List.getElem?_set] at hx hx'
  by_cases hij : i = j
  · subst hij
    by_cases hl : i < l.length
    · have hl' : i < l'.length := h.1 ▸ hl
      simp [hl] at hx; simp [hl'] at hx'
      subst hx; subst hx'
      exact hu
    · simp [hl] at hx
  · simp [hij] at hx hx'
    exact h.2 j x x' hx hx'

theorem Pw.map {α β : Type} {R : Nat → α → α → Prop} {S : Nat → β → β → Prop} {l l' : List α} (h : Pw R l l')
    (f g : α → β) (hfg : ∀ j a b, l[j]? = some a → R j a b → S j (f a) (g b)) : Pw S (l.map f) (l'.map g) := by
  refine ⟨by simp [h.1], ?_⟩
  intro j a b ha hb
  simp only [List.getElem?_map] at ha hb
  cases h1 : l[j]? with
  | none => rw [h1] at ha; simp at ha
  | some x =>
    obtain ⟨y, h2, r⟩ := h.get h1
    rw [h1] at ha; rw [h2] at hb
    simp at ha hb
    subst ha; subst hb
    exact hfg j x y h1 r

theorem Pw.length {α : Type} {R : Nat → α → α → Prop} {l l' : List α} (h : Pw R l l') : l.length = l'.length := h.1

theorem Pw.refl {α : Type} {R : Nat → α → α → Prop} (hrefl : ∀ j a, R j a a) (l : List α) : Pw R l l :=
  ⟨rfl, fun j a b ha hb => by rw [ha] at hb; cases hb; exact hrefl j a⟩

theorem Pw.trans {α : Type} {Q : Nat → α → α → Prop} (htrans : ∀ j a b c, Q j a b → Q j b c → Q j a c) {l1 l2 l3 : List α}
    (h1 : Pw Q l1 l2) (h2 : Pw Q l2 l3) : Pw Q l1 l3 :=
  ⟨h1.1.trans h2.1, fun j a c ha hc => by
    obtain ⟨b, hb, q⟩ := h1.get ha
    exact htrans j a b c q (h2.2 j b c hb hc)⟩

theorem Pw.forall_of_imp {α : Type} {I : α → Prop} {l l' : List α} (h : Pw (fun _ a b => I a → I b) l l')
    (hl : ∀ a ∈ l, I a) : ∀ b ∈ l', I b := by
  intro b hb
  obtain ⟨j, hj⟩ := List.mem_iff_getElem?.1 hb
  have hlt : j < l.length := h.1 ▸ getElem?_lt_of_some hj
  exact h.2 j _ b (List.getElem?_eq_getElem hlt) hj (hl _ (List.getElem_mem hlt))

theorem Pw.map_eq {α β : Type} {R : Nat → α → α → Prop} {l l' : List α} (h : Pw R l l') (f : α → β)
    (hf : ∀ j a b, R j a b → f a = f b) : l.map f = l'.map f := by
  apply List.ext_getElem?
  intro j
  simp only [List.getElem?_map]
  cases hj : l[j]? with
  | none => rw [h.get_none hj]
  | some a =>
    obtain ⟨b, hb, r⟩ := h.get hj
    rw [hb, Option.map_some, Option.map_some, hf j a b r]

/-- one run, read off a statement about two: the second state is the first (`b = a`), and `I j a0 a` relates the element
    `a0` that a reference list `l0` has at the position (as a rule: the state when the run began) to the element now -/
def Since {α : Type} (I : Nat → α → α → Prop) (l0 : List α) (j : Nat) (a b : α) : Prop :=
  b = a ∧ ∃ a0, l0[j]? = some a0 ∧ I j a0 a

theorem Pw.since {α : Type} {I : Nat → α → α → Prop} {l0 l : List α} (h : Pw I l0 l) : Pw (Since I l0) l l :=
  ⟨rfl, fun j a b ha hb => ⟨by rw [ha] at hb; cases hb; rfl, by
    have hj : j < l0.length := h.1 ▸ getElem?_lt_of_some ha
    exact ⟨l0[j], List.getElem?_eq_getElem hj, h.2 j _ a (List.getElem?_eq_getElem hj) ha⟩⟩⟩

theorem Pw.of_since {α : Type} {I : Nat → α → α → Prop} {l0 l l' : List α} (len : l.length = l0.length)
    (h : Pw (Since I l0) l l') : Pw I l0 l :=
  ⟨len.symm, fun j a0 a h0 ha => by
    obtain ⟨_, _, _, a0', h0', i⟩ := h.get ha
    rw [h0] at h0'; cases h0'; exact i⟩

/-- a statement about two runs (`two`), read for a single run -/
theorem since_run {α : Type} {I I' : Nat → α → α → Prop} {l0 l l1 : List α} {X : List α → Prop}
    (two : Pw (Since I l0) l l → ∃ l1', X l1' ∧ l1.length = l.length ∧ Pw (Since I' l0) l1 l1') (h : Pw I l0 l) :
    Pw I' l0 l1 := by
  obtain ⟨_, _, len, r⟩ := two h.since
  exact r.of_since (len.trans h.1.symm)

theorem nlc_idem (n : Nat) : nlc (nlc n) = nlc n := by unfold nlc; omega

theorem nlc_12 (n : Nat) : nlc n = 1 ∨ nlc n = 2 := by unfold nlc; omega

/-- both decisions write the three counters; a first token keeps the blank-line class of its line breaks -/
theorem applyDec_eq (f : FmtData) (first : Bool) (ind cont : Nat) (d : Dec) :
    applyDec f first ind cont d = { f with
      nl := match d with | .brk _ => if first then nlc f.nl else 1 | .cont => 0
      ind := match d with | .brk _ => ind | .cont => 0
      cont := match d with | .brk c => cont + c | .cont => 0 } := by
  cases d <;> rfl

theorem setFmt_eq_some {ft ft1 : FT} {i : Nat} {g : FmtData → FmtData} :
    setFmt ft i g = some ft1 ↔ ∃ t, ft[i]? = some t ∧ ft.set i { t with fmt := g t.fmt } = ft1 := by
  unfold setFmt
  cases ft[i]? <;> simp

theorem applySol_eq_some {lines : List Line} {ft ft1 : FT} {ind cont : Nat} {decs : List (Dec × List (Nat × Sol))}
    {li : Nat} : applySol lines ft (.mk ind cont decs) li = some ft1 ↔
      ∃ l, lines[li]? = some l ∧ applyDecs lines ind cont l.tokens 0 ft decs = some ft1 := by
  unfold applySol
  cases lines[li]? <;> simp

theorem applyDecs_cons_eq_some {lines : List Line} {ind cont : Nat} {toks : List Nat} {i : Nat} {ft ft' : FT} {d : Dec}
    {children : List (Nat × Sol)} {rest : List (Dec × List (Nat × Sol))} :
    applyDecs lines ind cont toks i ft ((d, children) :: rest) = some ft' ↔
      ∃ tok ft1 ft2, toks[i]? = some tok ∧ setFmt ft tok (fun f => applyDec f (i == 0) ind cont d) = some ft1 ∧
        applyChildren lines ft1 children = some ft2 ∧ applyDecs lines ind cont toks (i + 1) ft2 rest = some ft' := by
  rw [applyDecs]
  split
  · rename_i h; simp [h]
  · rename_i tok htok
    split
    · rename_i h; simp [htok, h]
    · rename_i ft1 h1
      split
      · rename_i h; simp [htok, h1, h]
      · rename_i ft2 h2; simp [htok, h1, h2]

theorem applyChildren_cons_eq_some {lines : List Line} {ft ft' : FT} {li : Nat} {s : Sol} {rest : List (Nat × Sol)} :
    applyChildren lines ft ((li, s) :: rest) = some ft' ↔
      ∃ ft1, applySol lines ft s li = some ft1 ∧ applyChildren lines ft1 rest = some ft' := by
  rw [applyChildren]
  cases applySol lines ft s li <;> simp

theorem solTokens_mk {lines : List Line} {ind cont : Nat} {decs : List (Dec × List (Nat × Sol))} {li : Nat} {l : Line}
    (hl : lines[li]? = some l) : solTokens lines (.mk ind cont decs) li = decsTokens lines l.tokens 0 decs := by
  rw [solTokens, hl]

theorem mem_decsTokens_cons {lines : List Line} {toks : List Nat} {i tok j : Nat} {d : Dec} {children : List (Nat × Sol)}
    {rest : List (Dec × List (Nat × Sol))} (htok : toks[i]? = some tok) :
    j ∈ decsTokens lines toks i ((d, children) :: rest) ↔
      j = tok ∨ j ∈ childrenTokens lines children ∨ j ∈ decsTokens lines toks (i + 1) rest := by
  rw [decsTokens, htok]
  simp only [List.mem_append, List.mem_singleton, or_assoc]

theorem mem_childrenTokens_cons {lines : List Line} {li j : Nat} {s : Sol} {rest : List (Nat × Sol)} :
    j ∈ childrenTokens lines ((li, s) :: rest) ↔ j ∈ solTokens lines s li ∨ j ∈ childrenTokens lines rest := by
  rw [childrenTokens, List.mem_append]

/-- the new text of a live multi-line literal that the re-indenter changes -/
def mlsNew (S : Settings) (t : FTok) : Option Bytes :=
  if !t.fmt.ignored && isMlsKind t.tok.kind then mlsRewrite S t.tok.content t.fmt.ind t.fmt.cont else none

/-- the token after a string pass has visited it -/
def mlsUpd (S : Settings) (t : FTok) : FTok :=
  match mlsNew S t with
  | some c => t.setContent c
  | none => t

/-! `t.setContent c` and `mlsUpd S t` unfold to guarded rewrites (`applyRule`, Proofs/TextRule.lean), whose lemmas apply -/

theorem setContent_fmt (t : FTok) (c : Bytes) : (t.setContent c).fmt = t.fmt :=
  applyRule_fmt (fun _ => some c) t

theorem mlsUpd_fmt (S : Settings) (t : FTok) : (mlsUpd S t).fmt = t.fmt := applyRule_fmt (fun _ => mlsNew S t) t

theorem mlsUpd_cases (S : Settings) (t : FTok) :
    mlsUpd S t = t ∨ ∃ c, t.fmt.ignored = false ∧ isMlsKind t.tok.kind = true ∧
      mlsRewrite S t.tok.content t.fmt.ind t.fmt.cont = some c ∧
      mlsUpd S t = ⟨{ ws := [], content := c, kind := t.tok.kind }, t.fmt⟩ := by
  rcases applyRule_cases (fun _ => mlsNew S t) t with e | ⟨hi, c, hc, e⟩
  · exact Or.inl e
  · unfold mlsNew at hc
    split at hc
    · rename_i hg
      simp only [Bool.and_eq_true, Bool.not_eq_true'] at hg
      exact Or.inr ⟨c, hi, hg.2, hc, e⟩
    · cases hc

theorem mlsLine_cons_eq_some {S : Settings} {idx : Nat} {rest : List Nat} {ft ft1 : FT} {ch : Bool} :
    mlsLine S (idx :: rest) ft = some (ft1, ch) ↔
      ∃ t ch2, ft[idx]? = some t ∧ mlsLine S rest (ft.set idx (mlsUpd S t)) = some (ft1, ch2) ∧
        ch = (ch2 || (mlsNew S t).isSome) := by
  rw [mlsLine]
  cases ht : ft[idx]? with
  | none => simp
  | some t =>
    have e : (match mlsNew S t with | some c => ft.set idx (t.setContent c) | none => ft) = ft.set idx (mlsUpd S t) := by
      unfold mlsUpd
      cases mlsNew S t with
      | none => exact (set_self ft idx t ht).symm
      | some c => rfl
    show (match mlsLine S rest (match mlsNew S t with | some c => ft.set idx (t.setContent c) | none => ft) with
      | none => none | some (ft2, ch) => some (ft2, ch || (mlsNew S t).isSome)) = some (ft1, ch) ↔ _
    rw [e]
    split
    · rename_i h; simp [h]
    · rename_i ft2 ch2 h
      constructor
      · intro hh; cases hh; exact ⟨t, ch2, rfl, h, rfl⟩
      · rintro ⟨t', c2, ht', h', rfl⟩
        cases ht'; rw [h] at h'; cases h'; rfl

/-- the last step of the stage on one token -/
def zeroTok (t : FTok) : FTok := if t.fmt.nl > 0 then { t with fmt := { t.fmt with sp := 0 } } else t

theorem zeroLineStartSpaces_eq (ft : FT) : zeroLineStartSpaces ft = ft.map zeroTok := rfl

theorem zero_getElem? {ft : FT} {j : Nat} {t : FTok} (h : ft[j]? = some t) :
    (zeroLineStartSpaces ft)[j]? = some (zeroTok t) := by
  rw [zeroLineStartSpaces_eq, List.getElem?_map, h]; rfl

/-- the step keeps the token and every counter but `sp` -/
theorem zeroTok_eq (t : FTok) :
    zeroTok t = ⟨t.tok, { t.fmt with sp := if t.fmt.nl > 0 then 0 else t.fmt.sp }⟩ := by
  unfold zeroTok; split <;> rfl

theorem zeroTok_nl (t : FTok) : (zeroTok t).fmt.nl = t.fmt.nl := by rw [zeroTok_eq]

theorem wrapStageFull_eq_some {cfg : Config} {lines : List Line} {ft ftz : FT} {sols : List (Nat × Nat × Sol)} :
    wrapStageFull cfg lines ft = some (ftz, sols) ↔
      ∃ ft1 st1 sols1, applyLinesS 0 lines (firstPassLines lines) (searchInit cfg lines ft) ft [] = some (ft1, st1, sols1) ∧
        ((cfg.fmtMls = false ∧ zeroLineStartSpaces ft1 = ftz ∧ sols1 = sols) ∨
         (cfg.fmtMls = true ∧ ∃ ft2 toReflow ft3 st3 ft4,
            mlsPass1 cfg.settings lines lines.zipIdx ft1 [] = some (ft2, toReflow) ∧
            applyLinesS 1 lines (sortDedup toReflow) st1 ft2 sols1 = some (ft3, st3, sols) ∧
            mlsPass2 cfg.settings lines ft3 = some ft4 ∧ zeroLineStartSpaces ft4 = ftz)) := by
  unfold wrapStageFull
  simp only
  constructor
  · intro h
    split at h
    · cases h
    · rename_i ft1 st1 sols1 h1
      refine ⟨ft1, st1, sols1, h1, ?_⟩
      cases hm : cfg.fmtMls with
      | false =>
        simp only [hm, Bool.not_false, if_true, Option.some.injEq, Prod.mk.injEq] at h
        exact Or.inl ⟨rfl, h⟩
      | true =>
        simp only [hm, Bool.not_true, Bool.false_eq_true, if_false] at h
        split at h
        · cases h
        · rename_i ft2 toReflow h2
          split at h
          · cases h
          · rename_i ft3 st3 sols2 h3
            split at h
            · cases h
            · rename_i ft4 h4
              cases h
              exact Or.inr ⟨rfl, ft2, toReflow, ft3, st3, ft4, h2, h3, h4, rfl⟩
  · rintro ⟨ft1, st1, sols1, h1, ⟨hm, rfl, rfl⟩ | ⟨hm, ft2, toReflow, ft3, st3, ft4, h2, h3, h4, rfl⟩⟩
    · simp only [h1, hm, Bool.not_false, if_true]
    · simp only [h1, hm, h2, h3, h4, Bool.not_true, Bool.false_eq_true, if_false]

theorem wrapStage_eq_some {solve : Nat → Nat → Option Sol} {cfg : Config} {lines : List Line} {ft ftz : FT} :
    wrapStage solve cfg lines ft = some ftz ↔
      ∃ ft1, applyLines (solve 0) lines (firstPassLines lines) ft = some ft1 ∧
        ((cfg.fmtMls = false ∧ zeroLineStartSpaces ft1 = ftz) ∨
         (cfg.fmtMls = true ∧ ∃ ft2 toReflow ft3 ft4,
            mlsPass1 cfg.settings lines lines.zipIdx ft1 [] = some (ft2, toReflow) ∧
            applyLines (solve 1) lines (sortDedup toReflow) ft2 = some ft3 ∧
            mlsPass2 cfg.settings lines ft3 = some ft4 ∧ zeroLineStartSpaces ft4 = ftz)) := by
  unfold wrapStage
  constructor
  · intro h
    split at h
    · cases h
    · rename_i ft1 h1
      refine ⟨ft1, h1, ?_⟩
      cases hm : cfg.fmtMls with
      | false =>
        simp only [hm, Bool.not_false, if_true, Option.some.injEq] at h
        exact Or.inl ⟨rfl, h⟩
      | true =>
        simp only [hm, Bool.not_true, Bool.false_eq_true, if_false] at h
        split at h
        · cases h
        · rename_i ft2 toReflow h2
          split at h
          · cases h
          · rename_i ft3 h3
            split at h
            · cases h
            · rename_i ft4 h4
              cases h
              exact Or.inr ⟨rfl, ft2, toReflow, ft3, ft4, h2, h3, h4, rfl⟩
  · rintro ⟨ft1, h1, ⟨hm, rfl⟩ | ⟨hm, ft2, toReflow, ft3, ft4, h2, h3, h4, rfl⟩⟩
    · simp only [h1, hm, Bool.not_false, if_true]
    · simp only [h1, hm, h2, h3, h4, Bool.not_true, Bool.false_eq_true, if_false]

/-- a decision applied to related tokens leaves them related as written tokens (`w`: the position is written) -/
structure DecLift (R : Prop → Nat → FTok → FTok → Prop) : Prop where
  dec : ∀ {w : Prop} {j : Nat} {t t' : FTok} (first : Bool) (ind cont : Nat) (d : Dec), R w j t t' →
    R True j { t with fmt := applyDec t.fmt first ind cont d } { t' with fmt := applyDec t'.fmt first ind cont d }

/-- `I w j t0 t`: the token `t0` of a reference state and the token now; a decision makes it a written token -/
theorem DecLift.since {I : Prop → Nat → FTok → FTok → Prop}
    (dec : ∀ {w : Prop} {j : Nat} {t0 t : FTok} (first : Bool) (ind cont : Nat) (d : Dec), I w j t0 t →
      I True j t0 { t with fmt := applyDec t.fmt first ind cont d }) (ft0 : FT) :
    DecLift fun w => Since (I w) ft0 :=
  ⟨fun first ind cont d ⟨e, t0, h0, i⟩ => ⟨by rw [e], t0, h0, dec first ind cont d i⟩⟩

section lift
variable {R : Prop → Nat → FTok → FTok → Prop}

theorem pw_written {W W' : Nat → Prop} {ft ft' : FT} (h : Pw (fun j => R (W j) j) ft ft') (hw : ∀ j, W j ↔ W' j) :
    Pw (fun j => R (W' j) j) ft ft' := by
  have e : W = W' := funext fun j => propext (hw j)
  subst e; exact h

theorem setFmt_lift (hR : DecLift R) {W : Nat → Prop} {ft ft' ft1 : FT} {i : Nat} {first : Bool} {ind cont : Nat} {d : Dec}
    (h : Pw (fun j => R (W j) j) ft ft') (h1 : setFmt ft i (fun f => applyDec f first ind cont d) = some ft1) :
    ∃ ft1', setFmt ft' i (fun f => applyDec f first ind cont d) = some ft1' ∧ ft1.length = ft.length ∧
      Pw (fun j => R (W j ∨ j = i) j) ft1 ft1' := by
  obtain ⟨t, ht, rfl⟩ := setFmt_eq_some.1 h1
  obtain ⟨t', ht', r⟩ := Pw.get h ht
  refine ⟨_, setFmt_eq_some.2 ⟨t', ht', rfl⟩, List.length_set, ?_⟩
  refine ⟨by simp [h.1], fun j x x' hx hx' => ?_⟩
  rw [List.getElem?_set] at hx hx'
  by_cases hij : i = j
  · subst hij
    rw [if_pos rfl, if_pos (getElem?_lt_of_some ht)] at hx
    rw [if_pos rfl, if_pos (getElem?_lt_of_some ht')] at hx'
    cases hx; cases hx'
    have e : True = (W i ∨ i = i) := propext (iff_of_true trivial (Or.inr rfl))
    exact e ▸ hR.dec first ind cont d r
  · rw [if_neg hij] at hx hx'
    have e : W j = (W j ∨ j = i) := propext ⟨Or.inl, fun w => w.elim id fun e => absurd e.symm hij⟩
    exact e ▸ h.2 j x x' hx hx'

mutual
theorem applySol_lift (hR : DecLift R) (lines : List Line) (W : Nat → Prop) (ft ft' ft1 : FT) (s : Sol) (li : Nat)
    (h : Pw (fun j => R (W j) j) ft ft') (h1 : applySol lines ft s li = some ft1) :
    ∃ ft1', applySol lines ft' s li = some ft1' ∧ ft1.length = ft.length ∧
      Pw (fun j => R (W j ∨ j ∈ solTokens lines s li) j) ft1 ft1' := by
  cases s with
  | mk ind cont decs =>
    obtain ⟨l, hl, hd⟩ := applySol_eq_some.1 h1
    obtain ⟨ft1', hd', r⟩ := applyDecs_lift hR lines ind cont l.tokens 0 W ft ft' ft1 decs h hd
    rw [solTokens_mk hl]
    exact ⟨ft1', applySol_eq_some.2 ⟨l, hl, hd'⟩, r⟩

theorem applyDecs_lift (hR : DecLift R) (lines : List Line) (ind cont : Nat) (toks : List Nat) (i : Nat)
    (W : Nat → Prop) (ft ft' ft1 : FT) (decs : List (Dec × List (Nat × Sol)))
    (h : Pw (fun j => R (W j) j) ft ft') (h1 : applyDecs lines ind cont toks i ft decs = some ft1) :
    ∃ ft1', applyDecs lines ind cont toks i ft' decs = some ft1' ∧ ft1.length = ft.length ∧
      Pw (fun j => R (W j ∨ j ∈ decsTokens lines toks i decs) j) ft1 ft1' := by
  cases decs with
  | nil =>
    rw [applyDecs] at h1 ⊢
    cases h1
    exact ⟨ft', rfl, rfl, pw_written h fun j => by simp [decsTokens]⟩
  | cons dk rest =>
    obtain ⟨d, children⟩ := dk
    obtain ⟨tok, fta, ftb, htok, ha, hb, hc⟩ := applyDecs_cons_eq_some.1 h1
    obtain ⟨fta', ha', la, ra⟩ := setFmt_lift hR h ha
    obtain ⟨ftb', hb', lb, rb⟩ := applyChildren_lift hR lines _ fta fta' ftb children ra hb
    obtain ⟨ftc', hc', lc, rc⟩ := applyDecs_lift hR lines ind cont toks (i + 1) _ ftb ftb' ft1 rest rb hc
    refine ⟨ftc', applyDecs_cons_eq_some.2 ⟨tok, fta', ftb', htok, ha', hb', hc'⟩, by rw [lc, lb, la],
      pw_written rc fun j => by rw [mem_decsTokens_cons htok, or_assoc, or_assoc]⟩

theorem applyChildren_lift (hR : DecLift R) (lines : List Line) (W : Nat → Prop) (ft ft' ft1 : FT)
    (ks : List (Nat × Sol)) (h : Pw (fun j => R (W j) j) ft ft') (h1 : applyChildren lines ft ks = some ft1) :
    ∃ ft1', applyChildren lines ft' ks = some ft1' ∧ ft1.length = ft.length ∧
      Pw (fun j => R (W j ∨ j ∈ childrenTokens lines ks) j) ft1 ft1' := by
  cases ks with
  | nil =>
    rw [applyChildren] at h1 ⊢
    cases h1
    exact ⟨ft', rfl, rfl, pw_written h fun j => by simp [childrenTokens]⟩
  | cons k rest =>
    obtain ⟨li, s⟩ := k
    obtain ⟨fta, ha, hb⟩ := applyChildren_cons_eq_some.1 h1
    obtain ⟨fta', ha', la, ra⟩ := applySol_lift hR lines W ft ft' fta s li h ha
    obtain ⟨ftb', hb', lb, rb⟩ := applyChildren_lift hR lines _ fta fta' ft1 rest ra hb
    exact ⟨ftb', applyChildren_cons_eq_some.2 ⟨fta', ha', hb'⟩, by rw [lb, la],
      pw_written rb fun j => by rw [mem_childrenTokens_cons, or_assoc]⟩
end

/-- the search reads a token through its view only (`hsv`), so related states get the same solutions (`news`) -/
theorem applyLinesS_lift (hR : DecLift R) (hsv : ∀ w j t t', R w j t t' → t.sview = t'.sview) (phase : Nat)
    (lines : List Line) (is : List Nat) (st st1 : SearchState) (W : Nat → Prop) (ft ft' ft1 : FT)
    (acc sols : List (Nat × Nat × Sol))
    (h : Pw (fun j => R (W j) j) ft ft') (h1 : applyLinesS phase lines is st ft acc = some (ft1, st1, sols)) :
    ∃ ft1' news, applyLinesS phase lines is st ft' acc = some (ft1', st1, sols) ∧ sols = acc ++ news ∧
      (∀ x ∈ news, x.1 = phase) ∧ ft1.length = ft.length ∧
      Pw (fun j => R (W j ∨ ∃ x ∈ news, j ∈ solTokens lines x.2.2 x.2.1) j) ft1 ft1' := by
  have hs : ∀ {W : Nat → Prop} {ft ft' : FT} (st : SearchState) (i : Nat), Pw (fun j => R (W j) j) ft ft' →
      searchSolve st ft' i = searchSolve st ft i := fun st i h => by
    unfold searchSolve; rw [h.map_eq FTok.sview fun j => hsv _ j]
  fun_induction applyLinesS phase lines is st ft acc generalizing W ft' with
  | case1 st ft acc =>
    cases h1
    exact ⟨ft', [], by rw [applyLinesS], by simp, by simp, rfl, pw_written h fun j => by simp⟩
  | case2 i rest st ft acc st' hn ih =>
    obtain ⟨ftb', news, hb', r⟩ := ih W ft' h h1
    exact ⟨ftb', news, by simp only [applyLinesS, hs st i h, hn]; exact hb', r⟩
  | case3 i rest st ft acc s st' hn ha => cases h1
  | case4 i rest st ft acc s st' hn fta ha ih =>
    obtain ⟨fta', ha', la, ra⟩ := applySol_lift hR lines W ft ft' fta s i h ha
    obtain ⟨ftb', news, hb', hsols, hph, lb, rb⟩ := ih _ fta' ra h1
    refine ⟨ftb', (phase, i, s) :: news, by simp only [applyLinesS, hs st i h, hn, ha']; exact hb',
      by rw [hsols]; simp, ?_, by rw [lb, la],
      pw_written rb fun j => by simp only [List.mem_cons, exists_eq_or_imp, or_assoc]⟩
    intro x hx
    rcases List.mem_cons.1 hx with rfl | hx
    · rfl
    · exact hph x hx

end lift

section mls
variable {R : Nat → FTok → FTok → Prop} {S S' : Settings} {C : Prop}

/-- `C`: the condition under which the two runs agree on "changed" -/
theorem mlsLine_lift
    (hstep : ∀ j t t', R j t t' → R j (mlsUpd S t) (mlsUpd S' t') ∧ (C → (mlsNew S' t').isSome = (mlsNew S t).isSome))
    (toks : List Nat) (ft ft' ft1 : FT) (ch : Bool) (h : Pw R ft ft') (h1 : mlsLine S toks ft = some (ft1, ch)) :
    ∃ ft1' ch', mlsLine S' toks ft' = some (ft1', ch') ∧ (C → ch' = ch) ∧ ft1.length = ft.length ∧ Pw R ft1 ft1' := by
  induction toks generalizing ft ft' ch with
  | nil =>
    rw [mlsLine] at h1 ⊢
    cases h1
    exact ⟨ft', false, rfl, fun _ => rfl, rfl, h⟩
  | cons idx rest ih =>
    obtain ⟨t, ch2, ht, h2, rfl⟩ := mlsLine_cons_eq_some.1 h1
    obtain ⟨t', ht', r⟩ := h.get ht
    obtain ⟨ft2', ch2', h2', hc, l2, r2⟩ := ih _ _ ch2 (h.set idx _ _ (hstep idx t t' r).1) h2
    refine ⟨ft2', _, mlsLine_cons_eq_some.2 ⟨t', ch2', ht', h2', rfl⟩, fun c => ?_, by rw [l2, List.length_set], r2⟩
    rw [hc c, (hstep idx t t' r).2 c]

theorem mlsPass1_lift
    (hstep : ∀ j t t', R j t t' → R j (mlsUpd S t) (mlsUpd S' t') ∧ (C → (mlsNew S' t').isSome = (mlsNew S t).isSome))
    (hC : C) (lines : List Line) (ls : List (Line × Nat)) (ft ft' ft1 : FT) (acc out : List Nat)
    (h : Pw R ft ft') (h1 : mlsPass1 S lines ls ft acc = some (ft1, out)) :
    ∃ ft1', mlsPass1 S' lines ls ft' acc = some (ft1', out) ∧ ft1.length = ft.length ∧ Pw R ft1 ft1' := by
  fun_induction mlsPass1 S lines ls ft acc generalizing ft' with
  | case1 ft acc => cases h1; exact ⟨ft', by rw [mlsPass1], rfl, h⟩
  | case2 l i rest ft acc ha => cases h1
  | case3 l i rest ft acc fta hp ha => cases h1
  | case4 l i rest ft acc fta p hp ha ih =>
    obtain ⟨fta', ch', ha', hc, la, ra⟩ := mlsLine_lift hstep l.tokens ft ft' fta true h ha
    cases hc hC
    obtain ⟨ftb', hb', lb, rb⟩ := ih fta' ra h1
    exact ⟨ftb', by simp only [mlsPass1, ha', hp, if_true]; exact hb', by rw [lb, la], rb⟩
  | case5 l i rest ft acc fta ch ha hch ih =>
    obtain ⟨fta', ch', ha', hc, la, ra⟩ := mlsLine_lift hstep l.tokens ft ft' fta ch h ha
    cases hc hC
    obtain ⟨ftb', hb', lb, rb⟩ := ih fta' ra h1
    exact ⟨ftb', by simp only [mlsPass1, ha', hch]; exact hb', by rw [lb, la], rb⟩

theorem mlsPass2_lift (hstep : ∀ j t t', R j t t' → R j (mlsUpd S t) (mlsUpd S' t'))
    (ls : List Line) (ft ft' ft1 : FT) (h : Pw R ft ft') (h1 : mlsPass2 S ls ft = some ft1) :
    ∃ ft1', mlsPass2 S' ls ft' = some ft1' ∧ ft1.length = ft.length ∧ Pw R ft1 ft1' := by
  fun_induction mlsPass2 S ls ft generalizing ft' with
  | case1 ft => cases h1; exact ⟨ft', by rw [mlsPass2], rfl, h⟩
  | case2 l rest ft ha => cases h1
  | case3 l rest ft fta ch ha ih =>
    obtain ⟨fta', ch', ha', _, la, ra⟩ :=
      mlsLine_lift (C := False) (fun j t t' r => ⟨hstep j t t' r, False.elim⟩) l.tokens ft ft' fta ch h ha
    obtain ⟨ftb', hb', lb, rb⟩ := ih fta' ra h1
    exact ⟨ftb', by rw [mlsPass2, ha']; exact hb', by rw [lb, la], rb⟩

end mls

/-- holds between a token and what applying solutions makes of it -/
structure DecRel (Q : Nat → FTok → FTok → Prop) : Prop where
  refl : ∀ j t, Q j t t
  trans : ∀ j a b c, Q j a b → Q j b c → Q j a c
  dec : ∀ j t first ind cont d, Q j t { t with fmt := applyDec t.fmt first ind cont d }

/-- holds between a token and what any step of the stage makes of it -/
structure StepRel (S : Settings) (Q : Nat → FTok → FTok → Prop) : Prop extends DecRel Q where
  mls : ∀ j t, Q j t (mlsUpd S t)
  zero : ∀ j t, Q j t (zeroTok t)

section steps
variable {S : Settings} {Q : Nat → FTok → FTok → Prop}

theorem DecRel.since (hQ : DecRel Q) (ft0 : FT) : DecLift fun _ => Since Q ft0 :=
  DecLift.since (I := fun _ => Q) (fun first ind cont d q => hQ.trans _ _ _ _ q (hQ.dec _ _ first ind cont d)) ft0

theorem applySol_steps (hQ : DecRel Q) {lines : List Line} {ft ft1 : FT} {s : Sol} {li : Nat}
    (h1 : applySol lines ft s li = some ft1) : Pw Q ft ft1 :=
  since_run (fun r => applySol_lift (hQ.since ft) lines (fun _ => False) ft ft ft1 s li r h1) (Pw.refl hQ.refl ft)

theorem applyDecs_steps (hQ : DecRel Q) {lines : List Line} {ind cont : Nat} {toks : List Nat} {i : Nat} {ft ft1 : FT}
    {decs : List (Dec × List (Nat × Sol))} (h1 : applyDecs lines ind cont toks i ft decs = some ft1) : Pw Q ft ft1 :=
  since_run (fun r => applyDecs_lift (hQ.since ft) lines ind cont toks i (fun _ => False) ft ft ft1 decs r h1)
    (Pw.refl hQ.refl ft)

theorem applyChildren_steps (hQ : DecRel Q) {lines : List Line} {ft ft1 : FT} {ks : List (Nat × Sol)}
    (h1 : applyChildren lines ft ks = some ft1) : Pw Q ft ft1 :=
  since_run (fun r => applyChildren_lift (hQ.since ft) lines (fun _ => False) ft ft ft1 ks r h1) (Pw.refl hQ.refl ft)

theorem applyLinesS_steps (hQ : DecRel Q) {phase : Nat} {lines : List Line} {is : List Nat} {st st1 : SearchState}
    {ft ft1 : FT} {acc sols : List (Nat × Nat × Sol)} (h1 : applyLinesS phase lines is st ft acc = some (ft1, st1, sols)) :
    Pw Q ft ft1 :=
  since_run (fun r => by
    obtain ⟨ft1', _, e, _, _, r1⟩ := applyLinesS_lift (hQ.since ft) (fun _ _ _ _ r => by rw [r.1])
      phase lines is st st1 (fun _ => False) ft ft ft1 acc sols r h1
    exact ⟨ft1', e, r1⟩) (Pw.refl hQ.refl ft)

theorem applyLines_steps (hQ : DecRel Q) {solve : Nat → Option Sol} {lines : List Line} {is : List Nat} {ft ft1 : FT}
    (h1 : applyLines solve lines is ft = some ft1) : Pw Q ft ft1 := by
  fun_induction applyLines solve lines is ft with
  | case1 ft => cases h1; exact Pw.refl hQ.refl _
  | case2 i rest ft _ ih => exact ih h1
  | case3 i rest ft s _ ha => cases h1
  | case4 i rest ft s _ fta ha ih => exact (applySol_steps hQ ha).trans hQ.trans (ih h1)

theorem mlsStep_since {R : Nat → FTok → FTok → Prop} (hvisit : ∀ j t0 t, R j t0 t → R j t0 (mlsUpd S t)) (ft0 : FT)
    (C : Prop) (j : Nat) (t t' : FTok) (r : Since R ft0 j t t') :
    Since R ft0 j (mlsUpd S t) (mlsUpd S t') ∧ (C → (mlsNew S t').isSome = (mlsNew S t).isSome) := by
  obtain ⟨rfl, t0, h0, q⟩ := r
  exact ⟨⟨rfl, t0, h0, hvisit j t0 _ q⟩, fun _ => rfl⟩

/-- `R j t0 t`: the token when the pass began and the token now; it need not be transitive -/
theorem mlsPass1_since {R : Nat → FTok → FTok → Prop} (hrefl : ∀ j t, R j t t)
    (hvisit : ∀ j t0 t, R j t0 t → R j t0 (mlsUpd S t)) {lines : List Line} {ls : List (Line × Nat)} {ft ft1 : FT}
    {acc out : List Nat} (h1 : mlsPass1 S lines ls ft acc = some (ft1, out)) : Pw R ft ft1 :=
  since_run (fun r => mlsPass1_lift (mlsStep_since hvisit ft True) trivial lines ls ft ft ft1 acc out r h1)
    (Pw.refl hrefl ft)

theorem mlsPass2_since {R : Nat → FTok → FTok → Prop} (hrefl : ∀ j t, R j t t)
    (hvisit : ∀ j t0 t, R j t0 t → R j t0 (mlsUpd S t)) {ls : List Line} {ft ft1 : FT}
    (h1 : mlsPass2 S ls ft = some ft1) : Pw R ft ft1 :=
  since_run (fun r => mlsPass2_lift (fun j t t' r => (mlsStep_since hvisit ft True j t t' r).1) ls ft ft ft1 r h1)
    (Pw.refl hrefl ft)

theorem mlsPass1_steps (hQ : StepRel S Q) {lines : List Line} {ls : List (Line × Nat)} {ft ft1 : FT} {acc out : List Nat}
    (h1 : mlsPass1 S lines ls ft acc = some (ft1, out)) : Pw Q ft ft1 :=
  mlsPass1_since hQ.refl (fun j _ t q => hQ.trans _ _ _ _ q (hQ.mls j t)) h1

theorem mlsPass2_steps (hQ : StepRel S Q) {ls : List Line} {ft ft1 : FT} (h1 : mlsPass2 S ls ft = some ft1) : Pw Q ft ft1 :=
  mlsPass2_since hQ.refl (fun j _ t q => hQ.trans _ _ _ _ q (hQ.mls j t)) h1

theorem zero_pw {Q : Nat → FTok → FTok → Prop} (h : ∀ j t, Q j t (zeroTok t)) (ft : FT) : Pw Q ft (zeroLineStartSpaces ft) :=
  ⟨by simp [zeroLineStartSpaces], fun j a b ha hb => by rw [zero_getElem? ha] at hb; cases hb; exact h j a⟩

theorem zero_steps (hQ : StepRel S Q) (ft : FT) : Pw Q ft (zeroLineStartSpaces ft) := zero_pw hQ.zero ft

end steps

theorem wrapStageFull_steps {cfg : Config} {Q : Nat → FTok → FTok → Prop} (hQ : StepRel cfg.settings Q) {lines : List Line}
    {ft ftz : FT} {sols : List (Nat × Nat × Sol)} (h : wrapStageFull cfg lines ft = some (ftz, sols)) : Pw Q ft ftz := by
  obtain ⟨ft1, st1, sols1, h1, ⟨_, rfl, _⟩ | ⟨_, ft2, toReflow, ft3, st3, ft4, h2, h3, h4, rfl⟩⟩ := wrapStageFull_eq_some.1 h
  · exact (applyLinesS_steps hQ.toDecRel h1).trans hQ.trans (zero_steps hQ _)
  · exact ((((applyLinesS_steps hQ.toDecRel h1).trans hQ.trans (mlsPass1_steps hQ h2)).trans hQ.trans
      (applyLinesS_steps hQ.toDecRel h3)).trans hQ.trans (mlsPass2_steps hQ h4)).trans hQ.trans (zero_steps hQ _)

theorem wrapStage_steps {cfg : Config} {Q : Nat → FTok → FTok → Prop} (hQ : StepRel cfg.settings Q)
    {solve : Nat → Nat → Option Sol} {lines : List Line} {ft ftz : FT} (h : wrapStage solve cfg lines ft = some ftz) :
    Pw Q ft ftz := by
  obtain ⟨ft1, h1, ⟨_, rfl⟩ | ⟨_, ft2, toReflow, ft3, ft4, h2, h3, h4, rfl⟩⟩ := wrapStage_eq_some.1 h
  · exact (applyLines_steps hQ.toDecRel h1).trans hQ.trans (zero_steps hQ _)
  · exact ((((applyLines_steps hQ.toDecRel h1).trans hQ.trans (mlsPass1_steps hQ h2)).trans hQ.trans
      (applyLines_steps hQ.toDecRel h3)).trans hQ.trans (mlsPass2_steps hQ h4)).trans hQ.trans (zero_steps hQ _)

theorem wrapStageFull_length {cfg : Config} {lines : List Line} {ft ftz : FT} {sols : List (Nat × Nat × Sol)}
    (h : wrapStageFull cfg lines ft = some (ftz, sols)) : ftz.length = ft.length :=
  (wrapStageFull_steps (Q := fun _ _ _ => True)
    ⟨⟨fun _ _ => trivial, fun _ _ _ _ _ _ => trivial, fun _ _ _ _ _ _ => trivial⟩, fun _ _ => trivial, fun _ _ => trivial⟩
    h).1.symm

theorem applyLinesS_sols {phase : Nat} {lines : List Line} {is : List Nat} {st st1 : SearchState} {ft ft1 : FT}
    {acc sols : List (Nat × Nat × Sol)} (h1 : applyLinesS phase lines is st ft acc = some (ft1, st1, sols)) :
    ∃ news, sols = acc ++ news ∧ ∀ x ∈ news, x.1 = phase := by
  obtain ⟨_, news, _, e, hp, _⟩ := applyLinesS_lift (R := fun _ _ t t' => t' = t) ⟨fun _ _ _ _ r => by rw [r]⟩
    (fun _ _ _ _ r => by rw [r]) phase lines is st st1 (fun _ => True) ft ft ft1 acc sols
    (Pw.refl (R := fun _ t t' => t' = t) (fun _ _ => rfl) ft) h1
  exact ⟨news, e, hp⟩

/-- what the stage with the search inside keeps of the search state and the tokens (`P`: kept by the search, and reading
    of the tokens their number and types only), and what is then known of every solution the search returns
    (`Q line solution`) -/
structure StageInv (lines : List Line) (P : SearchState → FT → Prop) (Q : Nat → Sol → Prop) : Prop where
  solve : ∀ {st ft} (i : Nat), P st ft → P (searchSolve st ft i).2 ft ∧ ∀ s, (searchSolve st ft i).1 = some s → Q i s
  kinds : ∀ {st fa fb}, P st fa → Pw (fun _ a b => b.tok.kind = a.tok.kind) fa fb → P st fb

section StageInv
variable {cfg : Config} {lines : List Line} {P : SearchState → FT → Prop} {Q : Nat → Sol → Prop}

theorem StageInv.apply (I : StageInv lines P Q) {st : SearchState} {fa fb : FT} {s : Sol} {i : Nat} (hp : P st fa)
    (ha : applySol lines fa s i = some fb) : P st fb :=
  I.kinds hp (applySol_steps (Q := fun _ a b => b.tok.kind = a.tok.kind)
    ⟨fun _ _ => rfl, fun _ _ _ _ h1 h2 => h2.trans h1, fun _ _ _ _ _ _ => rfl⟩ ha)

theorem StageInv.mls (I : StageInv lines P Q) {S : Settings} {st : SearchState} {fa fb : FT} {ls : List (Line × Nat)}
    {acc out : List Nat} (hp : P st fa) (h2 : mlsPass1 S lines ls fa acc = some (fb, out)) : P st fb :=
  I.kinds hp (mlsPass1_since (R := fun _ a b => b.tok.kind = a.tok.kind) (fun _ _ => rfl)
    (fun _ _ t q => (applyRule_kind (fun _ => mlsNew S t) t).trans q) h2)

theorem StageInv.applyLinesS (I : StageInv lines P Q) {phase : Nat} {is : List Nat} {st st1 : SearchState} {ft ft1 : FT}
    {acc sols : List (Nat × Nat × Sol)} (h : applyLinesS phase lines is st ft acc = some (ft1, st1, sols))
    (hp : P st ft) (hacc : ∀ x ∈ acc, Q x.2.1 x.2.2) : P st1 ft1 ∧ ∀ x ∈ sols, Q x.2.1 x.2.2 := by
  fun_induction Pasfmt.applyLinesS phase lines is st ft acc with
  | case1 st ft acc => cases h; exact ⟨hp, hacc⟩
  | case2 i rest st ft acc st' hs ih =>
    have hp' := (I.solve i hp).1
    rw [hs] at hp'
    exact ih h hp' hacc
  | case3 i rest st ft acc s st' hs ha => cases h
  | case4 i rest st ft acc s st' hs fta ha ih =>
    obtain ⟨hp', hq⟩ := I.solve i hp
    rw [hs] at hp' hq
    refine ih h (I.apply hp' ha) fun x hx => ?_
    rcases List.mem_append.1 hx with hx | hx
    · exact hacc x hx
    · cases List.mem_singleton.1 hx; exact hq s rfl

/-- every solution the stage applies - first wrapping and re-wrapping - satisfies `Q` -/
theorem StageInv.wrapStageFull (I : StageInv lines P Q) {ft ftz : FT} {sols : List (Nat × Nat × Sol)}
    (h0 : P (searchInit cfg lines ft) ft) (h : wrapStageFull cfg lines ft = some (ftz, sols)) :
    ∀ x ∈ sols, Q x.2.1 x.2.2 := by
  obtain ⟨ft1, st1, sols1, h1, hcase⟩ := wrapStageFull_eq_some.1 h
  obtain ⟨p1, q1⟩ := I.applyLinesS h1 h0 (by simp)
  rcases hcase with ⟨_, _, rfl⟩ | ⟨_, ft2, toReflow, ft3, st3, ft4, h2, h3, _, _⟩
  · exact q1
  · exact (I.applyLinesS h3 (I.mls p1 h2) q1).2

end StageInv

theorem allWritten_iff {lines : List Line} {W0 : Nat → Bool} {n : Nat} {sols : List (Nat × Nat × Sol)} :
    allWritten lines W0 n sols = true ↔
      ∀ j, j < n → W0 j = true ∨ ∃ x ∈ sols, x.1 = 0 ∧ j ∈ solTokens lines x.2.2 x.2.1 := by
  simp [allWritten]

theorem freeBrokenB_iff (ft ftz : FT) :
    freeBrokenB ft ftz = true ↔ ∀ j t, ftz[j]? = some t → freeAtB ft j = true → 0 < t.fmt.nl := by
  unfold freeBrokenB
  rw [List.all_eq_true]
  constructor
  · intro h j t ht hf
    simpa [hf] using h (t, j) (List.mem_zipIdx_iff_getElem?.2 ht)
  · intro h ⟨t, j⟩ hp
    cases hf : freeAtB ft j with
    | false => rfl
    | true => simpa [hf] using h j t (List.mem_zipIdx_iff_getElem?.1 hp) hf

theorem freeBeforeBrokenB_iff (lines : List Line) (ft ftz : FT) :
    freeBeforeBrokenB lines ft ftz = true ↔
      ∀ j t, ftz[j]? = some t → freeAtB ft j = true → writtenBefore lines ft j = true → 0 < t.fmt.nl := by
  unfold freeBeforeBrokenB
  rw [List.all_eq_true]
  constructor
  · intro h j t ht hf hw
    simpa [hf, hw] using h (t, j) (List.mem_zipIdx_iff_getElem?.2 ht)
  · intro h ⟨t, j⟩ hp
    cases hf : freeAtB ft j with
    | false => rfl
    | true =>
      cases hw : writtenBefore lines ft j with
      | false => rfl
      | true => simpa [hf, hw] using h j t (List.mem_zipIdx_iff_getElem?.1 hp) hf hw

/-- the first wrapping in two runs, when every position is written before the stage (`W0`) or by a first-phase solution
    (`hall`): related states get the same solutions and are then related as written everywhere -/
theorem wrapStageFull_all_written {R : Prop → Nat → FTok → FTok → Prop} (hR : DecLift R)
    (hsv : ∀ w j t t', R w j t t' → t.sview = t'.sview) {cfg : Config} {lines : List Line} {W0 : Nat → Bool} {ft ft' ftz : FT}
    {sols : List (Nat × Nat × Sol)} (hrel : Pw (fun j => R (W0 j = true) j) ft ft')
    (h : wrapStageFull cfg lines ft = some (ftz, sols)) (hall : allWritten lines W0 ft.length sols = true) :
    ∃ ft1 st1 sols1 ft1', applyLinesS 0 lines (firstPassLines lines) (searchInit cfg lines ft) ft [] = some (ft1, st1, sols1) ∧
      applyLinesS 0 lines (firstPassLines lines) (searchInit cfg lines ft) ft' [] = some (ft1', st1, sols1) ∧
      Pw (R True) ft1 ft1' ∧
      ((cfg.fmtMls = false ∧ zeroLineStartSpaces ft1 = ftz ∧ sols1 = sols) ∨
       (cfg.fmtMls = true ∧ ∃ ft2 toReflow ft3 st3 ft4,
          mlsPass1 cfg.settings lines lines.zipIdx ft1 [] = some (ft2, toReflow) ∧
          applyLinesS 1 lines (sortDedup toReflow) st1 ft2 sols1 = some (ft3, st3, sols) ∧
          mlsPass2 cfg.settings lines ft3 = some ft4 ∧ zeroLineStartSpaces ft4 = ftz)) := by
  obtain ⟨ft1, st1, sols1, h1, hr⟩ := wrapStageFull_eq_some.1 h
  obtain ⟨ft1', news, h1', hs, _, l1, r1⟩ := applyLinesS_lift hR hsv 0 lines _ _ st1 _ ft ft' ft1 [] sols1 hrel h1
  rw [List.nil_append] at hs; subst hs
  refine ⟨ft1, st1, sols1, ft1', h1, h1', r1.imp fun j _ _ hj r => ?_, hr⟩
  have hw : (W0 j = true ∨ ∃ x ∈ sols1, j ∈ solTokens lines x.2.2 x.2.1) = True := by
    refine eq_true ((allWritten_iff.1 hall j (l1 ▸ hj)).imp_right fun ⟨x, hx, h0, hm⟩ => ⟨x, ?_, hm⟩)
    rcases hr with ⟨_, _, rfl⟩ | ⟨_, _, _, _, _, _, _, h3, _⟩
    · exact hx
    · obtain ⟨news2, rfl, hp⟩ := applyLinesS_sols h3
      exact (List.mem_append.1 hx).resolve_right fun hx => by have := hp x hx; omega
  exact hw ▸ r

theorem wrapStageFull_zero {cfg : Config} {lines : List Line} {ft ftz : FT} {sols : List (Nat × Nat × Sol)}
    (h : wrapStageFull cfg lines ft = some (ftz, sols)) : ∃ ft4, ftz = zeroLineStartSpaces ft4 := by
  obtain ⟨ft1, _, _, _, ⟨_, rfl, _⟩ | ⟨_, _, _, _, _, ft4, _, _, _, rfl⟩⟩ := wrapStageFull_eq_some.1 h
  · exact ⟨ft1, rfl⟩
  · exact ⟨ft4, rfl⟩

theorem wrapStage_zero {solve : Nat → Nat → Option Sol} {cfg : Config} {lines : List Line} {ft ftz : FT}
    (h : wrapStage solve cfg lines ft = some ftz) : ∃ ft4, ftz = zeroLineStartSpaces ft4 := by
  obtain ⟨ft1, _, ⟨_, rfl⟩ | ⟨_, _, _, _, ft4, _, _, _, rfl⟩⟩ := wrapStage_eq_some.1 h
  · exact ⟨ft1, rfl⟩
  · exact ⟨ft4, rfl⟩

theorem zeroTok_no_spaces (t : FTok) (hn : (zeroTok t).fmt.nl > 0) : (zeroTok t).fmt.sp = 0 := by
  rw [zeroTok_eq] at hn ⊢
  exact if_pos hn

end Pasfmt
