/-
  Well-formed UTF-8.  `validUtf8` recognises character by character (`firstCharLen`); `Utf8Char`/`Chars` say the same
  as inductive predicates - a text is well-formed iff it is a sequence of well-formed characters (`validUtf8_iff`) - and
  everything else is by induction on that sequence.  The fact the other modules use: a position whose byte is not a
  continuation byte (`NotContAt`) is a character boundary, i.e. both sides of it are well-formed (`validUtf8_split`);
  and well-formed text has no dangling `E3`.
-/
import PasfmtModel.Proofs.NoDangling

namespace Pasfmt

theorem validUtf8_unfold (l : Bytes) :
    validUtf8 l = match firstCharLen l with
      | none => l.isEmpty
      | some k => validUtf8 (l.drop k) := by
  rw [validUtf8]
  split <;> simp_all

theorem validUtf8_nil : validUtf8 [] = true := by
  rw [validUtf8_unfold]; rfl

/-- the admissible second byte after the lead byte `b0` of a three-byte character -/
def second3 (b0 b1 : UInt8) : Bool :=
  if b0 == 0xE0 then 0xA0 ≤ b1 && b1 ≤ 0xBF else if b0 == 0xED then 0x80 ≤ b1 && b1 ≤ 0x9F else isCont b1

/-- the same for a four-byte character -/
def second4 (b0 b1 : UInt8) : Bool :=
  if b0 == 0xF0 then 0x90 ≤ b1 && b1 ≤ 0xBF else if b0 == 0xF4 then 0x80 ≤ b1 && b1 ≤ 0x8F else isCont b1

/-- one well-formed character (Unicode Table 3-7), as `firstCharLen` recognises it -/
inductive Utf8Char : Bytes → Prop
  | one {b0} : b0 < 0x80 → Utf8Char [b0]
  | two {b0 b1} : (0xC2 ≤ b0 && b0 ≤ 0xDF) = true → isCont b1 = true → Utf8Char [b0, b1]
  | three {b0 b1 b2} : (0xE0 ≤ b0 && b0 ≤ 0xEF) = true → second3 b0 b1 = true → isCont b2 = true →
      Utf8Char [b0, b1, b2]
  | four {b0 b1 b2 b3} : (0xF0 ≤ b0 && b0 ≤ 0xF4) = true → second4 b0 b1 = true → isCont b2 = true →
      isCont b3 = true → Utf8Char [b0, b1, b2, b3]

theorem firstCharLen_cons (b0 : UInt8) (r : Bytes) : firstCharLen (b0 :: r) =
    if b0 < 0x80 then some 1
    else if 0xC2 ≤ b0 && b0 ≤ 0xDF then
      match r with
      | b1 :: _ => if isCont b1 then some 2 else none
      | _ => none
    else if 0xE0 ≤ b0 && b0 ≤ 0xEF then
      match r with
      | b1 :: b2 :: _ => if second3 b0 b1 && isCont b2 then some 3 else none
      | _ => none
    else if 0xF0 ≤ b0 && b0 ≤ 0xF4 then
      match r with
      | b1 :: b2 :: b3 :: _ => if second4 b0 b1 && isCont b2 && isCont b3 then some 4 else none
      | _ => none
    else none := rfl

theorem firstCharLen_some {l : Bytes} {k : Nat} (h : firstCharLen l = some k) :
    ∃ c r, l = c ++ r ∧ Utf8Char c ∧ c.length = k := by
  revert h
  fun_cases firstCharLen l <;> intro h <;> cases h
  · exact ⟨[_], _, rfl, .one ‹_›, rfl⟩
  · exact ⟨[_, _], _, rfl, .two ‹_› ‹_›, rfl⟩
  · rename_i hc
    rw [Bool.and_eq_true] at hc
    exact ⟨[_, _, _], _, rfl, .three ‹_› hc.1 hc.2, rfl⟩
  · rename_i hc
    simp only [Bool.and_eq_true] at hc
    exact ⟨[_, _, _, _], _, rfl, .four ‹_› hc.1.1 hc.1.2 hc.2, rfl⟩

theorem lead_ranges (b0 : UInt8) :
    ((0xC2 ≤ b0 && b0 ≤ 0xDF) = true → ¬ b0 < 0x80) ∧
    ((0xE0 ≤ b0 && b0 ≤ 0xEF) = true → ¬ b0 < 0x80 ∧ (0xC2 ≤ b0 && b0 ≤ 0xDF) = false) ∧
    ((0xF0 ≤ b0 && b0 ≤ 0xF4) = true →
      ¬ b0 < 0x80 ∧ (0xC2 ≤ b0 && b0 ≤ 0xDF) = false ∧ (0xE0 ≤ b0 && b0 ≤ 0xEF) = false) := by
  simp only [Bool.and_eq_true, Bool.and_eq_false_iff, decide_eq_true_eq, decide_eq_false_iff_not,
    UInt8.le_iff_toNat_le, UInt8.lt_iff_toNat_lt, UInt8.toNat_ofNat]
  omega

theorem Utf8Char.firstCharLen {c : Bytes} (h : Utf8Char c) (x : Bytes) : firstCharLen (c ++ x) = some c.length := by
  cases h with
  | one h0 => simp [firstCharLen_cons, h0]
  | two h0 h1 => simp [firstCharLen_cons, (lead_ranges _).1 h0, h0, h1]
  | three h0 h1 h2 =>
    obtain ⟨n0, n1⟩ := (lead_ranges _).2.1 h0
    simp [firstCharLen_cons, n0, n1, h0, h1, h2]
  | four h0 h1 h2 h3 =>
    obtain ⟨n0, n1, n2⟩ := (lead_ranges _).2.2 h0
    simp [firstCharLen_cons, n0, n1, n2, h0, h1, h2, h3]

theorem Utf8Char.length_pos {c : Bytes} (h : Utf8Char c) : 0 < c.length := by cases h <;> simp

theorem validUtf8_char_append {c : Bytes} (h : Utf8Char c) (r : Bytes) : validUtf8 (c ++ r) = validUtf8 r := by
  rw [validUtf8_unfold, h.firstCharLen]; simp

/-- a sequence of well-formed characters -/
inductive Chars : Bytes → Prop
  | nil : Chars []
  | cons {c r : Bytes} : Utf8Char c → Chars r → Chars (c ++ r)

/-- **well-formed text is a sequence of well-formed characters** - the one induction on the length of the text; what
    follows is by induction on `Chars` -/
theorem validUtf8_iff (l : Bytes) : validUtf8 l = true ↔ Chars l := by
  constructor
  · intro hv
    induction hlen : l.length using Nat.strongRecOn generalizing l with
    | _ n ih =>
      rw [validUtf8_unfold] at hv
      cases hk : firstCharLen l with
      | none => rw [hk] at hv; rw [List.isEmpty_iff.1 hv]; exact .nil
      | some k =>
        obtain ⟨c, r, rfl, hc, rfl⟩ := firstCharLen_some hk
        rw [hk] at hv
        simp only [List.drop_left] at hv
        exact .cons hc (ih r.length (by have := hc.length_pos; simp at hlen; omega) r hv rfl)
  · intro h
    induction h with
    | nil => exact validUtf8_nil
    | cons hc _ ih => rw [validUtf8_char_append hc]; exact ih

theorem notCont_of_lt {b : UInt8} (h : b < 0x80) : isCont b = false := (ascii_not_cont h).1

theorem notCont_of_lead {lo hi b : UInt8} (hlo : 0xC0 ≤ lo) (h : (lo ≤ b && b ≤ hi) = true) : isCont b = false := by
  simp only [isCont, Bool.and_eq_true, Bool.and_eq_false_iff, decide_eq_true_eq, decide_eq_false_iff_not,
    UInt8.le_iff_toNat_le, UInt8.toNat_ofNat] at hlo h ⊢
  omega

theorem isCont_of_range {lo hi b : UInt8} (hlo : 0x80 ≤ lo) (hhi : hi ≤ 0xBF) (h : (lo ≤ b && b ≤ hi) = true) :
    isCont b = true := by
  simp only [isCont, Bool.and_eq_true, decide_eq_true_eq, UInt8.le_iff_toNat_le, UInt8.toNat_ofNat] at hlo hhi h ⊢
  omega

theorem second3_cont {b0 b1 : UInt8} (h : second3 b0 b1 = true) : isCont b1 = true := by
  unfold second3 at h
  split at h
  · exact isCont_of_range (by decide) (by decide) h
  · split at h
    · exact isCont_of_range (by decide) (by decide) h
    · exact h

theorem second4_cont {b0 b1 : UInt8} (h : second4 b0 b1 = true) : isCont b1 = true := by
  unfold second4 at h
  split at h
  · exact isCont_of_range (by decide) (by decide) h
  · split at h
    · exact isCont_of_range (by decide) (by decide) h
    · exact h

theorem Utf8Char.shape {c : Bytes} (h : Utf8Char c) :
    ∃ b t, c = b :: t ∧ isCont b = false ∧ ∀ x ∈ t, isCont x = true := by
  cases h with
  | one h0 => exact ⟨_, _, rfl, notCont_of_lt h0, by simp⟩
  | two h0 h1 => exact ⟨_, _, rfl, notCont_of_lead (by decide) h0, by simp [h1]⟩
  | three h0 h1 h2 => exact ⟨_, _, rfl, notCont_of_lead (by decide) h0, by simp [second3_cont h1, h2]⟩
  | four h0 h1 h2 h3 => exact ⟨_, _, rfl, notCont_of_lead (by decide) h0, by simp [second4_cont h1, h2, h3]⟩

theorem validUtf8_cons_ascii {b : UInt8} (r : Bytes) (hb : b < 0x80) : validUtf8 (b :: r) = validUtf8 r :=
  validUtf8_char_append (.one hb) r

theorem validUtf8_append_left (a b : Bytes) (ha : validUtf8 a = true) : validUtf8 (a ++ b) = validUtf8 b := by
  rw [validUtf8_iff] at ha
  induction ha with
  | nil => rfl
  | cons hc _ ih => rw [List.append_assoc, validUtf8_char_append hc]; exact ih

theorem valid_head_notCont (b : UInt8) (r : Bytes) (hv : validUtf8 (b :: r) = true) : isCont b = false := by
  rw [validUtf8_iff] at hv
  generalize hl : b :: r = l at hv
  cases hv with
  | nil => cases hl
  | cons hc _ =>
    obtain ⟨b', t, rfl, hb, _⟩ := hc.shape
    cases hl; exact hb

/-- the byte at position `p` of `l` is not a continuation byte (or `p` is at/after the end) -/
def NotContAt (l : Bytes) (p : Nat) : Prop := ∀ b, l[p]? = some b → isCont b = false

theorem validUtf8_split (l : Bytes) (p : Nat) (hv : validUtf8 l = true) (hp : p ≤ l.length)
    (hnc : NotContAt l p) : validUtf8 (l.take p) = true ∧ validUtf8 (l.drop p) = true := by
  rw [validUtf8_iff] at hv
  induction hv generalizing p with
  | nil => simp [validUtf8_nil]
  | @cons c r hc hr ih =>
    rcases Nat.eq_zero_or_pos p with rfl | hpos
    · simp [validUtf8_nil, (validUtf8_iff _).2 (.cons hc hr)]
    · obtain ⟨b, t, rfl, _, ht⟩ := hc.shape
      by_cases hpk : p < (b :: t).length
      · -- inside the first character the byte is a continuation byte
        exfalso
        have hb := hnc (b :: t)[p] (by rw [List.getElem?_append_left hpk, List.getElem?_eq_getElem hpk])
        obtain ⟨j, rfl⟩ : ∃ j, p = j + 1 := ⟨p - 1, by omega⟩
        rw [List.getElem_cons_succ, ht _ (List.getElem_mem _)] at hb
        cases hb
      · have hk : (b :: t).length ≤ p := by omega
        have hrec := ih (p - (b :: t).length) (by simp only [List.length_append] at hp; omega)
          (fun x hx => hnc x (by rw [List.getElem?_append_right hk]; exact hx))
        rw [List.take_append, List.drop_append, List.take_of_length_le hk, List.drop_of_length_le hk,
          validUtf8_char_append hc]
        exact hrec

theorem ne_e3_of_range {lo hi b : UInt8} (h : (lo ≤ b && b ≤ hi) = true) (hr : hi < 0xE3 ∨ 0xE3 < lo) : b ≠ 0xE3 := by
  simp only [Bool.and_eq_true, decide_eq_true_eq, UInt8.le_iff_toNat_le, UInt8.lt_iff_toNat_lt, ne_eq, ← UInt8.toNat_inj,
    UInt8.toNat_ofNat] at h hr ⊢
  omega

theorem Utf8Char.nd_append {c : Bytes} (h : Utf8Char c) (r : Bytes) : nd (c ++ r) = nd r := by
  have cont := fun {b : UInt8} (hb : isCont b = true) => (isCont_not_blank hb).2
  cases h with
  | one h0 => exact nd_cons_ne _ _ (ascii_not_cont h0).2
  | two h0 h1 =>
    exact (nd_cons_ne _ _ (ne_e3_of_range h0 (Or.inl (by decide)))).trans (nd_cons_ne _ _ (cont h1))
  | @three b0 b1 b2 h0 h1 h2 =>
    have c1 := second3_cont h1
    by_cases he : b0 = 0xE3
    · subst he; simp [nd, c1, h2]
    · exact (nd_cons_ne _ _ he).trans ((nd_cons_ne _ _ (cont c1)).trans (nd_cons_ne _ _ (cont h2)))
  | four h0 h1 h2 h3 =>
    exact (nd_cons_ne _ _ (ne_e3_of_range h0 (Or.inr (by decide)))).trans ((nd_cons_ne _ _ (cont (second4_cont h1))).trans
      ((nd_cons_ne _ _ (cont h2)).trans (nd_cons_ne _ _ (cont h3))))

theorem valid_nd (l : Bytes) (hv : validUtf8 l = true) : nd l = true := by
  rw [validUtf8_iff] at hv
  induction hv with
  | nil => rfl
  | cons hc _ ih => rw [hc.nd_append]; exact ih

theorem notContAt_of_ascii (l : Bytes) (p : Nat) (b : UInt8) (h : l[p]? = some b) (hb : b < 0x80) : NotContAt l p := by
  intro b' hb'
  rw [h] at hb'; simp at hb'; subst hb'
  exact notCont_of_lt hb

theorem notContAt_end (l : Bytes) (p : Nat) (h : l.length ≤ p) : NotContAt l p := by
  intro b hb
  rw [List.getElem?_eq_none h] at hb; simp at hb

theorem notContAt_of_valid_drop (s : Bytes) (i : Nat) (hv : validUtf8 (s.drop i) = true) : NotContAt s i := by
  intro b hb
  obtain ⟨hlt, hget⟩ := List.getElem?_eq_some_iff.mp hb
  rw [← List.getElem_cons_drop (h := hlt), hget] at hv
  exact valid_head_notCont b _ hv

theorem valid_drop_after_ascii (s : Bytes) (p : Nat) (b : UInt8) (hv : validUtf8 s = true) (hb : s[p]? = some b)
    (hlt : b < 0x80) : validUtf8 (s.drop (p + 1)) = true := by
  obtain ⟨hp, hget⟩ := List.getElem?_eq_some_iff.mp hb
  have hd := (validUtf8_split s p hv (by omega) (notContAt_of_ascii s p b hb hlt)).2
  rw [← List.getElem_cons_drop (h := hp), hget] at hd
  exact (validUtf8_cons_ascii _ hlt).symm.trans hd

theorem validUtf8_append (a b : Bytes) (ha : validUtf8 a = true) (hb : validUtf8 b = true) :
    validUtf8 (a ++ b) = true := by
  rw [validUtf8_append_left a b ha]; exact hb

theorem BlankUnits.valid {w : Bytes} (h : BlankUnits w) : validUtf8 w = true := by
  induction h with
  | nil => exact validUtf8_nil
  | blank b w hb _ ih => exact (validUtf8_cons_ascii w (UInt8.lt_of_le_of_lt hb (by decide))).trans ih
  | wide w _ ih => exact (validUtf8_char_append (.three (by decide) (by decide) (by decide)) w).trans ih

theorem validUtf8_of_ascii (t : Bytes) (h : AllAscii t) : validUtf8 t = true := by
  induction t with
  | nil => exact validUtf8_nil
  | cons b r ih =>
    exact (validUtf8_cons_ascii r (h b (by simp))).trans (ih (fun c hc => h c (by simp [hc])))

theorem allAscii_append (a b : Bytes) (ha : AllAscii a) (hb : AllAscii b) : AllAscii (a ++ b) :=
  fun c hc => (List.mem_append.1 hc).elim (ha c) (hb c)

theorem allAscii_nil : AllAscii [] := by intro c hc; cases hc

theorem allAscii_replicate (n : Nat) (x : UInt8) (hx : x < 0x80) : AllAscii (List.replicate n x) :=
  fun c hc => (List.mem_replicate.1 hc).2 ▸ hx

theorem allAscii_drop (s : Bytes) (j : Nat) (hs : AllAscii s) : AllAscii (s.drop j) :=
  fun c hc => hs c (List.mem_of_mem_drop hc)

/-! ### cutting well-formed text at ASCII bytes -/

theorem valid_drop_ascii (a b : Bytes) (ha : AllAscii a) (h : validUtf8 (a ++ b) = true) :
    validUtf8 b = true :=
  (validUtf8_append_left a b (validUtf8_of_ascii a ha)).symm.trans h

theorem valid_take_ascii (a b : Bytes) (hb : AllAscii b) (h : validUtf8 (a ++ b) = true) :
    validUtf8 a = true := by
  cases b with
  | nil => simpa using h
  | cons x r =>
    have hget : (a ++ x :: r)[a.length]? = some x := by simp
    have := (validUtf8_split (a ++ x :: r) a.length h (by simp)
      (notContAt_of_ascii _ _ x hget (hb x (by simp)))).1
    simpa using this

theorem valid_trimEnd_ascii (p : UInt8 → Bool) (hp : ∀ b, p b = true → b < 0x80) (s : Bytes)
    (h : validUtf8 s = true) : validUtf8 (s.reverse.dropWhile p).reverse = true := by
  obtain ⟨tail, hs, ht⟩ := trimEnd_decomp p s
  exact valid_take_ascii _ tail (fun b hb => hp b (ht b hb)) (by rw [← hs]; exact h)

/-! ### `isCharBoundary` (Rust's `str::is_char_boundary`) against well-formed text -/

theorem isCharBoundary_iff (s : Bytes) (i : Nat) :
    isCharBoundary s i = true ↔ i = 0 ∨ (i ≤ s.length ∧ NotContAt s i) := by
  unfold isCharBoundary NotContAt
  by_cases h0 : i = 0
  · simp [h0]
  · have hi : (i == 0) = false := by simpa using h0
    simp only [hi, Bool.false_eq_true, if_false, h0, false_or]
    cases hb : s[i]? with
    | none =>
      have := List.getElem?_eq_none_iff.1 hb
      simp only [beq_iff_eq]
      exact ⟨fun h => ⟨by omega, fun b hb' => by cases hb'⟩, fun h => by omega⟩
    | some b =>
      have := (List.getElem?_eq_some_iff.1 hb).1
      simp only [Bool.not_eq_true', Option.some.injEq, forall_eq']
      exact ⟨fun h => ⟨by omega, h⟩, fun h => h.2⟩

theorem isCharBoundary_zero (s : Bytes) : isCharBoundary s 0 = true :=
  (isCharBoundary_iff s 0).2 (Or.inl rfl)

theorem isCharBoundary_length (s : Bytes) : isCharBoundary s s.length = true :=
  (isCharBoundary_iff s _).2 (Or.inr ⟨Nat.le_refl _, notContAt_end s _ (Nat.le_refl _)⟩)

theorem isCharBoundary_of_valid_drop (s : Bytes) (i : Nat) (hi : i ≤ s.length)
    (hv : validUtf8 (s.drop i) = true) : isCharBoundary s i = true :=
  (isCharBoundary_iff s i).2 (Or.inr ⟨hi, notContAt_of_valid_drop s i hv⟩)

theorem notContAt_of_isCharBoundary (s : Bytes) (i : Nat) (hpos : 0 < i)
    (h : isCharBoundary s i = true) : i ≤ s.length ∧ NotContAt s i :=
  ((isCharBoundary_iff s i).1 h).resolve_left (by omega)

theorem valid_split_of_boundary (c : Bytes) (o : Nat) (hv : validUtf8 c = true)
    (hb : isCharBoundary c o = true) : validUtf8 (c.take o) = true ∧ validUtf8 (c.drop o) = true := by
  rcases Nat.eq_zero_or_pos o with h0 | hpos
  · subst h0; exact ⟨validUtf8_nil, hv⟩
  · obtain ⟨hle, hnc⟩ := notContAt_of_isCharBoundary c o hpos hb
    exact validUtf8_split c o hv hle hnc

theorem valid_take_of_boundary (c : Bytes) (o : Nat) (hv : validUtf8 c = true)
    (hb : isCharBoundary c o = true) : validUtf8 (c.take o) = true :=
  (valid_split_of_boundary c o hv hb).1

/-- inside `A ++ X ++ R` an offset `j` of `X` behind which `X`, and `R`, are well-formed is a character boundary -/
theorem isCharBoundary_append (A X R : Bytes) (j : Nat) (hj : j ≤ X.length) (hX : validUtf8 (X.drop j) = true)
    (hR : validUtf8 R = true) : isCharBoundary (A ++ (X ++ R)) (A.length + j) = true := by
  apply isCharBoundary_of_valid_drop
  · simp only [List.length_append]; omega
  · rw [List.drop_append, List.drop_of_length_le (by omega), List.nil_append, Nat.add_sub_cancel_left,
      List.drop_append_of_le_length hj]
    exact validUtf8_append _ _ hX hR

theorem isCharBoundary_of_append (P c Q : Bytes) (o : Nat) (ho : o ≤ c.length)
    (h : isCharBoundary (P ++ (c ++ Q)) (P.length + o) = true) : isCharBoundary c o = true := by
  rcases Nat.eq_zero_or_pos o with h0 | hpos
  · subst h0; exact isCharBoundary_zero c
  · have hnc := (notContAt_of_isCharBoundary _ _ (by omega) h).2
    refine (isCharBoundary_iff c o).2 (Or.inr ⟨ho, fun b hb => hnc b ?_⟩)
    have hlt := (List.getElem?_eq_some_iff.1 hb).1
    rw [List.getElem?_append_right (by omega), Nat.add_sub_cancel_left, List.getElem?_append_left hlt, hb]

theorem isCharBoundary_after_ascii (s : Bytes) (p : Nat) (b : UInt8) (hv : validUtf8 s = true)
    (hb : s[p]? = some b) (hlt : b < 0x80) : isCharBoundary s (p + 1) = true :=
  isCharBoundary_of_valid_drop s (p + 1) (List.getElem?_eq_some_iff.1 hb).1 (valid_drop_after_ascii s p b hv hb hlt)

theorem isCharBoundary_at_ascii (s : Bytes) (p : Nat) (b : UInt8)
    (hb : s[p]? = some b) (hlt : b < 0x80) : isCharBoundary s p = true :=
  (isCharBoundary_iff s p).2
    (Or.inr ⟨Nat.le_of_lt (List.getElem?_eq_some_iff.1 hb).1, notContAt_of_ascii s p b hb hlt⟩)

end Pasfmt
