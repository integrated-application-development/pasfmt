/-
  `lexWith_char_boundaries`: in well-formed UTF-8 text every token boundary the scanner model computes
  is a character boundary, so leading blanks and contents of all tokens are well-formed UTF-8
  themselves (the Rust code slices `&str` at exactly these offsets; a slice off a character
  boundary panics).
-/
import PasfmtModel.Proofs.LexTotal

namespace Pasfmt

theorem lexOne_boundaries (simd : Bool) (st : LexState) (inp : Bytes) (hv : validUtf8 inp = true)
    (ws e : Nat) (k : RawKind) (st' : LexState)
    (h : lexOne simd st inp = some (some (ws, e, k, st'))) :
    validUtf8 (inp.take ws) = true ∧ validUtf8 ((inp.take e).drop ws) = true ∧ validUtf8 (inp.drop e) = true := by
  obtain ⟨b, r, o, hdrop, _, _, hlen, rfl, rfl, rfl, rfl⟩ := lexOne_inv h
  have hws := (blankUnits_leadingWs inp).valid
  have hvd : validUtf8 (inp.drop (countLeadingWs inp)) = true := by
    rwa [← validUtf8_append_left _ _ hws, List.take_append_drop]
  rw [hdrop] at hvd
  have hl := congrArg List.length hdrop
  simp only [List.length_drop, List.length_cons] at hl
  -- the trailing blanks start at an `Ends` offset of the token text
  have htrim : Ends (b :: r) (r.length + 1 - countTrailingWs inp) := by
    apply Ends.of_notCont
    intro c hc
    apply trailing_notCont inp c
    rw [← hdrop, List.getElem?_drop] at hc
    have ht := countTrailingWs_lt inp b r hdrop
    have e2 : countLeadingWs inp + (r.length + 1 - countTrailingWs inp) = inp.length - countTrailingWs inp := by omega
    rwa [e2] at hc
  have hnc := (hlen.ends htrim).notCont hvd
  -- split the token text at the token end, and the input at the token start
  have hsp2 := validUtf8_split (b :: r) o.len hvd hlen.le hnc
  refine ⟨hws, ?_, ?_⟩
  · have : (inp.take (countLeadingWs inp + o.len)).drop (countLeadingWs inp) = (b :: r).take o.len := by
      rw [← hdrop, List.drop_take]; simp
    rw [this]; exact hsp2.1
  · have : inp.drop (countLeadingWs inp + o.len) = (b :: r).drop o.len := by
      rw [← hdrop, List.drop_drop]
    rw [this]; exact hsp2.2

theorem Scan.boundaries {simd : Bool} {st : LexState} {inp : Bytes} {toks : List RawTok}
    (h : Scan simd st inp toks) (hv : validUtf8 inp = true) :
    ∀ t ∈ toks, validUtf8 t.ws = true ∧ validUtf8 t.content = true := by
  induction h with
  | eof =>
    intro t ht
    cases List.mem_singleton.1 ht
    exact ⟨hv, validUtf8_nil⟩
  | tok hone _ _ _ ih =>
    have hb := lexOne_boundaries _ _ _ hv _ _ _ _ hone
    intro t ht
    rcases List.mem_cons.1 ht with rfl | ht
    · exact ⟨hb.1, hb.2.1⟩
    · exact ih hb.2.2 t ht

/-- **Token boundaries are character boundaries.**  For well-formed UTF-8 input the leading blanks and
    the content of every token are well-formed UTF-8: every offset at which the Rust scanner slices
    the `&str` is a character boundary (a slice elsewhere panics). -/
theorem lexWith_char_boundaries (simd : Bool) (inp : Bytes) (toks : List RawTok)
    (hv : validUtf8 inp = true) (h : lexWith simd inp = some toks) :
    ∀ t ∈ toks, validUtf8 t.ws = true ∧ validUtf8 t.content = true :=
  (lexWith_scan h).boundaries hv

end Pasfmt
