/-
  The reconstructor (`Model/Recon.lean`): the gap in front of a token by cases, the safety net after a line comment
  (`noNetHere`), the output of a concatenation of token lists, and the one theorem about rendering (`Concat.recon`):
  every relation between byte strings that respects concatenation relates two renderings.  The tabs-to-spaces law
  (C10) is derived from it here, the line-ending law in `Props/C09`.
-/
import PasfmtModel.Model.Contracts
import PasfmtModel.Proofs.LinesCustom

namespace Pasfmt

theorem containsByte_cons (x b : UInt8) (r : Bytes) : containsByte x (b :: r) = (b == x || containsByte x r) := by
  unfold containsByte; simp

theorem containsByte_append (x : UInt8) (a b : Bytes) :
    containsByte x (a ++ b) = (containsByte x a || containsByte x b) := by
  unfold containsByte; simp

theorem containsByte_eq_false {x : UInt8} {l : Bytes} : containsByte x l = false ↔ ∀ b ∈ l, b ≠ x := by
  unfold containsByte; simp

theorem not_mem_of_containsByte {x : UInt8} {l : Bytes} (h : containsByte x l = false) : x ∉ l :=
  fun hm => containsByte_eq_false.1 h x hm rfl

theorem replicate_noByte (x : UInt8) (n : Nat) (b : UInt8) (hb : b ≠ x) : containsByte x (List.replicate n b) = false :=
  containsByte_eq_false.2 fun _ hc => (List.mem_replicate.1 hc).2 ▸ hb

theorem replicateBytes_succ' (n : Nat) (s : Bytes) : replicateBytes (n + 1) s = replicateBytes n s ++ s := by
  unfold replicateBytes
  rw [List.replicate_succ']
  simp

theorem replicateBytes_length (n : Nat) (s : Bytes) : (replicateBytes n s).length = n * s.length := by
  simp [replicateBytes, List.length_flatten]

theorem replicateBytes_replicate (n m : Nat) (b : UInt8) :
    replicateBytes n (List.replicate m b) = List.replicate (n * m) b :=
  List.flatten_replicate_replicate

/-- `countByte` is core's `List.count` -/
theorem countByte_eq_count (c : UInt8) (s : Bytes) : countByte c s = s.count c := by
  unfold countByte; rw [List.count, List.countP_eq_length_filter]

theorem countByte_le_length (c : UInt8) (s : Bytes) : countByte c s ≤ s.length :=
  countByte_eq_count c s ▸ List.count_le_length

theorem satMulU8_eq_of_le {a b : Nat} (h : a * b ≤ 255) : satMulU8 a b = a * b := by
  unfold satMulU8; omega

theorem indent_units (c : Config) (hsat : c.contIndents * c.tabWidth ≤ 255) (ind cont : Nat) :
    replicateBytes ind c.settings.indStr ++ replicateBytes cont c.settings.contStr =
      if c.useTabs then List.replicate (ind + c.contIndents * cont) 0x09
      else List.replicate ((ind + c.contIndents * cont) * c.tabWidth) 0x20 := by
  have hsatm := satMulU8_eq_of_le hsat
  unfold Config.settings
  simp only
  split
  · rw [replicateBytes_replicate, replicateBytes_replicate, List.replicate_append_replicate]
    congr 1; rw [Nat.mul_comm cont]; omega
  · rw [replicateBytes_replicate, replicateBytes_replicate, List.replicate_append_replicate, hsatm]
    congr 1
    rw [Nat.add_mul, Nat.mul_assoc, Nat.mul_comm cont, Nat.mul_assoc, Nat.mul_comm c.tabWidth cont]

/-- the safety-net newline is not inserted in front of this ignored token -/
def noSafetyNet (mb : Bool) (t : FTok) : Bool :=
  !(mb && !containsByte 0x0A t.tok.ws && !(t.tok.kind == .tEof))

theorem noSafetyNet_iff (mb : Bool) (t : FTok) :
    noSafetyNet mb t = true ↔ mb = false ∨ containsByte 0x0A t.tok.ws = true ∨ t.tok.kind = .tEof := by
  unfold noSafetyNet; cases mb <;> cases containsByte 0x0A t.tok.ws <;> simp

/-- the indentation and spaces emitted in front of a token that is not kept verbatim -/
def blanksOf (S : Settings) (t : FTok) : Bytes :=
  replicateBytes t.fmt.ind S.indStr ++ replicateBytes t.fmt.cont S.contStr ++ List.replicate t.fmt.sp 0x20

/-- the number of line terminators emitted in front of such a token (the safety net after a line comment included) -/
def effNl (mb : Bool) (t : FTok) : Nat :=
  if mb && t.fmt.nl == 0 && !(t.tok.kind == .tEof) then 1 else t.fmt.nl

theorem gapOf_ignored (S : Settings) (t : FTok) (mb : Bool) (hi : t.fmt.ignored = true) :
    gapOf S t mb = (if noSafetyNet mb t then [] else S.nlStr) ++ t.tok.ws := by
  unfold gapOf noSafetyNet
  simp only [hi, if_true]
  cases mb && !containsByte 0x0A t.tok.ws && !(t.tok.kind == .tEof) <;> rfl

theorem gapOf_notIgnored (S : Settings) (t : FTok) (mb : Bool) (hi : t.fmt.ignored = false) :
    gapOf S t mb = replicateBytes (effNl mb t) S.nlStr ++ blanksOf S t := by
  unfold gapOf effNl blanksOf
  simp [hi, List.append_assoc]

/-- **The safety net.**  `mustBreak` (`mb`) is the reconstructor's flag "the previous token was a line comment".  When it
    is set, the next token is not the end-of-file token and its gap would hold no line break, one terminator is written
    first.  `noNetHere mb t`: this does not happen in front of `t`.  `noSafetyNet` is its reading for a token kept
    verbatim (`noNetHere_ignored`), the condition inside `effNl` its reading for the others (`effNl_eq`). -/
def noNetHere (mb : Bool) (t : FTok) : Bool :=
  !(mb && !(t.tok.kind == .tEof) &&
      (if t.fmt.ignored then !containsByte 0x0A t.tok.ws else t.fmt.nl == 0))

theorem noNetHere_ignored (mb : Bool) (t : FTok) (hi : t.fmt.ignored = true) : noNetHere mb t = noSafetyNet mb t := by
  unfold noNetHere noSafetyNet
  rw [hi, if_pos rfl, Bool.and_assoc, Bool.and_comm (!(t.tok.kind == .tEof)), Bool.and_assoc]

theorem effNl_eq (mb : Bool) (t : FTok) (hi : t.fmt.ignored = false) :
    effNl mb t = t.fmt.nl + (if noNetHere mb t then 0 else 1) := by
  unfold effNl noNetHere
  simp only [hi, Bool.false_eq_true, if_false]
  by_cases hn : t.fmt.nl = 0 <;> cases mb <;> cases t.tok.kind == TokenType.tEof <;> simp [hn]

/-- what is written in front of a token when the net does not fire -/
def gapBody (S : Settings) (t : FTok) : Bytes :=
  if t.fmt.ignored then t.tok.ws else replicateBytes t.fmt.nl S.nlStr ++ blanksOf S t

/-- **the gap, in one equation**: the safety net's terminator if it fires, then the token's own gap -/
theorem gapOf_eq (S : Settings) (t : FTok) (mb : Bool) :
    gapOf S t mb = (if noNetHere mb t then [] else S.nlStr) ++ gapBody S t := by
  unfold gapBody
  cases hi : t.fmt.ignored with
  | true => rw [gapOf_ignored S t mb hi, noNetHere_ignored mb t hi]; rfl
  | false =>
    rw [gapOf_notIgnored S t mb hi, effNl_eq mb t hi]
    cases noNetHere mb t
    · simp [replicateBytes, List.replicate_succ]
    · rfl

/-- the net adds one terminator, and only where there was none -/
theorem effNl_cases (mb : Bool) (t : FTok) : effNl mb t = t.fmt.nl ∨ (t.fmt.nl = 0 ∧ effNl mb t = 1) := by
  unfold effNl
  split
  · rename_i h
    simp only [Bool.and_eq_true, beq_iff_eq] at h
    exact Or.inr ⟨h.1.2, rfl⟩
  · exact Or.inl rfl

theorem effNl_false (t : FTok) : effNl false t = t.fmt.nl := by
  unfold effNl; simp

theorem isSingleLineCommentK_eq (k : Kind) : isSingleLineCommentK k = isSingleLineComment k := by
  unfold isSingleLineCommentK isSingleLineComment
  cases k <;> simp
  rename_i c; cases c <;> rfl

theorem noSafetyNetGo_cons (mb : Bool) (t : FTok) (r : FT) :
    noSafetyNetGo mb (t :: r) = (noNetHere mb t && noSafetyNetGo (isSingleLineComment t.tok.kind) r) := by
  rw [noSafetyNetGo, isSingleLineCommentK_eq]; rfl

/-- original text of a run of tokens -/
def verbatimText (run : FT) : Bytes := run.flatMap (fun t => t.tok.ws ++ t.tok.content)

/-- no safety-net newline is inserted inside the run (`mb` = state when the run starts) -/
def safeRun : Bool → FT → Bool
  | _, [] => true
  | mb, t :: r => noSafetyNet mb t && safeRun (isSingleLineComment t.tok.kind) r

/-- `must_break` state after a prefix -/
def mbAfter : Bool → FT → Bool
  | mb, [] => mb
  | _, t :: r => mbAfter (isSingleLineComment t.tok.kind) r

theorem reconGo_append (S : Settings) (mb : Bool) (a b : FT) :
    reconGo S mb (a ++ b) = reconGo S mb a ++ reconGo S (mbAfter mb a) b := by
  induction a generalizing mb with
  | nil => simp [reconGo, mbAfter]
  | cons t r ih => simp [reconGo, mbAfter, ih, List.append_assoc]

theorem mbAfter_append_singleton (mb : Bool) (pre : FT) (t : FTok) :
    mbAfter mb (pre ++ [t]) = isSingleLineComment t.tok.kind := by
  induction pre generalizing mb with
  | nil => rfl
  | cons x r ih => rw [List.cons_append, mbAfter]; exact ih _

theorem reconGo_snoc (S : Settings) (mb : Bool) (pre : FT) (t : FTok) :
    reconGo S mb (pre ++ [t]) = (reconGo S mb pre ++ gapOf S t (mbAfter mb pre)) ++ t.tok.content := by
  rw [reconGo_append, reconGo, reconGo]; simp [List.append_assoc]

theorem reconstruct_segment (S : Settings) (pre seg post : FT) :
    reconstruct S (pre ++ seg ++ post) =
      reconGo S false pre ++ reconGo S (mbAfter false pre) seg ++ reconGo S (mbAfter (mbAfter false pre) seg) post := by
  unfold reconstruct
  rw [List.append_assoc, reconGo_append, reconGo_append, List.append_assoc]

theorem reconGo_verbatim (S : Settings) (mb : Bool) (run : FT)
    (hi : ∀ t ∈ run, t.fmt.ignored = true) (hs : safeRun mb run = true) :
    reconGo S mb run = verbatimText run := by
  induction run generalizing mb with
  | nil => rfl
  | cons t r ih =>
    simp only [safeRun, Bool.and_eq_true] at hs
    rw [reconGo, gapOf_ignored S t mb (hi t (by simp)), hs.1, ih _ (fun x hx => hi x (by simp [hx])) hs.2]
    simp [verbatimText, List.append_assoc]

theorem reconstruct_verbatim_run (S : Settings) (pre run post : FT)
    (hi : ∀ t ∈ run, t.fmt.ignored = true) (hs : safeRun (mbAfter false pre) run = true) :
    reconstruct S (pre ++ run ++ post) =
      reconGo S false pre ++ verbatimText run ++ reconGo S (mbAfter (mbAfter false pre) run) post := by
  rw [reconstruct_segment, reconGo_verbatim S _ run hi hs]

/-! ### the output as a word: relations that respect concatenation

  The reconstructor writes a word over the settings' three strings, the space, the token texts and the whitespace of
  the tokens kept verbatim.  So any relation between byte strings that respects concatenation and relates these
  letters relates two renderings (`Concat.recon`): re-rendering under a homomorphism (C09, C10), two runs of the
  formatter (C06, C09), and - for a relation that ignores its second argument - any property of the output that
  concatenation preserves (well-formed UTF-8, C15; invisible gaps, C01). -/

structure Concat (R : Bytes → Bytes → Prop) : Prop where
  nil : R [] []
  append : ∀ {a a' b b'}, R a a' → R b b' → R (a ++ b) (a' ++ b')

structure Concat.Letters (R : Bytes → Bytes → Prop) (S S' : Settings) : Prop where
  nl : R S.nlStr S'.nlStr
  ind : R S.indStr S'.indStr
  cont : R S.contStr S'.contStr
  sp : R [0x20] [0x20]

/-- what the reconstructor reads of a token, in two runs: same counters, same kind, related texts, and for a token
    kept verbatim the same whitespace, related to itself -/
structure Concat.Tok (R : Bytes → Bytes → Prop) (t t' : FTok) : Prop where
  fmt : t'.fmt = t.fmt
  kind : t'.tok.kind = t.tok.kind
  content : R t.tok.content t'.tok.content
  ws : t.fmt.ignored = true → t'.tok.ws = t.tok.ws ∧ R t.tok.ws t.tok.ws

theorem Concat.of_pred {P : Bytes → Prop} (h0 : P []) (happ : ∀ a b, P a → P b → P (a ++ b)) :
    Concat (fun a _ => P a) := ⟨h0, fun ha hb => happ _ _ ha hb⟩

theorem Concat.of_hom {h : Bytes → Bytes} (h0 : h [] = []) (happ : ∀ a b, h (a ++ b) = h a ++ h b) :
    Concat (fun a b => h a = b) := ⟨h0, fun ha hb => by rw [happ, ha, hb]⟩

namespace Concat
variable {R : Bytes → Bytes → Prop} (hR : Concat R)
include hR

theorem replicateBytes {s s' : Bytes} (h : R s s') (n : Nat) : R (replicateBytes n s) (replicateBytes n s') := by
  unfold Pasfmt.replicateBytes
  induction n with
  | zero => exact hR.nil
  | succ k ih => rw [List.replicate_succ, List.replicate_succ, List.flatten_cons, List.flatten_cons]; exact hR.append h ih

theorem replicate {b b' : UInt8} (h : R [b] [b']) (n : Nat) : R (List.replicate n b) (List.replicate n b') := by
  induction n with
  | zero => exact hR.nil
  | succ k ih => exact hR.append (a := [b]) (a' := [b']) h ih

theorem blanks {S S' : Settings} (hind : R S.indStr S'.indStr) (hcont : R S.contStr S'.contStr) (hsp : R [0x20] [0x20])
    (t : FTok) : R (blanksOf S t) (blanksOf S' t) :=
  hR.append (hR.append (hR.replicateBytes hind _) (hR.replicateBytes hcont _)) (hR.replicate hsp _)

theorem gap {S S' : Settings} (hS : Letters R S S') {t t' : FTok} (hf : t'.fmt = t.fmt) (hk : t'.tok.kind = t.tok.kind)
    (hws : t.fmt.ignored = true → t'.tok.ws = t.tok.ws ∧ R t.tok.ws t.tok.ws) (mb : Bool) :
    R (gapOf S t mb) (gapOf S' t' mb) := by
  have e : noNetHere mb t' = noNetHere mb t := by
    unfold noNetHere; rw [hf, hk]; split
    · rw [(hws ‹_›).1]
    · rfl
  rw [gapOf_eq, gapOf_eq, e]
  refine hR.append ?_ ?_
  · cases noNetHere mb t
    · exact hS.nl
    · exact hR.nil
  · unfold gapBody blanksOf
    rw [hf]
    split
    · rw [(hws ‹_›).1]; exact (hws ‹_›).2
    · exact hR.append (hR.replicateBytes hS.nl _) (hR.blanks hS.ind hS.cont hS.sp t)

theorem recon {S S' : Settings} (hS : Letters R S S') {ft ft' : FT} (hlen : ft.length = ft'.length)
    (htok : ∀ (j : Nat) t t', ft[j]? = some t → ft'[j]? = some t' → Tok R t t') (mb : Bool) :
    R (reconGo S mb ft) (reconGo S' mb ft') := by
  induction ft generalizing ft' mb with
  | nil =>
    cases ft' with
    | nil => exact hR.nil
    | cons _ _ => simp at hlen
  | cons t r ih =>
    cases ft' with
    | nil => simp at hlen
    | cons t' r' =>
      have ht := htok 0 t t' rfl rfl
      rw [reconGo, reconGo, ht.kind]
      exact hR.append (hR.append (hR.gap hS ht.fmt ht.kind ht.ws mb) ht.content)
        (ih (by simpa using hlen) (fun j u u' hu hu' => htok (j + 1) u u' (by simpa using hu) (by simpa using hu')) _)

theorem recon_self {S S' : Settings} (hS : Letters R S S') (ft : FT) (mb : Bool)
    (htok : ∀ t ∈ ft, R t.tok.content t.tok.content ∧ (t.fmt.ignored = true → R t.tok.ws t.tok.ws)) :
    R (reconGo S mb ft) (reconGo S' mb ft) :=
  hR.recon hS rfl (fun j t t' h h' => by
    obtain rfl : t = t' := Option.some.inj (h.symm.trans h')
    have := htok t (List.mem_of_getElem? h)
    exact ⟨rfl, rfl, this.1, fun hi => ⟨rfl, this.2 hi⟩⟩) mb

/-- a first line and segments joined by a terminator, in two renderings -/
theorem joinNl {nl nl' first first' : Bytes} (hnl : R nl nl') (hf : R first first') {α : Type} (f g : α → Bytes)
    (xs : List α) (h : ∀ x ∈ xs, R (f x) (g x)) :
    R (CrlfFull.joinNl nl first (xs.map f)) (CrlfFull.joinNl nl' first' (xs.map g)) := by
  induction xs generalizing first first' with
  | nil => rw [List.map_nil, List.map_nil, joinNl_nil, joinNl_nil]; exact hf
  | cons x r ih =>
    rw [List.map_cons, List.map_cons, joinNl_cons, joinNl_cons]
    exact hR.append hf (hR.append hnl (ih (h x (by simp)) fun y hy => h y (by simp [hy])))

end Concat

theorem blanksOf_noByte (S : Settings) (x : UInt8) (hx : x ≠ 0x20) (hi : containsByte x S.indStr = false)
    (hc : containsByte x S.contStr = false) (t : FTok) : containsByte x (blanksOf S t) = false :=
  (Concat.of_pred (P := fun a => containsByte x a = false) rfl
    (fun a b ha hb => by rw [containsByte_append, ha, hb]; rfl)).blanks (S' := S) hi hc
    (replicate_noByte x 1 _ (Ne.symm hx)) t

theorem byteFreeTok (x : UInt8) (t : FTok)
    (h : (!containsByte x t.tok.content && (!t.fmt.ignored || !containsByte x t.tok.ws)) = true) :
    containsByte x t.tok.content = false ∧ (t.fmt.ignored = true → containsByte x t.tok.ws = false) := by
  simp only [Bool.and_eq_true, Bool.not_eq_true', Bool.or_eq_true] at h
  refine ⟨h.1, fun hi => ?_⟩
  rcases h.2 with h' | h'
  · rw [hi] at h'; cases h'
  · exact h'

/-- replace every `\n` by `\r\n` -/
def crlfOf : Bytes → Bytes
  | [] => []
  | b :: r => if b == 0x0A then 0x0D :: 0x0A :: crlfOf r else b :: crlfOf r

theorem crlfOf_append (a b : Bytes) : crlfOf (a ++ b) = crlfOf a ++ crlfOf b := by
  fun_induction crlfOf a <;> simp_all [crlfOf]

theorem crlfOf_noNl (a : Bytes) (h : containsByte 0x0A a = false) : crlfOf a = a := by
  fun_induction crlfOf a <;> simp_all [containsByte_cons]

/-- a token that is line-break free where it is emitted verbatim -/
def noNlTok (t : FTok) : Bool :=
  !containsByte 0x0A t.tok.content && (!t.fmt.ignored || !containsByte 0x0A t.tok.ws)

/-- the number of `\n` - what `FormattingData::from` counts - is the same with LF and with CR LF line breaks -/
theorem ofWs_nl_crlf (ws : Bytes) : countByte 0x0A (crlfOf ws) = countByte 0x0A ws := by
  simp only [countByte_eq_count]
  fun_induction crlfOf ws <;> simp_all [List.count_cons]

/-- replace every tab by `tw` spaces -/
def expandTabs (tw : Nat) : Bytes → Bytes
  | [] => []
  | b :: r => if b == 0x09 then List.replicate tw 0x20 ++ expandTabs tw r else b :: expandTabs tw r

theorem expandTabs_append (tw : Nat) (a b : Bytes) :
    expandTabs tw (a ++ b) = expandTabs tw a ++ expandTabs tw b := by
  fun_induction expandTabs tw a <;> simp_all [expandTabs]

theorem expandTabs_noTab (tw : Nat) (a : Bytes) (h : containsByte 0x09 a = false) : expandTabs tw a = a := by
  fun_induction expandTabs tw a <;> simp_all [containsByte_cons]

theorem expandTabs_tabs (tw n : Nat) :
    expandTabs tw (List.replicate n 0x09) = List.replicate (n * tw) 0x20 := by
  have h1 : List.replicate n (0x09 : UInt8) = replicateBytes n [0x09] := by
    rw [← List.replicate_one, replicateBytes_replicate, Nat.mul_one]
  have h2 : expandTabs tw [0x09] = List.replicate tw 0x20 := by simp [expandTabs]
  rw [h1, (Concat.of_hom rfl (expandTabs_append tw)).replicateBytes h2, replicateBytes_replicate]

/-- a token without tabs where it is emitted verbatim -/
def noTabTok (t : FTok) : Bool :=
  !containsByte 0x09 t.tok.content && (!t.fmt.ignored || !containsByte 0x09 t.tok.ws)

theorem nl_noTab (crlf : Bool) : containsByte 0x09 (if crlf then [0x0D, 0x0A] else [0x0A] : Bytes) = false := by
  cases crlf <;> decide

theorem reconGo_tabs_to_spaces (c : Config) (hsat : c.contIndents * c.tabWidth ≤ 255)
    (ft : FT) (mb : Bool) (h : ∀ t ∈ ft, noTabTok t = true) :
    expandTabs c.tabWidth (reconGo ({ c with useTabs := true }).settings mb ft)
      = reconGo ({ c with useTabs := false }).settings mb ft := by
  have hsatm := satMulU8_eq_of_le hsat
  refine (Concat.of_hom rfl (expandTabs_append c.tabWidth)).recon_self ⟨?_, ?_, ?_, rfl⟩ ft mb
    (fun t ht => ⟨expandTabs_noTab _ _ (byteFreeTok 0x09 t (h t ht)).1,
      fun hig => expandTabs_noTab _ _ ((byteFreeTok 0x09 t (h t ht)).2 hig)⟩)
  · exact expandTabs_noTab _ _ (nl_noTab _)
  · simp only [Config.settings, if_true, Bool.false_eq_true, if_false]
    rw [expandTabs_tabs, Nat.one_mul]
  · simp only [Config.settings, if_true, Bool.false_eq_true, if_false]
    rw [expandTabs_tabs, hsatm]

end Pasfmt
