/-
  The link between the level of a logical line and the counters its first token gets THROUGH THE SEARCH (for C05):
  whatever `find_optimal_solution` explores, every node of its heap carries the starting whitespace and the root
  decision the search was started with, so the solution `format_line` returns starts with `level` indentations, no
  continuation, and a first decision that is a plain break (or "continue" for the very first token of the file and
  for a line that must not be broken off its predecessor).  Applying such a solution (`reconstruct_solution`) gives the
  first token of the line the counters "1 or 2 line breaks, `level` indentations, no continuation".

  `applySol` alone, for any solution tree: the first token of the line of any solution in the tree (`SubSol`), if
  written once, gets that solution's first decision at that solution's starting whitespace (`subSol_first_token`);
  `FDesc.first_token` says the same of the tree the search returned, before the conversion `toSol`.

  All statements are about the model of the search (Model/Search.lean) and hold for every input; the invariant of the
  heap is an instance of Proofs/SearchInvariants.lean.
-/
import PasfmtModel.Proofs.SearchInvariants
import PasfmtModel.Proofs.SearchStage

namespace Pasfmt

/-- the decision at the root of the decision tree a `NodeRef` points into -/
def DecisionRef.rootDecision (r : DecisionRef) : Option Dec := (r.walkParentsData.getLast?).map (·.decision)

theorem rootDecision_addSuccessor (r : DecisionRef) (d : TokenDecision) :
    (r.addSuccessor d).rootDecision = r.rootDecision := by
  simp [DecisionRef.rootDecision, DecisionRef.addSuccessor, DecisionRef.walkParentsData, List.getLast?_cons_cons]

/-- a solver of child lines returns what it was asked for (`findOptimalSolution_key`) -/
def SolverKey (O : Olf) (solve : Solver) : Prop :=
  ∀ cache ws li fd sol cache', solve cache ws li fd = (.ok sol, cache') →
    sol.startingWs = ws ∧
      ((O.lines[li]!).tokens[0]?.isSome → (sol.decisions.head?).map (·.decision) = some (rootDec O (O.lines[li]!) fd))

/-- every node of the heap carries the starting whitespace and the root decision of the root node -/
theorem findOptimalSolutionWith_key (O : Olf) (solveChild : Solver) : SolverKey O (O.findOptimalSolutionWith solveChild) := by
  intro cache ws lineIdx fd sol cache' h
  refine (findOptimalSolutionWith_inv O solveChild ws lineIdx fd (fun _ => True) (fun _ _ => True)
    (fun x => x.startingWs = ws ∧ x.decision.rootDecision = some (rootDec O (O.lines[lineIdx]!) fd))
    (fun sol => sol.startingWs = ws ∧ ((O.lines[lineIdx]!).tokens[0]?.isSome →
      (sol.decisions.head?).map (·.decision) = some (rootDec O (O.lines[lineIdx]!) fd)))
    (fun _ _ _ _ _ _ _ _ _ _ => ⟨trivial, fun _ _ => trivial⟩) ?_ ?_ ?_ ?_ cache trivial).2 sol (by rw [h])
  · exact getPotentialSolution_inv _ _ (fun _ _ => True) _ (fun _ _ _ _ _ _ _ _ _ _ => ⟨trivial, fun _ _ => trivial⟩)
      (fun n rd req cs tll cc x hn _ _ h1 h2 _ => ⟨h1.trans hn.1, by rw [h2, rootDecision_addSuccessor]; exact hn.2⟩)
  · intro req cs lll x _ _ _ h1 h2 _
    exact ⟨h1, by rw [h2]; rfl⟩
  · intro h0
    exact ⟨rfl, by simp [h0]⟩
  · intro n hn
    refine ⟨hn.1, fun _ => ?_⟩
    show Option.map (fun x => x.decision) (n.decision.walkParentsData.reverse).head? = _
    rw [List.head?_reverse]
    exact hn.2

theorem findOptimalSolution_key (O : Olf) : ∀ fuel : Nat, SolverKey O (O.findOptimalSolution fuel)
  | 0 => fun _ _ _ _ _ _ h => nomatch h
  | _ + 1 => findOptimalSolutionWith_key O _

theorem formatLine_line {O : Olf} {cache : ChildLineCache} {i : Nat} {sol : FormattingSolution}
    (h : (O.formatLine cache i).1 = some sol) : ∃ line, O.lines[i]? = some line := by
  rcases formatLine_cases O cache i with e | ⟨line, _, hl, _⟩
  · rw [e] at h; cases h
  · exact ⟨line, hl⟩

theorem formatLine_eq_some {O : Olf} {cache cache' : ChildLineCache} {lineIdx : Nat} {line : LineA}
    {sol : FormattingSolution} (hl : O.lines[lineIdx]? = some line)
    (h : O.formatLine cache lineIdx = (some sol, cache')) :
    O.findOptimalSolution (O.lines.size + 1) cache { indentations := line.level, continuations := 0 } lineIdx
      (match line.tokens[0]? with | some 0 => .cont 0 true | _ => .brk) = (.ok sol, cache') := by
  rcases formatLine_cases O cache lineIdx with e | ⟨line', _, hl', rfl, e2, e1⟩
  · rw [e] at h; cases h
  · cases hl.symm.trans hl'
    exact Prod.ext ((e1 sol).1 (congrArg Prod.fst h)) (e2.symm.trans (congrArg Prod.snd h))

theorem format_line_starting_ws (O : Olf) (cache cache' : ChildLineCache) (lineIdx : Nat) (line : LineA)
    (sol : FormattingSolution) (hl : O.lines[lineIdx]? = some line)
    (h : O.formatLine cache lineIdx = (some sol, cache')) :
    sol.startingWs = { indentations := line.level, continuations := 0 } :=
  (findOptimalSolution_key O _ _ _ _ _ _ _ (formatLine_eq_some hl h)).1

theorem format_line_first_decision (O : Olf) (cache cache' : ChildLineCache) (lineIdx : Nat) (line : LineA)
    (sol : FormattingSolution) (t0 : Nat) (hl : O.lines[lineIdx]? = some line) (ht : line.tokens[0]? = some t0)
    (h : O.formatLine cache lineIdx = (some sol, cache')) :
    (sol.decisions.head?).map (·.decision) =
      some (if O.getFormattingInvariant 0 line = some .mustNotBreak then Dec.cont else Dec.brk 0) := by
  have hli : O.lines[lineIdx]! = line := getElem!_of_getElem? _ _ _ hl
  rw [(findOptimalSolution_key O _ _ _ _ _ _ _ (formatLine_eq_some hl h)).2 (by rw [hli, ht]; rfl), hli, ht]
  cases t0 with
  | zero => simp [rootDec, getFormattingInvariant_mustNotBreak_iff.2 (Or.inl (getPrevTokenTypeForLineIndex_of ht))]
  | succ n => simp [rootDec]

theorem applySol_first_token (lines : List Line) (ft ft1 : FT) (ind cont : Nat) (ch : List (Nat × Sol))
    (rest : List (Dec × List (Nat × Sol))) (li : Nat) (l : Line) (t0 : Nat) (d : Dec)
    (hl : lines[li]? = some l) (ht : l.tokens[0]? = some t0)
    (h : applySol lines ft (.mk ind cont ((d, ch) :: rest)) li = some ft1)
    (hone : (solTokens lines (.mk ind cont ((d, ch) :: rest)) li).count t0 = 1) :
    ∃ t, ft[t0]? = some t ∧ ft1[t0]? = some { t with fmt := applyDec t.fmt true ind cont d } := by
  obtain ⟨l', hl', hd⟩ := applySol_eq_some.1 h
  cases hl.symm.trans hl'
  obtain ⟨tok, fta, ftb, htok, ha, hb, hc⟩ := applyDecs_cons_eq_some.1 hd
  cases ht.symm.trans htok
  obtain ⟨t, h1, rfl⟩ := setFmt_eq_some.1 ha
  rw [solTokens_mk hl, decsTokens, ht] at hone
  simp only [List.singleton_append, List.count_cons_self, List.count_append] at hone
  refine ⟨t, h1, ?_⟩
  rw [applyDecs_untouched lines ind cont l.tokens (0 + 1) ftb ft1 rest hc t0 (List.count_eq_zero.mp (by omega)),
    applyChildren_untouched lines _ ftb ch hb t0 (List.count_eq_zero.mp (by omega)),
    List.getElem?_set_self (getElem?_lt_of_some h1)]
  rfl

theorem toSol_succ (n : Nat) (sol : FormattingSolution) :
    sol.toSol (n + 1) = .mk sol.startingWs.indentations sol.startingWs.continuations
      (sol.decisions.map fun d => (d.decision, d.childSolutions.map fun (i, s) => (i, s.toSol n))) := by
  cases sol; rfl

/-- `s'` (a solution for line `li'`) occurs in the tree of `s` (a solution for line `li`): it is `s` itself or occurs in
    the tree of one of the child solutions hanging off a decision of `s` -/
inductive SubSol : Sol → Nat → Sol → Nat → Prop
  | refl (s : Sol) (li : Nat) : SubSol s li s li
  | step (ind cont : Nat) (decs : List (Dec × List (Nat × Sol))) (li : Nat) (d : Dec) (ch : List (Nat × Sol))
      (ci : Nat) (cs : Sol) (s' : Sol) (li' : Nat)
      (hd : (d, ch) ∈ decs) (hc : (ci, cs) ∈ ch) (h : SubSol cs ci s' li') : SubSol (.mk ind cont decs) li s' li'

/-- applying a list of child solutions, seen from one of them: the tokens written before it, by it and after it, and
    the states just before and just after it -/
theorem applyChildren_split (lines : List Line) (ci : Nat) (cs : Sol) :
    ∀ (ch : List (Nat × Sol)) (ft ft1 : FT), (ci, cs) ∈ ch → applyChildren lines ft ch = some ft1 →
      ∃ pre post fta ftb, childrenTokens lines ch = pre ++ solTokens lines cs ci ++ post ∧
        applySol lines fta cs ci = some ftb ∧ (∀ j, j ∉ pre → fta[j]? = ft[j]?) ∧ (∀ j, j ∉ post → ft1[j]? = ftb[j]?) := by
  intro ch
  induction ch with
  | nil => intro ft ft1 hm; cases hm
  | cons k rest ih =>
    intro ft ft1 hm h
    obtain ⟨li, s⟩ := k
    obtain ⟨fta0, ha0, hr⟩ := applyChildren_cons_eq_some.1 h
    rcases List.mem_cons.mp hm with hk | hm'
    · cases hk
      refine ⟨[], childrenTokens lines rest, ft, fta0, ?_, ha0, fun j _ => rfl, fun j hj => ?_⟩
      · rw [childrenTokens]; simp
      · exact applyChildren_untouched lines fta0 ft1 rest hr j hj
    · obtain ⟨pre, post, fta, ftb, h1, h2, h3, h4⟩ := ih fta0 ft1 hm' hr
      refine ⟨solTokens lines s li ++ pre, post, fta, ftb, ?_, h2, fun j hj => ?_, h4⟩
      · rw [childrenTokens, h1]; simp [List.append_assoc]
      · simp only [List.mem_append, not_or] at hj
        rw [h3 j hj.2, applySol_untouched lines ft fta0 s li ha0 j hj.1]

theorem applyDecs_split (lines : List Line) (ind cont : Nat) (toks : List Nat) (d : Dec) (ch : List (Nat × Sol))
    (ci : Nat) (cs : Sol) (hc : (ci, cs) ∈ ch) :
    ∀ (decs : List (Dec × List (Nat × Sol))) (i : Nat) (ft ft1 : FT), (d, ch) ∈ decs →
      applyDecs lines ind cont toks i ft decs = some ft1 →
      ∃ pre post fta ftb, decsTokens lines toks i decs = pre ++ solTokens lines cs ci ++ post ∧
        applySol lines fta cs ci = some ftb ∧ (∀ j, j ∉ pre → fta[j]? = ft[j]?) ∧ (∀ j, j ∉ post → ft1[j]? = ftb[j]?) := by
  intro decs
  induction decs with
  | nil => intro i ft ft1 hm; cases hm
  | cons dk rest ih =>
    intro i ft ft1 hm h
    obtain ⟨d0, ch0⟩ := dk
    obtain ⟨tok, fta0, ftb0, htok, ha0, hb0, hr⟩ := applyDecs_cons_eq_some.1 h
    obtain ⟨t0, _, rfl⟩ := setFmt_eq_some.1 ha0
    rcases List.mem_cons.mp hm with hk | hm'
    · cases hk
      obtain ⟨pre, post, fta, ftb, h1, h2, h3, h4⟩ := applyChildren_split lines ci cs ch _ ftb0 hc hb0
      refine ⟨[tok] ++ pre, post ++ decsTokens lines toks (i + 1) rest, fta, ftb, ?_, h2, fun j hj => ?_,
        fun j hj => ?_⟩
      · rw [decsTokens]; simp only [htok]; rw [h1]; simp [List.append_assoc]
      · simp only [List.mem_append, List.mem_singleton, not_or] at hj
        rw [h3 j hj.2, List.getElem?_set_ne (Ne.symm hj.1)]
      · simp only [List.mem_append, not_or] at hj
        rw [applyDecs_untouched lines ind cont toks (i + 1) ftb0 ft1 rest hr j hj.2, h4 j hj.1]
    · obtain ⟨pre, post, fta, ftb, h1, h2, h3, h4⟩ := ih (i + 1) ftb0 ft1 hm' hr
      refine ⟨[tok] ++ childrenTokens lines ch0 ++ pre, post, fta, ftb, ?_, h2, fun j hj => ?_, h4⟩
      · rw [decsTokens]; simp only [htok]; rw [h1]; simp [List.append_assoc]
      · simp only [List.mem_append, List.mem_singleton, not_or] at hj
        rw [h3 j hj.2, applyChildren_untouched lines _ ftb0 ch0 hb0 j hj.1.2, List.getElem?_set_ne (Ne.symm hj.1.1)]

theorem SubSol.tokens_sub (lines : List Line) {s : Sol} {li : Nat} {s' : Sol} {li' : Nat} (hsub : SubSol s li s' li') :
    ∀ ft ft1, applySol lines ft s li = some ft1 → ∀ j ∈ solTokens lines s' li', j ∈ solTokens lines s li := by
  induction hsub with
  | refl s li => intro ft ft1 _ j hj; exact hj
  | step ind cont decs li d ch ci cs s' li' hd hc h ih =>
    intro ft ft1 ha j hj
    obtain ⟨l, hl, ha⟩ := applySol_eq_some.1 ha
    obtain ⟨pre, post, fta, ftb, h1, h2, _, _⟩ := applyDecs_split lines ind cont l.tokens d ch ci cs hc decs 0 ft ft1 hd ha
    rw [solTokens_mk hl, h1]
    simp [ih fta ftb h2 j hj]

theorem subSol_first_token (lines : List Line) {s : Sol} {li : Nat} {s' : Sol} {li' : Nat} (hsub : SubSol s li s' li') :
    ∀ (ft ft1 : FT) (ind cont : Nat) (d : Dec) (ch : List (Nat × Sol)) (rest : List (Dec × List (Nat × Sol)))
      (l : Line) (t0 : Nat), s' = .mk ind cont ((d, ch) :: rest) → lines[li']? = some l → l.tokens[0]? = some t0 →
      applySol lines ft s li = some ft1 → (solTokens lines s li).count t0 = 1 →
      ∃ t, ft[t0]? = some t ∧ ft1[t0]? = some { t with fmt := applyDec t.fmt true ind cont d } := by
  induction hsub with
  | refl s li =>
    intro ft ft1 ind cont d ch rest l t0 hs hl ht ha hone
    subst hs
    exact applySol_first_token lines ft ft1 ind cont ch rest li l t0 d hl ht ha hone
  | step ind0 cont0 decs li d0 ch0 ci cs s' li' hd hc h ih =>
    intro ft ft1 ind cont d ch rest l t0 hs hl ht ha hone
    obtain ⟨l0, hl0, ha⟩ := applySol_eq_some.1 ha
    obtain ⟨pre, post, fta, ftb, h1, h2, h3, h4⟩ :=
      applyDecs_split lines ind0 cont0 l0.tokens d0 ch0 ci cs hc decs 0 ft ft1 hd ha
    have hpos : 0 < List.count t0 (solTokens lines cs ci) := by
      refine List.count_pos_iff.mpr (SubSol.tokens_sub lines h fta ftb h2 t0 ?_)
      rw [hs, solTokens_mk hl, decsTokens, ht]
      simp
    rw [solTokens_mk hl0, h1] at hone
    simp only [List.count_append] at hone
    obtain ⟨t, e1, e2⟩ := ih fta ftb ind cont d ch rest l t0 hs hl ht h2 (by omega)
    exact ⟨t, by rw [← h3 t0 (List.count_eq_zero.mp (by omega))]; exact e1,
      by rw [h4 t0 (List.count_eq_zero.mp (by omega))]; exact e2⟩

/-- `s'` (for line `li'`) is a solution `k` levels below `sol` (for line `li`) in its tree of child solutions -/
inductive FDesc : Nat → FormattingSolution → Nat → FormattingSolution → Nat → Prop
  | zero (sol : FormattingSolution) (li : Nat) : FDesc 0 sol li sol li
  | succ (k : Nat) (sol : FormattingSolution) (li : Nat) (d : TokenDecision) (ci : Nat) (cs : FormattingSolution)
      (s' : FormattingSolution) (li' : Nat) (hd : d ∈ sol.decisions) (hc : (ci, cs) ∈ d.childSolutions)
      (h : FDesc k cs ci s' li') : FDesc (k + 1) sol li s' li'

theorem FDesc.snoc {k : Nat} {sol : FormattingSolution} {li : Nat} {par : FormattingSolution} {pli : Nat}
    (h : FDesc k sol li par pli) {d : TokenDecision} {ci : Nat} {cs : FormattingSolution}
    (hd : d ∈ par.decisions) (hc : (ci, cs) ∈ d.childSolutions) : FDesc (k + 1) sol li cs ci := by
  induction h with
  | zero sol li => exact FDesc.succ 0 sol li d ci cs cs ci hd hc (FDesc.zero cs ci)
  | succ k sol li d' ci' cs' s' li' hd' hc' h ih => exact FDesc.succ (k + 1) sol li d' ci' cs' cs ci hd' hc' (ih hd)

/-- the form of the solution the wrapper stage applies (`toSol`) has the same tree, down to the depth of its fuel -/
theorem FDesc.subSol {k : Nat} {sol : FormattingSolution} {li : Nat} {s' : FormattingSolution} {li' : Nat}
    (h : FDesc k sol li s' li') : ∀ m, SubSol (sol.toSol (m + k)) li (s'.toSol m) li' := by
  induction h with
  | zero sol li => exact fun m => SubSol.refl _ _
  | succ k sol li d ci cs s' li' hd hc h ih =>
    intro m
    show SubSol (sol.toSol (m + k + 1)) li _ li'
    rw [toSol_succ]
    exact SubSol.step _ _ _ li d.decision _ ci (cs.toSol (m + k)) _ li' (List.mem_map.mpr ⟨d, hd, rfl⟩)
      (List.mem_map.mpr ⟨(ci, cs), hc, rfl⟩) (ih m)

/-- what applying the tree of `root` writes at the first token of the line of any solution `s` in the tree, if the
    tree writes that token once: the first decision of `s`, rendered at the starting whitespace of `s` -/
theorem FDesc.first_token {k li pli : Nat} {root s : FormattingSolution} (hdesc : FDesc k root li s pli) (m : Nat)
    {lines : List Line} {ft ft1 : FT} {l : Line} {t0 : Nat} {D : Dec} (hl : lines[pli]? = some l)
    (ht : l.tokens[0]? = some t0) (hD : (s.decisions.head?).map (·.decision) = some D)
    (ha : applySol lines ft (root.toSol (m + 1 + k)) li = some ft1)
    (hone : (solTokens lines (root.toSol (m + 1 + k)) li).count t0 = 1) :
    ∃ t, ft[t0]? = some t ∧
      ft1[t0]? = some { t with fmt := applyDec t.fmt true s.startingWs.indentations s.startingWs.continuations D } := by
  have hsub := hdesc.subSol (m + 1)
  rw [toSol_succ] at hsub
  cases hd : s.decisions with
  | nil => rw [hd] at hD; cases hD
  | cons d0 r =>
    rw [hd] at hD hsub
    cases hD
    exact subSol_first_token lines hsub ft ft1 _ _ _ _ _ l t0 rfl hl ht ha hone

/-- the first token of the line is a comment that shares its line with code -/
def startsWithInlineComment (k : Kind) : Prop := k = .tComment .cInlineLine ∨ k = .tComment .cInlineBlock

theorem invariant_zero_of_kind (st : SearchState) (ft : FT) (line : LineA) (t0 : Nat) (ht : line.tokens[0]? = some t0)
    (h0 : t0 ≠ 0) (t : FTok) (e1 : ft[t0]? = some t) (hk : ¬ startsWithInlineComment t.tok.kind) :
    ¬ (stageOlf st ft).getFormattingInvariant 0 line = some .mustNotBreak := by
  rw [getFormattingInvariant_mustNotBreak_iff, getPrevTokenTypeForLineIndex_of ht, getTokenTypeForLineIndex_of ht,
    if_neg h0, stageOlf_getTokenType, stageOlf_getTokenType, kindAt, kindAt, e1,
    List.getElem?_eq_getElem (Nat.lt_of_le_of_lt (Nat.sub_le _ _) (getElem?_lt_of_some e1))]
  rintro (h | h | h)
  · cases h
  · exact hk (Or.inl (Option.some.inj h))
  · exact hk (Or.inr (Option.some.inj h))

theorem searchSolve_first_token (lines : List Line) (st st' : SearchState) (ft ft1 : FT) (i : Nat) (s : Sol)
    (l : Line) (t0 : Nat)
    (hst : st.lines = (lines.map Line.toA).toArray)
    (hl : lines[i]? = some l) (ht : l.tokens[0]? = some t0) (h0 : t0 ≠ 0)
    (hs : searchSolve st ft i = (some s, st'))
    (ha : applySol lines ft s i = some ft1)
    (hone : (solTokens lines s i).count t0 = 1) :
    ∃ t, ft[t0]? = some t ∧
      (¬ startsWithInlineComment t.tok.kind →
        ft1[t0]? = some { t with fmt := { t.fmt with nl := nlc t.fmt.nl, ind := l.level, cont := 0 } }) := by
  obtain ⟨sol, hf, rfl⟩ := searchSolve_eq_some.1 (congrArg Prod.fst hs)
  let O := stageOlf st ft
  have hlA : O.lines[i]? = some l.toA := lines_getElem?_toA (O := O) hst hl
  have htA := (toA_tokens l 0).trans ht
  -- the solution starts with the line's level and has a first decision: a break unless the line must not be broken
  -- off its predecessor
  obtain ⟨t, e1, e2⟩ := (FDesc.zero sol i).first_token _ hl ht
    (format_line_first_decision O _ _ i l.toA sol t0 hlA htA (Prod.ext hf rfl)) ha hone
  refine ⟨t, e1, fun hk => ?_⟩
  rw [e2, format_line_starting_ws O _ _ i l.toA sol hlA (Prod.ext hf rfl),
    if_neg (invariant_zero_of_kind st ft l.toA t0 htA h0 t e1 hk)]
  simp [applyDec_eq, Line.toA]

/-- the counters of a token that starts a line of level `level`: one or two line breaks, `level` indentations, no
    continuation (`StartsLine level 0` of Proofs/SearchChildTokens.lean, by unfolding) -/
def LineStart (level : Nat) (f : FmtData) : Prop := (f.nl = 1 ∨ f.nl = 2) ∧ f.ind = level ∧ f.cont = 0

/-- side condition on the solutions the stage applied: the solutions for line `i` write token `t0` once (as the first
    token of the line) and the solutions for other lines never write it -/
def WrittenOnlyAsFirst (lines : List Line) (i t0 : Nat) (sols : List (Nat × Nat × Sol)) : Prop :=
  ∀ x ∈ sols, (x.2.1 = i → (solTokens lines x.2.2 x.2.1).count t0 = 1) ∧ (x.2.1 ≠ i → t0 ∉ solTokens lines x.2.2 x.2.1)

theorem wrapStageFull_first_token (cfg : Config) (lines : List Line) (ft ftz : FT) (sols : List (Nat × Nat × Sol))
    (i : Nat) (l : Line) (t0 : Nat)
    (h : wrapStageFull cfg lines ft = some (ftz, sols))
    (hl : lines[i]? = some l) (ht : l.tokens[0]? = some t0) (h0 : t0 ≠ 0)
    (hk : ∀ k, kindAt ft t0 = some k → ¬ startsWithInlineComment k)
    (hsolved : ∃ x ∈ sols, x.2.1 = i)
    (hW : WrittenOnlyAsFirst lines i t0 sols) :
    ∃ t, ftz[t0]? = some t ∧ LineStart l.level t.fmt ∧ t.fmt.sp = 0 := by
  let O := stageOlf (searchInit cfg lines ft) ft
  have hlA : O.lines[i]? = some l.toA := lines_getElem?_toA (O := O) rfl hl
  have htA := (toA_tokens l 0).trans ht
  -- every applied solution starts as `format_line` starts it (`wrapStageFull_inv`) ...
  have hfrom := wrapStageFull_inv (fun _ _ => True)
    (fun O li sol => ∀ line t0, O.lines[li]? = some line → line.tokens[0]? = some t0 →
      sol.startingWs = { indentations := line.level, continuations := 0 } ∧
      (sol.decisions.head?).map (·.decision) =
        some (if O.getFormattingInvariant 0 line = some .mustNotBreak then Dec.cont else Dec.brk 0))
    (fun _ _ => trivial)
    (fun hv hT line t0 hl ht => by
      rw [hv.lines] at hl; rw [getFormattingInvariant_congr hv.kinds]; exact hT line t0 hl ht)
    (fun O cache i _ => ⟨trivial, fun sol hs line t0 hl ht =>
      ⟨format_line_starting_ws O cache _ i line sol hl (Prod.ext hs rfl),
        format_line_first_decision O cache _ i line sol t0 hl ht (Prod.ext hs rfl)⟩⟩)
    (fun _ => trivial) cfg lines ft ftz sols h
  -- ... so each of them that writes `t0` is a solution of line `i` and leaves `t0` as its first decision says, and the
  -- last one wins (`wrapStageFull_last_writer`)
  obtain ⟨f, hf, hg⟩ := wrapStageFull_last_writer
    (fun f => ¬ O.getFormattingInvariant 0 l.toA = some .mustNotBreak → LineStart l.level f) (fun _ h => h)
    cfg lines ft ftz sols t0 h (fun x hx hwx fa fb ha => by
      have hxi : x.2.1 = i := Classical.byContradiction fun hne => (hW x hx).2 hne hwx
      have hone := (hW x hx).1 hxi
      obtain ⟨sol, e, hT⟩ := hfrom x hx
      rw [hxi] at ha hone hT
      obtain ⟨h1, h2⟩ := hT l.toA t0 hlA htA
      rw [e] at ha hone
      obtain ⟨t, _, e2⟩ := (FDesc.zero sol i).first_token _ hl ht h2 ha hone
      refine ⟨_, by unfold fmtAt; rw [e2]; rfl, fun hinv => ?_⟩
      rw [if_neg hinv, h1]
      exact ⟨nlc_12 _, rfl, rfl⟩)
    (by
      obtain ⟨x, hx, hxi⟩ := hsolved
      exact ⟨x, hx, List.count_pos_iff.1 (by rw [(hW x hx).1 hxi]; exact Nat.one_pos)⟩)
  unfold fmtAt at hf
  obtain ⟨t, htz, rfl⟩ := Option.map_eq_some_iff.1 hf
  have hlt : t0 < ft.length := wrapStageFull_length h ▸ getElem?_lt_of_some htz
  have hinv := invariant_zero_of_kind (searchInit cfg lines ft) ft l.toA t0 htA h0 _ (List.getElem?_eq_getElem hlt)
    (hk _ (by unfold kindAt; rw [List.getElem?_eq_getElem hlt]; rfl))
  obtain ⟨ft4, rfl⟩ := wrapStageFull_zero h
  obtain ⟨u, _, rfl⟩ : ∃ u, ft4[t0]? = some u ∧ zeroTok u = t := by
    rw [zeroLineStartSpaces_eq, List.getElem?_map] at htz
    exact Option.map_eq_some_iff.1 htz
  exact ⟨_, htz, hg hinv, zeroTok_no_spaces u (by rcases (hg hinv).1 with e | e <;> omega)⟩

end Pasfmt
