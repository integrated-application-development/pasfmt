/-
  The conditional-directive consolidator keeps logical lines well formed:
  an expanded line is the full range first..last of its old tokens (so it is strictly increasing, in range,
  and contains every old token and every merged directive); a directive line is voided only when its
  directive was merged into another line; nothing else changes.  Here: what the two phases do to one line
  (`cdcLine_rel`: the relation `CdcRel`, with what it keeps, `CdcRel.keeps`); the statement about all lines is
  `C14.consolidator_keeps_lines_wellformed`.
-/
import PasfmtModel.Model.Consolidators

namespace Pasfmt

/-- `[a, a+1, …, b]` -/
def rangeIncl (a b : Nat) : List Nat := List.range' a (b + 1 - a)

theorem rangeIncl_self (a : Nat) : rangeIncl a a = [a] := by
  simp [rangeIncl]

theorem rangeIncl_append (a b c : Nat) (h1 : a ≤ b + 1) (h2 : b ≤ c) :
    rangeIncl a b ++ rangeIncl (b + 1) c = rangeIncl a c := by
  unfold rangeIncl
  have : b + 1 = a + (b + 1 - a) := by omega
  conv => lhs; rhs; rw [this]
  rw [List.range'_append_1]
  congr 1; omega

theorem mem_rangeIncl {a b x : Nat} : x ∈ rangeIncl a b ↔ a ≤ x ∧ x ≤ b := by
  simp [rangeIncl, List.mem_range'_1]; omega

theorem rangeIncl_pairwise (a b : Nat) : (rangeIncl a b).Pairwise (· < ·) := by
  unfold rangeIncl
  exact List.pairwise_lt_range'

theorem head?_rangeIncl {a b : Nat} (h : a ≤ b) : (rangeIncl a b).head? = some a := by
  rw [rangeIncl, show b + 1 - a = (b - a) + 1 by omega]; rfl

theorem cdc_inner_eq (gs ge : Nat) :
    (List.range (ge - gs - 1)).map (· + gs + 1) = List.range' (gs + 1) (ge - gs - 1) := by
  rw [List.range'_eq_map_range]; exact List.map_congr_left fun x _ => by omega

/-- first directive, what lies between, last directive: the whole gap, behind what was there -/
theorem gap_list_eq (l : List Nat) (gs ge : Nat) (h : gs ≤ ge) :
    l ++ [gs] ++ (List.range (ge - gs - 1)).map (· + gs + 1) ++ (if ge != gs then [ge] else []) = l ++ rangeIncl gs ge := by
  rw [List.append_assoc, List.append_assoc, cdc_inner_eq, rangeIncl]
  obtain ⟨m, rfl⟩ := Nat.exists_eq_add_of_le h
  cases m with
  | zero => simp
  | succ m =>
    rw [if_pos (by simp), show gs + (m + 1) - gs - 1 = m by omega, show gs + (m + 1) + 1 - gs = m + 1 + 1 by omega,
      List.range'_concat, List.range'_succ]
    simp

theorem head_le_getLast {l : List Nat} {a b : Nat} (hs : l.Pairwise (· < ·)) (h1 : l.head? = some a)
    (h2 : l.getLast? = some b) : a ≤ b ∧ ∀ t ∈ l, a ≤ t ∧ t ≤ b := by
  have hall : ∀ t ∈ l, a ≤ t := by
    obtain ⟨r, rfl⟩ : ∃ r, l = a :: r := by
      cases l with
      | nil => cases h1
      | cons x r => exact ⟨r, by rw [Option.some.inj h1]⟩
    intro t ht
    rcases List.mem_cons.1 ht with rfl | e
    · exact Nat.le_refl _
    · exact Nat.le_of_lt (List.rel_of_pairwise_cons hs e)
  have hlast : ∀ t ∈ l, t ≤ b := by
    obtain ⟨pre, rfl⟩ := List.getLast?_eq_some_iff.1 h2
    intro t ht
    rcases List.mem_append.1 ht with e | e
    · exact Nat.le_of_lt ((List.pairwise_append.1 hs).2.2 t e b (by simp))
    · rw [List.mem_singleton.1 e]; exact Nat.le_refl _
  exact ⟨hall b (List.mem_of_getLast? h2), fun t ht => ⟨hall t ht, hlast t ht⟩⟩

/-- the windows up to the old token `prev` have made the new tokens `first ..= prev`, and the directives merged so far lie
    strictly between -/
def CdcInv (first : Nat) (acc : CdcAcc) (prev : Nat) : Prop :=
  first ≤ prev ∧ acc.newToks = rangeIncl first prev ∧ ∀ d ∈ acc.directives, first < d ∧ d < prev

/-- the gap part of a window brings the new tokens up to `cur - 1` -/
theorem cdcGap_inv {kinds : Array Kind} {acc a : CdcAcc} {first prev cur : Nat} (hlt : prev < cur)
    (hi : CdcInv first acc prev) (h : cdcGap kinds acc prev cur = some a) :
    a.newToks = rangeIncl first (cur - 1) ∧ ∀ d ∈ a.directives, first < d ∧ d < cur := by
  obtain ⟨hfp, hn, hd⟩ := hi
  unfold cdcGap at h
  split at h
  · rename_i hgap
    simp only at h
    split at h
    · split at h
      · cases h
      · split at h
        · cases h
          refine ⟨?_, fun d hd' => ?_⟩
          · show acc.newToks ++ _ ++ _ ++ _ = _
            rw [gap_list_eq _ _ _ (by omega), hn, rangeIncl_append _ _ _ (by omega) (by omega)]
          · simp only [List.mem_append, List.mem_singleton, List.mem_ite_nil_right] at hd'
            rcases hd' with (h | h) | h
            · have := hd d h; omega
            · omega
            · omega
        · cases h
    · cases h
  · cases h
    exact ⟨by rw [show cur - 1 = prev by omega]; exact hn, fun d h => by have := hd d h; omega⟩

theorem cdcWindow_inv {kinds : Array Kind} {acc a : CdcAcc} {first prev cur : Nat} (hlt : prev < cur)
    (hi : CdcInv first acc prev) (h : cdcWindow kinds acc prev cur = some a) : CdcInv first a cur := by
  unfold cdcWindow at h
  split at h
  · cases h
  · rename_i g hg
    obtain ⟨hn, hd⟩ := cdcGap_inv hlt hi hg
    split at h
    · cases h
      refine ⟨by have := hi.1; omega, ?_, hd⟩
      have := rangeIncl_append first (cur - 1) cur (by have := hi.1; omega) (by omega)
      rwa [show cur - 1 + 1 = cur by omega, rangeIncl_self, ← hn] at this
    · cases h

theorem cdcWindows_inv {kinds : Array Kind} {first : Nat} (rest : List Nat) (acc a : CdcAcc) (prev : Nat)
    (hp : (prev :: rest).Pairwise (· < ·)) (hi : CdcInv first acc prev) (h : cdcWindows kinds acc prev rest = some a) :
    CdcInv first a ((prev :: rest).getLast (by simp)) := by
  fun_induction cdcWindows kinds acc prev rest with
  | case1 => cases h; exact hi
  | case2 => cases h
  | case3 acc prev cur rest a1 h1 ih =>
    rw [List.getLast_cons (List.cons_ne_nil _ _)]
    exact ih (List.Pairwise.of_cons hp) (cdcWindow_inv (List.rel_of_pairwise_cons hp List.mem_cons_self) hi h1) h

/-- an expanded line is the full range from its first to its last old token; the merged directives lie strictly inside -/
theorem cdcExpand_range {kinds : Array Kind} {toks new dirs : List Nat} (hs : toks.Pairwise (· < ·))
    (h : cdcExpand kinds toks = some (new, dirs)) :
    ∃ first last, toks.head? = some first ∧ toks.getLast? = some last ∧ new = rangeIncl first last ∧
      (∀ d ∈ dirs, first < d ∧ d < last) ∧ dirs ≠ [] := by
  unfold cdcExpand at h
  match toks, hs, h with
  | [], _, h => simp at h
  | first :: rest, hs, h =>
    simp only at h
    split at h
    · simp at h
    · split at h
      · simp at h
      · rename_i a ha
        split at h
        · simp at h
        · rename_i hc
          cases h
          obtain ⟨-, hn, hd⟩ := cdcWindows_inv rest _ a first hs ⟨Nat.le_refl _, (rangeIncl_self first).symm, by simp⟩ ha
          exact ⟨first, _, rfl, List.getLast?_eq_some_getLast (List.cons_ne_nil first rest), hn, hd,
            fun he => by simp [he] at hc⟩

/-- stated for its own sake (`C14.consolidator_keeps_lines_wellformed` has it as its first clause) -/
theorem cdcConsolidate_length (kinds : List Kind) (lines : List Line) :
    (cdcConsolidate kinds lines).length = lines.length := by
  simp only [cdcConsolidate, List.length_map]

/-- every merged directive lies strictly inside an expanded, non-voided line.  A description of its own: no theorem is
    stated with it, and it does not hold of all lines (a line that comes typed `Voided` is expanded like any other and
    keeps its type). -/
def DirsCovered (dirs : List Nat) (out : List Line) : Prop :=
  ∀ d ∈ dirs, ∃ l ∈ out, l.ltype ≠ .lVoided ∧ d ∈ l.tokens

/-- first phase on one line -/
def cdcLine1 (ka : Array Kind) (l : Line) : Line × List Nat :=
  match cdcExpand ka l.tokens with
  | some (toks, dirs) => ({ l with tokens := toks }, dirs)
  | none => (l, [])

/-- second phase on one line -/
def cdcLine2 (dirs : List Nat) (l : Line) : Line :=
  if l.ltype == .lConditionalDirective then
    match l.tokens.head? with
    | some t => if dirs.contains t then l.void else l
    | none => l
  else l

theorem cdcConsolidate_eq (kinds : List Kind) (lines : List Line) :
    cdcConsolidate kinds lines =
      (lines.map (cdcLine1 kinds.toArray)).map
        (fun p => cdcLine2 ((lines.map (cdcLine1 kinds.toArray)).flatMap (·.2)) p.1) := by
  rfl

theorem cdcLine1_spec (ka : Array Kind) (l : Line) (hs : l.tokens.Pairwise (· < ·)) :
    ((cdcLine1 ka l).1 = l ∧ (cdcLine1 ka l).2 = []) ∨
    (∃ first last, l.tokens.head? = some first ∧ l.tokens.getLast? = some last ∧
      (cdcLine1 ka l).1 = { l with tokens := rangeIncl first last } ∧
      (∀ d ∈ (cdcLine1 ka l).2, first < d ∧ d < last) ∧ (cdcLine1 ka l).2 ≠ []) := by
  unfold cdcLine1
  split
  · rename_i toks dirs h
    right
    obtain ⟨first, last, h1, h2, h3, h4, h5⟩ := cdcExpand_range hs h
    exact ⟨first, last, h1, h2, by simp [h3], h4, h5⟩
  · left; exact ⟨rfl, rfl⟩

theorem cdcLine2_spec (D : List Nat) (l : Line) :
    cdcLine2 D l = l ∨
      (cdcLine2 D l = l.void ∧ l.ltype = .lConditionalDirective ∧ ∃ t, l.tokens.head? = some t ∧ t ∈ D) := by
  unfold cdcLine2
  split
  · rename_i hty
    split
    · rename_i t ht
      split
      · rename_i hd
        exact .inr ⟨rfl, by simpa using hty, t, ht, by simpa using hd⟩
      · exact .inl rfl
    · exact .inl rfl
  · exact .inl rfl

/-- what the consolidator may do to one line, `dirs` being the directives merged anywhere: nothing, or the line becomes
    the range from its first to its last token, or - a directive line whose directive was merged - it is voided -/
inductive CdcRel (dirs : List Nat) : Line → Line → Prop where
  | same (l : Line) : CdcRel dirs l l
  | expanded (l : Line) (first last : Nat) (hf : l.tokens.head? = some first) (hl : l.tokens.getLast? = some last)
      (hnot : l.ltype ≠ .lConditionalDirective ∨ l.tokens.length ≠ 1) :
      CdcRel dirs l { l with tokens := rangeIncl first last }
  | voided (l : Line) (t : Nat) (ht : l.tokens.head? = some t) (hd : t ∈ dirs) (hty : l.ltype = .lConditionalDirective) :
      CdcRel dirs l l.void

/-- every line, whatever the other lines are -/
theorem cdcLine_rel (ka : Array Kind) (D : List Nat) (l : Line) (hs : l.tokens.Pairwise (· < ·)) :
    CdcRel D l (cdcLine2 D (cdcLine1 ka l).1) := by
  rcases cdcLine1_spec ka l hs with ⟨e1, _⟩ | ⟨f, la, hf, hla, e1, hd, hne⟩
  · rw [e1]
    rcases cdcLine2_spec D l with e | ⟨e, hty, t, ht, htD⟩
    · rw [e]; exact .same l
    · rw [e]; exact .voided l t ht htD hty
  · -- an expanded line has a directive strictly inside: it holds two tokens at least
    obtain ⟨d, hdm⟩ := List.exists_mem_of_ne_nil _ hne
    have hlt : f < la := Nat.lt_trans (hd d hdm).1 (hd d hdm).2
    rw [e1]
    rcases cdcLine2_spec D { l with tokens := rangeIncl f la } with e | ⟨e, hty, t, ht, htD⟩
    · rw [e]
      refine .expanded l f la hf hla (.inr fun h1 => ?_)
      obtain ⟨x, hx⟩ := List.length_eq_one_iff.1 h1
      rw [hx] at hf hla
      simp at hf hla; omega
    · rw [e]
      rw [head?_rangeIncl (Nat.le_of_lt hlt)] at ht
      cases ht
      exact .voided l f hf htD hty

theorem CdcRel.keeps {D : List Nat} {l l' : Line} (h : CdcRel D l l') (hs : l.tokens.Pairwise (· < ·)) :
    l'.parent = l.parent ∧ l'.level = l.level ∧ (l'.ltype = l.ltype ∨ l'.ltype = .lVoided) ∧ l'.tokens.Pairwise (· < ·) ∧
      (∀ n, (∀ t ∈ l.tokens, t < n) → ∀ t ∈ l'.tokens, t < n) ∧
      ((l.ltype = .lConditionalDirective ∧ ∃ t, l.tokens.head? = some t ∧ t ∈ D) ∨ ∀ t ∈ l.tokens, t ∈ l'.tokens) := by
  cases h with
  | same => exact ⟨rfl, rfl, .inl rfl, hs, fun _ h => h, .inr fun _ h => h⟩
  | expanded f la hf hla =>
    refine ⟨rfl, rfl, .inl rfl, rangeIncl_pairwise f la, fun n hn t ht => ?_,
      .inr fun t ht => mem_rangeIncl.2 ((head_le_getLast hs hf hla).2 t ht)⟩
    have := (mem_rangeIncl.1 ht).2
    have := hn la (List.mem_of_getLast? hla)
    omega
  | voided t ht hd hty => exact ⟨rfl, rfl, .inr rfl, .nil, fun _ _ _ ht => (nomatch ht), .inl ⟨hty, t, ht, hd⟩⟩

end Pasfmt
