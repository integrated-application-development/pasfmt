/-
  Invariants of the search of the optimising line formatter (`find_optimal_solution`, Model/Search.lean), for any
  invariant: a search keeps a predicate `C` of the `child_line_cache` and a predicate `N` of the nodes on its heap, and
  returns a node of the heap, if the child lines keep `C` (`ChildLinesKeep`), `get_potential_solution` keeps `N` for
  the decisions the search really offers (`SearchEnv.Offers`), and the root node satisfies `N`.  On top: predicates of
  the tree of a solution given by a condition `D` on single decisions (`TreeAll D`, `findOptimalSolutionWith_all`).
-/
import PasfmtModel.Model.Search
import PasfmtModel.Proofs.SearchHeap
import PasfmtModel.Proofs.ListFacts

namespace Pasfmt

/-! the updates of the context data leave every projection `π` alone that does not see the context data -/

section Blind
variable {β : Type} (π : FormattingNode → β) (hπ : ∀ n i f, π (FormattingNode.modifyData n i f) = π n)

theorem blind_ite {c : Prop} [Decidable c] {a b : FormattingNode} {k : β}
    (ha : π a = k) (hb : π b = k) : π (if c then a else b) = k := by
  split <;> assumption

theorem blind_foldl {α : Type} (g : FormattingNode → α → FormattingNode) (hg : ∀ n x, π (g n x) = π n)
    (l : List α) (n : FormattingNode) : π (l.foldl g n) = π n :=
  List.foldlRecOn (motive := fun b => π b = π n) l g rfl fun b h a _ => (hg b a).trans h

theorem blind_afoldl {α : Type} (g : FormattingNode → α → FormattingNode) (hg : ∀ n x, π (g n x) = π n)
    (l : Array α) (n : FormattingNode) : π (l.foldl g n) = π n := by
  rw [← Array.foldl_toList]; exact blind_foldl π g hg _ n

include hπ

theorem blind_updateLastMatchingContext (stack : SpecificContextStack) (n : FormattingNode) (filter : CT → Bool)
    (op : FormattingContext → FormattingContextState → FormattingContextState) :
    π (updateLastMatchingContext stack n filter op) = π n := by
  unfold updateLastMatchingContext
  split <;> simp [hπ]

theorem blind_updateOperatorPrecedences (stack : SpecificContextStack) (n : FormattingNode) (b : Bool) :
    π (updateOperatorPrecedences stack n b) = π n := by
  unfold updateOperatorPrecedences
  simp only []
  split
  · rw [blind_foldl π]
    · exact blind_updateLastMatchingContext π hπ _ _ _ _
    · intro n x; simp [hπ]
  · exact blind_updateLastMatchingContext π hπ _ _ _ _

theorem blind_updateContexts (fc : LineFormattingContexts) (stack : SpecificContextStack) (n : FormattingNode)
    (d : RawDecision) : π (updateContexts fc stack n d) = π n := by
  have hu := blind_updateLastMatchingContext π hπ
  have ho := blind_updateOperatorPrecedences π hπ
  -- every branch of `update_contexts` composes `modifyData`, `updateLastMatchingContext` and
  -- `updateOperatorPrecedences`, none of which `π` sees; the `split`s below only walk the branches
  unfold updateContexts
  extract_lets lineIndex isBreak lastReal n6 apb orb cur last n5 found n4 n3 n2 isTypeParens n1 n0
  clear_value found isTypeParens last cur apb orb lastReal isBreak lineIndex
  have h6 : π n6 = π n := by
    apply blind_foldl π
    intro n x; split <;> simp [hπ]
  have h5 : π n5 = π n := by simp [n5, h6, hu]
  have h4 : π n4 = π n := by
    dsimp only [n4]
    split <;> simp [h6, hu, hπ]
  have h3 : π n3 = π n := by simp [n3, h6, hu]
  have h2 : π n2 = π n := by simp [n2, h3, hu]
  have h1 : π n1 = π n := by
    dsimp only [n1]
    repeat' with_reducible apply blind_ite π
    all_goals first
      | (simp [h6, h5, h4, h2, hu, ho]; done)
      | (repeat' split
         all_goals simp [h6, ho, hπ])
  have h0 : π n0 = π n := by
    dsimp only [n0]
    repeat' split
    all_goals simp [h1, hπ]
  rw [blind_afoldl π]
  · exact h0
  · intro n ⟨i, ctx⟩
    dsimp only
    apply blind_ite π rfl
    -- by the constructors: `split` on this match (nine alternatives and a catch-all) costs four times as much
    cases ctx.contextType <;> simp only [apply_ite π, hπ, ite_self]

theorem blind_updateContextsFromChildSolutions (stack : SpecificContextStack) (n : FormattingNode)
    (cs : List (Nat × FormattingSolution)) : π (updateContextsFromChildSolutions stack n cs) = π n := by
  unfold updateContextsFromChildSolutions
  split
  · apply blind_afoldl π; intro n x; simp [hπ]
  · split
    · split <;> simp [hπ]
    · rfl

end Blind

/-- the parts of a node that the updates of the context data never change -/
def FormattingNode.core (n : FormattingNode) : LineWhitespace × DecisionRef × Nat :=
  (n.startingWs, n.decision, n.nextLineIndex)

theorem core_modifyData (n : FormattingNode) (i : Nat) (f : FormattingContextState → FormattingContextState) :
    (n.modifyData i f).core = n.core := by
  cases n; rfl

theorem core_eq {a : FormattingNode} {w : LineWhitespace} {r : DecisionRef} {i : Nat} (h : a.core = (w, r, i)) :
    a.startingWs = w ∧ a.decision = r ∧ a.nextLineIndex = i :=
  ⟨congrArg Prod.fst h, congrArg (fun p => p.2.1) h, congrArg (fun p => p.2.2) h⟩

def IndiffOutcome.All (K : FormattingNode → Prop) : IndiffOutcome → Prop
  | .pushNode n => K n
  | .deadEnd => True
  | .broke l => ∀ x ∈ l, K x

def SearchEnv.requirementAt (E : SearchEnv) (n : FormattingNode) : DR :=
  E.O.getFormattingRequirement n.nextLineIndex E.line.2 (E.fc.getSpecificContextStack n.nextLineIndex) n

/-- the search may call `get_potential_solution` with decision `rd` on node `n` (a token left; requirement allows `rd`) -/
structure SearchEnv.Offers (E : SearchEnv) (n : FormattingNode) (rd : RawDecision) : Prop where
  lt : n.nextLineIndex < E.line.2.tokens.size
  req : E.requirementAt n = .indifferent ∨ (rd = .brk ∧ E.requirementAt n = .mustBreak) ∨
    (rd = .cont ∧ E.requirementAt n = .mustNotBreak)

theorem SearchEnv.Offers.cont {E n} (h : SearchEnv.Offers E n .cont) :
    E.requirementAt n = .mustNotBreak ∨ E.requirementAt n = .indifferent :=
  h.req.elim Or.inr fun h => h.elim (fun h => nomatch h.1) fun h => Or.inl h.2

theorem foldl_keep_sub {α β : Type} (g : List α × β → α → List α × β)
    (hg : ∀ acc x, ∀ y ∈ (g acc x).1, y ∈ acc.1 ∨ y = x) :
    ∀ (l : List α) (acc : List α × β), ∀ y ∈ (l.foldl g acc).1, y ∈ acc.1 ∨ y ∈ l := fun l acc =>
  List.foldlRecOn (motive := fun b => ∀ y ∈ b.1, y ∈ acc.1 ∨ y ∈ l) l g (fun _ hy => Or.inl hy)
    fun b ih x hx y hy => (hg b x y hy).elim (ih y) fun e => Or.inr (e ▸ hx)

/-- `find_optimal_child_lines_solution` keeps `C` of the cache and offers only lists satisfying `L` -/
def ChildLinesKeep (O : Olf) (solve : Solver) (C : ChildLineCache → Prop)
    (L : LineWhitespace → List (Nat × FormattingSolution) → Prop) : Prop :=
  ∀ c line nli W dref stack node tll pc, C c →
    C (O.findOptimalChildLinesSolution solve c line nli W dref stack node tll pc).2 ∧
    ∀ sols ∈ (O.findOptimalChildLinesSolution solve c line nli W dref stack node tll pc).1.toList, L W sols

section Step
variable (E : SearchEnv) (C : ChildLineCache → Prop) (L : LineWhitespace → List (Nat × FormattingSolution) → Prop)
  (N : FormattingNode → Prop)
  (hchild : ChildLinesKeep E.O E.solveChild C L)
  (hstep : ∀ (n : FormattingNode) (rd : RawDecision) (req : DR) (cs : List (Nat × FormattingSolution)) (tll cc : Nat)
    (x : FormattingNode), N n → E.Offers n rd → L n.startingWs cs → x.startingWs = n.startingWs →
    x.decision = n.decision.addSuccessor
      { decision := rd.withContinuation cc, requirement := req, childSolutions := cs, lastLineLength := tll } →
    x.nextLineIndex = n.nextLineIndex + 1 → N x)
include hchild hstep

theorem getPotentialSolution_inv (cache : ChildLineCache) (n : FormattingNode) (contexts : SpecificContextStack)
    (rd : RawDecision) (req : DR) (hc : C cache) (hn : N n) (ha : E.Offers n rd) :
    C (E.getPotentialSolution cache n contexts rd req).2 ∧
    ∀ x ∈ (E.getPotentialSolution cache n contexts rd req).1.toList, N x := by
  unfold SearchEnv.getPotentialSolution
  extract_lets lineIndex n1 cc dec tll n2 gnn
  have h2 : n2.core = n.core := blind_updateContexts FormattingNode.core core_modifyData _ _ _ _
  obtain ⟨e1, e2, e3⟩ := core_eq h2
  have hgn : ∀ cs, L n.startingWs cs → N (gnn n2 cs) := by
    intro cs hcs
    obtain ⟨f1, f2, f3⟩ := core_eq
      (blind_updateContextsFromChildSolutions FormattingNode.core core_modifyData contexts n2 cs)
    refine hstep n rd req cs tll cc _ hn ha hcs (f1.trans e1) ?_ ?_
    · show (updateContextsFromChildSolutions contexts n2 cs).decision.addSuccessor _ = _
      rw [f2, e2]
    · show (updateContextsFromChildSolutions contexts n2 cs).nextLineIndex + 1 = _
      rw [f3, e3]
  have hf := hchild cache E.line n2.nextLineIndex n2.startingWs n2.decision contexts n2 tll cc hc
  generalize E.O.findOptimalChildLinesSolution _ _ _ _ _ _ _ _ _ _ = r at hf ⊢
  rw [e1] at hf
  obtain ⟨cls, c⟩ := r
  refine ⟨hf.1, ?_⟩
  cases cls with
  | none => intro x hx; simp [Potentials.toList] at hx
  | one a =>
    intro x hx; simp [Potentials.toList] at hx; subst hx
    exact hgn a (hf.2 a (by simp [Potentials.toList]))
  | two a b =>
    intro x hx; simp [Potentials.toList] at hx
    rcases hx with rfl | rfl
    · exact hgn a (hf.2 a (by simp [Potentials.toList]))
    · exact hgn b (hf.2 b (by simp [Potentials.toList]))

end Step

section Loops
variable (E : SearchEnv) (C : ChildLineCache → Prop) (N : FormattingNode → Prop)
  (hg : ∀ cache n contexts rd req, C cache → N n → E.Offers n rd →
    C (E.getPotentialSolution cache n contexts rd req).2 ∧
    ∀ x ∈ (E.getPotentialSolution cache n contexts rd req).1.toList, N x)
include hg

/-- the `'indiff` loop: the remembered "first indifferent decision" is a node at which both decisions are offered -/
theorem indiffLoop_inv (fuel : Nat) (cache : ChildLineCache) (bp : Array Nat) (node : FormattingNode)
      (indiff : Option (FormattingNode × SpecificContextStack))
      (hc : C cache) (hn : N node) (hi : ∀ p, indiff = some p → N p.1 ∧ E.Offers p.1 .brk ∧ E.Offers p.1 .cont) :
      (E.indiffLoop fuel cache bp node indiff).1.All N ∧ C (E.indiffLoop fuel cache bp node indiff).2.1 := by
  have hg' : ∀ {c n st rd req s c'}, E.getPotentialSolution c n st rd req = (s, c') → C c → N n → E.Offers n rd →
      C c' ∧ ∀ x ∈ s.toList, N x :=
    fun {c n st rd req _ _} h a b d => by have := hg c n st rd req a b d; rwa [h] at this
  -- two calls of `get_potential_solution` in a row (break, then continue) from the same node
  have hpair : ∀ {c n st req s1 c1 s2 c2} {pre : List FormattingNode},
      E.getPotentialSolution c n st .brk req = (s1, c1) → E.getPotentialSolution c1 n st .cont req = (s2, c2) →
      C c → N n ∧ E.Offers n .brk ∧ E.Offers n .cont → (∀ x ∈ pre, N x) →
      (∀ x ∈ pre ++ s1.toList ++ s2.toList, N x) ∧ C c2 := by
    intro c n st req s1 c1 s2 c2 pre h1 h2 hcc ⟨hnn, hb, ho⟩ hpre
    have a := hg' h1 hcc hnn hb
    have b := hg' h2 a.1 hnn ho
    refine ⟨fun x hx => ?_, b.1⟩
    simp only [List.mem_append] at hx
    rcases hx with (hx | hx) | hx
    · exact hpre x hx
    · exact a.2 x hx
    · exact b.2 x hx
  fun_induction SearchEnv.indiffLoop E fuel cache bp node indiff
  case case1 => exact ⟨trivial, hc⟩
  case case2 =>  -- too long: back to the first indifferent decision
    rename_i i st0 hif st s1 c1 h1 s2 c2 h2
    have hk : N i ∧ E.Offers i .brk ∧ E.Offers i .cont := by
      split at hif
      · exact hi _ hif
      · cases hif
    simpa [IndiffOutcome.All] using hpair (pre := []) h1 h2 hc hk (by simp)
  case case3 => exact ⟨hn, hc⟩
  case case4 =>  -- invalid
    rename_i i st s1 c1 h1 s2 c2 h2 _ _
    simpa [IndiffOutcome.All] using hpair (pre := []) h1 h2 hc (hi _ rfl) (by simp)
  case case5 => exact ⟨trivial, hc⟩
  case case6 =>  -- must break
    rename_i hlt req gs hreq li s c h1 ns bp' hfold ih
    have a := hg' h1 hc hn ⟨Nat.lt_of_not_ge hlt, Or.inr (Or.inl ⟨rfl, hreq⟩)⟩
    refine ⟨fun x hx => ?_, a.1⟩
    rw [← show Prod.fst (List.foldl _ _ _) = ns from congrArg Prod.fst hfold] at hx
    rcases foldl_keep_sub _ (fun acc y z hz => by
        split at hz
        · simpa using hz
        · exact Or.inl hz) _ _ x hx with h | h
    · simp at h
    · exact a.2 x h
  case' case7 =>  -- must not break
    rename_i il _ _ _ _ _ _ _ hlt req gs cw hreq s c h1 ih
    have ho : E.Offers _ .cont := ⟨Nat.lt_of_not_ge hlt, Or.inr (Or.inr ⟨rfl, hreq⟩)⟩
    have hil := hi
  case' case8 =>  -- indifferent: this node becomes the first indifferent decision if there is none yet
    rename_i il0 _ _ _ _ _ _ hnone hlt req gs cw hreq il s c h1 ih
    have ho : E.Offers _ .cont := ⟨Nat.lt_of_not_ge hlt, Or.inl hreq⟩
    have hil : ∀ p, il = some p → N p.1 ∧ E.Offers p.1 .brk ∧ E.Offers p.1 .cont := by
      intro p hp
      dsimp only [il] at hp
      split at hp
      · cases hp; exact ⟨hn, ⟨Nat.lt_of_not_ge hlt, Or.inl hreq⟩, ho⟩
      · exact hi _ hp
  all_goals
    have a := hg' h1 hc hn ho
    -- the end of the loop body
    have hcw : ∀ il l, (∀ p, il = some p → N p.1 ∧ E.Offers p.1 .brk ∧ E.Offers p.1 .cont) → (∀ x ∈ l, N x) →
        (cw c il l).1.All N ∧ C (cw c il l).2.1 := by
      intro il l hil hl
      dsimp only [cw]
      split
      · exact ih _ _ _ a.1 (hl _ (by simp)) hil
      · split
        · rename_i i st
          rcases e1 : gs c .brk i st with ⟨s1, c1⟩
          rcases e2 : gs c1 .cont i st with ⟨s2, c2⟩
          exact hpair e1 e2 a.1 (hil _ rfl) hl
        · exact ⟨hl, a.1⟩
    exact hcw _ _ hil a.2

theorem successorLoop_inv (fuel : Nat) (heap : NodeHeap) (cache : ChildLineCache) (bp : Array Nat)
    (node : FormattingNode) (H : HAll N heap) (hc : C cache) (hn : N node) :
    HAll N (E.successorLoop fuel heap cache bp node).1 ∧ C (E.successorLoop fuel heap cache bp node).2.1 := by
  have hi := fun cache bp node => indiffLoop_inv E C N hg (E.line.2.tokens.size + 2) cache bp node none
  fun_induction SearchEnv.successorLoop E fuel heap cache bp node with
  | case1 => exact ⟨H, hc⟩
  | case2 _ heap cache bp node n' c' bp' heq =>
    have := hi cache bp node hc hn (by simp); rw [heq] at this
    exact ⟨heapPush_all _ _ H this.1, this.2⟩
  | case3 _ heap cache bp node c' bp' heq =>
    have := hi cache bp node hc hn (by simp); rw [heq] at this
    exact ⟨H, this.2⟩
  | case4 _ heap cache bp node single c' bp' heq ih =>
    have := hi cache bp node hc hn (by simp); rw [heq] at this
    exact ih H this.2 (this.1 single (by simp))
  | case5 _ heap cache bp node l c' bp' _ heq =>
    have := hi cache bp node hc hn (by simp); rw [heq] at this
    exact ⟨heapExtend_all _ _ H this.1, this.2⟩

theorem nodeHeapLoop_inv (fuel : Nat) (heap : NodeHeap) (cache : ChildLineCache) (bp : Array Nat) (it : Nat)
    (H : HAll N heap) (hc : C cache) :
    C (E.nodeHeapLoop fuel heap cache bp it).2 ∧
    ∀ sol, (E.nodeHeapLoop fuel heap cache bp it).1 = .ok sol → ∃ node : FormattingNode, N node ∧ sol = node.intoSolution := by
  fun_induction SearchEnv.nodeHeapLoop E fuel heap cache bp it with
  | case1 | case2 | case3 => exact ⟨hc, fun sol h => nomatch h⟩
  | case4 _ heap cache bp it node heap' hp _ _ =>
    exact ⟨hc, fun sol h => ⟨node, (heapPop_all heap H node heap' hp).1, (Except.ok.inj h).symm⟩⟩
  | case5 _ heap cache bp it node heap' hp _ _ _ _ ih => exact ih (heapPop_all heap H node heap' hp).2 hc
  | case6 _ heap cache bp it node heap' hp _ _ _ _ h1 c1 b1 heq ih =>
    obtain ⟨hn, H'⟩ := heapPop_all heap H node heap' hp
    have := successorLoop_inv E C N hg (E.line.2.tokens.size + 2) heap' cache bp node H' hc hn
    rw [heq] at this
    exact ih this.1 this.2

end Loops

/-- the invariant of a token depends on the formatter state through the token types only -/
theorem getFormattingInvariant_congr {O O' : Olf} (h : ∀ i, O'.getTokenType i = O.getTokenType i) (li : Nat)
    (line : LineA) : O'.getFormattingInvariant li line = O.getFormattingInvariant li line := by
  unfold Olf.getFormattingInvariant Olf.getPrevTokenTypeForLineIndex Olf.getTokenTypeForLineIndex
  simp only [h]

theorem getTokenTypeForLineIndex_of {O : Olf} {line : LineA} {i j : Nat} (h : line.tokens[i]? = some j) :
    O.getTokenTypeForLineIndex line i = O.getTokenType j := by
  unfold Olf.getTokenTypeForLineIndex; rw [h]

theorem getPrevTokenTypeForLineIndex_of {O : Olf} {line : LineA} {i j : Nat} (h : line.tokens[i]? = some j) :
    O.getPrevTokenTypeForLineIndex line i = if j = 0 then none else O.getTokenType (j - 1) := by
  unfold Olf.getPrevTokenTypeForLineIndex; rw [h]; simp only [beq_iff_eq]

theorem ite_mustBreak_ne (a : Prop) [Decidable a] {r : Option DR} (hr : r ≠ some .mustNotBreak) :
    (if a then some .mustBreak else r) ≠ some .mustNotBreak := by
  split
  · exact fun h => nomatch h
  · exact hr

/-- where `get_formatting_invariant` answers "must not break": no token before this one, or this one is a comment that
    shares its line with code; the two types read are made variables before the tests are walked -/
theorem getFormattingInvariant_mustNotBreak_iff {O : Olf} {li : Nat} {line : LineA} :
    O.getFormattingInvariant li line = some .mustNotBreak ↔
      O.getPrevTokenTypeForLineIndex line li = none ∨
      O.getTokenTypeForLineIndex line li = some (.tComment .cInlineLine) ∨
      O.getTokenTypeForLineIndex line li = some (.tComment .cInlineBlock) := by
  unfold Olf.getFormattingInvariant
  generalize O.getPrevTokenTypeForLineIndex line li = prev
  generalize O.getTokenTypeForLineIndex line li = cur
  cases prev with
  | none => simp
  | some p =>
    dsimp only
    split
    · simp
    · simp
    · rename_i h1 h2
      have : ¬ (cur = some (.tComment .cInlineLine) ∨ cur = some (.tComment .cInlineBlock)) := fun h => h.elim h1 h2
      simp only [Bool.false_eq_true, if_false, reduceCtorEq, false_or, this, iff_false]
      exact ite_mustBreak_ne _ (ite_mustBreak_ne _ (ite_mustBreak_ne _ fun h => nomatch h))

/-- the decision `find_optimal_solution` puts at the root of its decision tree -/
def rootDec (O : Olf) (line : LineA) : FirstDecision → Dec
  | .brk => if O.getFormattingInvariant 0 line == some .mustNotBreak then .cont else .brk 0
  | .cont _ _ => .cont

def Olf.env (O : Olf) (solve : Solver) (lineIdx : Nat) : SearchEnv :=
  { O := O, solveChild := solve, line := (lineIdx, O.lines[lineIdx]!),
    fc := LineFormattingContexts.new (O.lines[lineIdx]!) O.tokenTypes }

/-- one level of `find_optimal_solution`: `C` is kept and the solution returned is a node satisfying `N`, if the root
    node satisfies `N` and `get_potential_solution` keeps `C` and `N` -/
theorem findOptimalSolutionWith_inv (O : Olf) (solve : Solver) (ws : LineWhitespace) (lineIdx : Nat)
    (fd : FirstDecision) (C : ChildLineCache → Prop) (L : LineWhitespace → List (Nat × FormattingSolution) → Prop)
    (N : FormattingNode → Prop) (S : FormattingSolution → Prop)
    (hchild : ChildLinesKeep O solve C L)
    (hg : ∀ cache n contexts rd req, C cache → N n → (O.env solve lineIdx).Offers n rd →
      C ((O.env solve lineIdx).getPotentialSolution cache n contexts rd req).2 ∧
      ∀ x ∈ ((O.env solve lineIdx).getPotentialSolution cache n contexts rd req).1.toList, N x)
    (hroot : ∀ (req : DR) (cs : List (Nat × FormattingSolution)) (lll : Nat) (x : FormattingNode),
      0 < (O.lines[lineIdx]!).tokens.size →
      (O.getFormattingInvariant 0 (O.lines[lineIdx]!) = some .mustBreak → (rootDec O (O.lines[lineIdx]!) fd).toRaw = .brk) →
      L ws cs → x.startingWs = ws →
      x.decision = { value := { decision := rootDec O (O.lines[lineIdx]!) fd, requirement := req, childSolutions := cs,
                                lastLineLength := lll }, parents := [] } →
      x.nextLineIndex = 1 → N x)
    (hempty : (O.lines[lineIdx]!).tokens[0]? = none → S (.mk ws [] 0 0))
    (hsol : ∀ n, N n → S n.intoSolution)
    (cache : ChildLineCache) (hc : C cache) :
    C (O.findOptimalSolutionWith solve cache ws lineIdx fd).2 ∧
    ∀ sol, (O.findOptimalSolutionWith solve cache ws lineIdx fd).1 = .ok sol → S sol := by
  fun_cases Olf.findOptimalSolutionWith O solve cache ws lineIdx fd with
  | case1 lineA h0 => exact ⟨hc, fun sol h => Except.ok.inj h ▸ hempty h0⟩
  | case2 => exact ⟨hc, fun sol h => nomatch h⟩
  | case3 lineA line t0 ht0 fc E bp tl sb cl inv newLine req lll bcb hq hnot root ics node0 node childSols cache1 hcs
      withChildren initial heap =>
    have hsz : 0 < lineA.tokens.size := by
      rcases Nat.lt_or_ge 0 lineA.tokens.size with h | h
      · exact h
      · rw [Array.getElem?_eq_none h] at ht0; cases ht0
    have hnl : newLine = rootDec O lineA fd := by
      unfold rootDec
      cases fd with
      | brk =>
        simp only [] at hq ⊢
        split at hq <;> rename_i hc
        · simp only [inv] at hc; rw [if_pos hc]; cases hq; rfl
        · simp only [inv] at hc; rw [if_neg hc]; cases hq; rfl
      | cont a b => cases hq; rfl
    have hmb : O.getFormattingInvariant 0 lineA = some .mustBreak → (rootDec O lineA fd).toRaw = .brk := by
      intro h0
      have h0' : (inv == some .mustBreak) = true := by simp only [inv]; rw [h0]; rfl
      rw [← hnl]
      cases hr : newLine.toRaw with
      | brk => rfl
      | cont => exact absurd (by rw [h0', hr]; simp) hnot
    have hnode : node.core = (ws, root, 1) := by
      dsimp only [node]
      split
      · rw [core_modifyData]; rfl
      · rfl
    obtain ⟨hws, hdec, hidx⟩ := core_eq hnode
    clear_value node
    have hf := hchild cache line 0 node.startingWs root ics node lll 0 hc
    rw [hcs, hws] at hf
    have hheap : HAll N heap := by
      refine heapExtend_all #[] initial (fun x hx => absurd hx (Array.not_mem_empty x)) fun x hx => ?_
      have hwc : ∀ cs ∈ childSols.toList, N (withChildren cs) := fun cs hcs =>
        hroot req cs lll _ hsz hmb (hf.2 cs hcs) hws (by simp only [withChildren, hdec, root, hnl]; rfl) hidx
      dsimp only [initial] at hx
      split at hx <;> simp only [List.mem_cons, List.not_mem_nil, or_false, or_self] at hx <;> subst hx <;>
        exact hwc _ (by simp [Potentials.toList])
    have := nodeHeapLoop_inv E C N hg (O.iterationMax + 3) heap cache1 bp 0 hheap hf.1
    exact ⟨this.1, fun sol h => by obtain ⟨nd, h1, rfl⟩ := this.2 sol h; exact hsol nd h1⟩

/-- every decision of the solution of line `li` satisfies `D` (for the line, the solution's starting whitespace and the
    index of the decision), and so do the decisions of every child solution below it, each for its own line -/
inductive TreeAll (D : Nat → LineWhitespace → Nat → TokenDecision → Prop) : Nat → FormattingSolution → Prop
  | mk (li : Nat) (ws : LineWhitespace) (decs : List TokenDecision) (pen len : Nat)
      (h : ∀ i d, decs[i]? = some d → D li ws i d)
      (hrec : ∀ d ∈ decs, ∀ x ∈ d.childSolutions, TreeAll D x.1 x.2) : TreeAll D li (.mk ws decs pen len)

theorem treeAll_iff {D : Nat → LineWhitespace → Nat → TokenDecision → Prop} (li : Nat) (sol : FormattingSolution) :
    TreeAll D li sol ↔ ∀ i d, sol.decisions[i]? = some d →
      D li sol.startingWs i d ∧ ∀ x ∈ d.childSolutions, TreeAll D x.1 x.2 := by
  constructor
  · intro h
    cases h with
    | mk li ws decs pen len h hrec => exact fun i d hd => ⟨h i d hd, hrec d (List.mem_of_getElem? hd)⟩
  · intro h
    cases sol with
    | mk ws decs pen len =>
      refine .mk li ws decs pen len (fun i d hd => (h i d hd).1) fun d hd => ?_
      obtain ⟨i, hi⟩ := List.getElem?_of_mem hd
      exact (h i d hi).2

theorem TreeAll.mem {D : Nat → LineWhitespace → Nat → TokenDecision → Prop} {li : Nat} {sol : FormattingSolution}
    (h : TreeAll D li sol) {d : TokenDecision} (hd : d ∈ sol.decisions) :
    (∃ i, D li sol.startingWs i d) ∧ ∀ x ∈ d.childSolutions, TreeAll D x.1 x.2 := by
  obtain ⟨i, hi⟩ := List.getElem?_of_mem hd
  exact ⟨⟨i, ((treeAll_iff li sol).1 h i d hi).1⟩, ((treeAll_iff li sol).1 h i d hi).2⟩

theorem TreeAll.mono {D D' : Nat → LineWhitespace → Nat → TokenDecision → Prop}
    (hD : ∀ li W i d, D li W i d → D' li W i d) {li : Nat} {sol : FormattingSolution} (h : TreeAll D li sol) :
    TreeAll D' li sol := by
  induction h with
  | mk li ws decs pen len h _ ih => exact .mk li ws decs pen len (fun i d hd => hD _ _ _ _ (h i d hd)) ih

/-- a solver of child lines keeps `C` and returns solutions satisfying `T` for the line solved -/
def SolverAll (C : ChildLineCache → Prop) (T : Nat → FormattingSolution → Prop) (solve : Solver) : Prop :=
  ∀ cache ws li fd, C cache → C (solve cache ws li fd).2 ∧ ∀ sol, (solve cache ws li fd).1 = .ok sol → T li sol

/-- every depth of the recursion over child lines, from one level of it -/
theorem findOptimalSolution_all (O : Olf) (C : ChildLineCache → Prop) (T : Nat → FormattingSolution → Prop)
    (hone : ∀ fuel, SolverAll C T (O.findOptimalSolution fuel) →
      SolverAll C T (O.findOptimalSolutionWith (O.findOptimalSolution fuel))) :
    ∀ fuel : Nat, SolverAll C T (O.findOptimalSolution fuel)
  | 0 => fun _ _ _ _ hc => ⟨hc, fun _ h => nomatch h⟩
  | fuel + 1 => hone fuel (findOptimalSolution_all O C T hone fuel)

/-- `format_line` gives nothing and keeps the cache (no such line, an asm-instruction line), or it is `find_optimal_solution`
    started with the line's level and with "continue" for the line that starts with token 0, a break otherwise -/
theorem formatLine_cases (O : Olf) (cache : ChildLineCache) (lineIdx : Nat) :
    O.formatLine cache lineIdx = (none, cache) ∨ ∃ line r, O.lines[lineIdx]? = some line ∧
      r = O.findOptimalSolution (O.lines.size + 1) cache { indentations := line.level, continuations := 0 } lineIdx
        (match line.tokens[0]? with | some 0 => .cont 0 true | _ => .brk) ∧
      (O.formatLine cache lineIdx).2 = r.2 ∧ ∀ sol, (O.formatLine cache lineIdx).1 = some sol ↔ r.1 = .ok sol := by
  unfold Olf.formatLine
  split
  · exact Or.inl rfl
  · rename_i line hl
    split
    · exact Or.inl rfl
    · refine Or.inr ⟨line, _, hl, rfl, ?_⟩
      extract_lets fd
      generalize O.findOptimalSolution (O.lines.size + 1) cache _ lineIdx fd = r
      rcases r with ⟨_ | _, c⟩ <;> simp

theorem formatLine_all (O : Olf) (C : ChildLineCache → Prop) (T : Nat → FormattingSolution → Prop)
    (hS : SolverAll C T (O.findOptimalSolution (O.lines.size + 1))) (cache : ChildLineCache) (lineIdx : Nat)
    (hc : C cache) :
    C (O.formatLine cache lineIdx).2 ∧ ∀ sol, (O.formatLine cache lineIdx).1 = some sol → T lineIdx sol := by
  rcases formatLine_cases O cache lineIdx with e | ⟨line, _, _, rfl, e2, e1⟩
  · rw [e]; exact ⟨hc, fun sol h => nomatch h⟩
  · rw [e2]
    exact ⟨(hS _ _ _ _ hc).1, fun sol h => (hS _ _ _ _ hc).2 sol ((e1 sol).1 h)⟩

section Tree
variable (D : Nat → LineWhitespace → Nat → TokenDecision → Prop) (T : Nat → FormattingSolution → Prop)

/-- the node invariant for `T`: one decision per token passed, each satisfying `D` at its index -/
structure NodeAll (li : Nat) (W : LineWhitespace) (n : FormattingNode) : Prop where
  ws : n.startingWs = W
  len : n.decision.walkParentsData.length = n.nextLineIndex
  decs : ∀ i d, n.decision.walkParentsData.reverse[i]? = some d → D li W i d ∧ ∀ x ∈ d.childSolutions, T x.1 x.2

variable {D T}

/-- a node whose decisions are `l` and one more (`l` empty: the root) -/
theorem NodeAll.snoc {li : Nat} {W : LineWhitespace} {x : FormattingNode} {l : List TokenDecision} {d : TokenDecision}
    (hl : ∀ i e, l[i]? = some e → D li W i e ∧ ∀ y ∈ e.childSolutions, T y.1 y.2) (h1 : x.startingWs = W)
    (h2 : x.decision.walkParentsData = d :: l.reverse) (h3 : x.nextLineIndex = l.length + 1) (hd : D li W l.length d)
    (hc : ∀ y ∈ d.childSolutions, T y.1 y.2) : NodeAll D T li W x := by
  refine ⟨h1, by rw [h2, h3]; simp, fun i e he => ?_⟩
  rw [h2, List.reverse_cons, List.reverse_reverse] at he
  rcases getElem?_snoc he with h | ⟨rfl, rfl⟩
  · exact hl i e h
  · exact ⟨hd, hc⟩

theorem findOptimalSolutionWith_all (hA : ∀ li sol, T li sol ↔ TreeAll D li sol)
    (O : Olf) (solve : Solver) (ws : LineWhitespace) (lineIdx : Nat) (fd : FirstDecision)
    (C : ChildLineCache → Prop) (L : LineWhitespace → List (Nat × FormattingSolution) → Prop)
    (hchild : ChildLinesKeep O solve C L)
    (hL : ∀ W cs, L W cs → ∀ x ∈ cs, T x.1 x.2)
    (hD : ∀ (n : FormattingNode) (rd : RawDecision) (req : DR) (cs : List (Nat × FormattingSolution)) (tll cc : Nat),
      (O.env solve lineIdx).Offers n rd → L n.startingWs cs →
      D lineIdx n.startingWs n.nextLineIndex
        { decision := rd.withContinuation cc, requirement := req, childSolutions := cs, lastLineLength := tll })
    (hD0 : ∀ (req : DR) (cs : List (Nat × FormattingSolution)) (lll : Nat), 0 < (O.lines[lineIdx]!).tokens.size →
      (O.getFormattingInvariant 0 (O.lines[lineIdx]!) = some .mustBreak → (rootDec O (O.lines[lineIdx]!) fd).toRaw = .brk) →
      L ws cs →
      D lineIdx ws 0
        { decision := rootDec O (O.lines[lineIdx]!) fd, requirement := req, childSolutions := cs, lastLineLength := lll })
    (cache : ChildLineCache) (hc : C cache) :
    C (O.findOptimalSolutionWith solve cache ws lineIdx fd).2 ∧
    ∀ sol, (O.findOptimalSolutionWith solve cache ws lineIdx fd).1 = .ok sol → T lineIdx sol := by
  have hT : ∀ li sol, T li sol ↔
      ∀ i d, sol.decisions[i]? = some d → D li sol.startingWs i d ∧ ∀ x ∈ d.childSolutions, T x.1 x.2 :=
    fun li sol => by simp only [hA]; exact treeAll_iff li sol
  refine findOptimalSolutionWith_inv O solve ws lineIdx fd C L (NodeAll D T lineIdx ws) (T lineIdx) hchild ?_ ?_ ?_ ?_
    cache hc
  · refine getPotentialSolution_inv _ C L _ hchild ?_
    intro n rd req cs tll cc x hn ho hl h1 h2 h3
    have hd := hD n rd req cs tll cc ho hl
    rw [hn.ws, ← hn.len, ← List.length_reverse] at hd
    exact .snoc hn.decs (h1.trans hn.ws) (by rw [h2, List.reverse_reverse]; rfl)
      (by rw [h3, List.length_reverse, hn.len]) hd (hL _ _ hl)
  · intro req cs lll x hsz hmb hl h1 h2 h3
    exact .snoc (l := []) (fun _ _ h => nomatch h) h1 (by rw [h2]; rfl) h3 (hD0 req cs lll hsz hmb hl) (hL _ _ hl)
  · intro _
    exact (hT _ _).2 (fun i d hd => by simp [FormattingSolution.decisions] at hd)
  · intro n hn
    refine (hT _ _).2 (fun i d hd => ?_)
    rw [show n.intoSolution.startingWs = ws from hn.ws]
    exact hn.decs i d hd

end Tree

end Pasfmt
