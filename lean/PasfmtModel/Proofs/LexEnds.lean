/-
  Where scans end.  `Ends l n`: offset `n` of `l` is 0, or follows an ASCII byte, or points at a byte that is not a
  UTF-8 continuation byte (or at/after the end).  The predicate is local (it looks at two bytes), needs no
  well-formedness of `l`, and composes along the scanners' offset arithmetic; in well-formed text every non-zero such
  offset is a character boundary.  `EndsIn l n` adds `n ≤ l.length`.  Bounds and `Ends` offsets of the literal, comment
  and directive scanners are read off their specifications (`LexSpecs`, `LexSpecs2`); the identifier scan and
  `lineCommentEnd` stand here.
-/
import PasfmtModel.Proofs.Utf8
import PasfmtModel.Proofs.LexEquations

namespace Pasfmt

/-! ### `Ends` -/

def Ends (l : Bytes) (n : Nat) : Prop := n = 0 ∨ (1 ≤ n ∧ AsciiAt l (n - 1)) ∨ NotContAt l n

theorem Ends.zero (l : Bytes) : Ends l 0 := Or.inl rfl

theorem Ends.of_notCont {l : Bytes} {n : Nat} (h : NotContAt l n) : Ends l n := Or.inr (Or.inr h)

theorem Ends.of_ge {l : Bytes} {n : Nat} (h : l.length ≤ n) : Ends l n := Ends.of_notCont (notContAt_end l n h)

theorem Ends.of_asciiAt {l : Bytes} {i : Nat} (h : AsciiAt l i) : Ends l (i + 1) :=
  Or.inr (Or.inl ⟨by omega, by simpa using h⟩)

theorem Ends.of_ascii_here {l : Bytes} {n : Nat} (h : AsciiAt l n) : Ends l n := by
  obtain ⟨a, ha, hlt⟩ := h
  exact Ends.of_notCont (notContAt_of_ascii l n a ha hlt)

theorem notContAt_drop {l : Bytes} {k n : Nat} (h : NotContAt (l.drop k) n) : NotContAt l (k + n) := by
  intro b hb
  exact h b (by simpa [List.getElem?_drop] using hb)

theorem Ends.shift {l : Bytes} {k m : Nat} (h : Ends (l.drop k) m) (hm : m ≠ 0) : Ends l (k + m) := by
  rcases h with h0 | ⟨h1, ha⟩ | hn
  · exact absurd h0 hm
  · refine Or.inr (Or.inl ⟨by omega, ?_⟩)
    have := asciiAt_drop ha
    have e : k + m - 1 = k + (m - 1) := by omega
    rw [e]; exact this
  · exact Ends.of_notCont (notContAt_drop hn)

theorem Ends.seq {l : Bytes} {n m : Nat} (h1 : Ends l n) (h2 : Ends (l.drop n) m) : Ends l (n + m) := by
  by_cases hm : m = 0
  · subst hm; simpa using h1
  · exact h2.shift hm

theorem Ends.cons_ascii {b : UInt8} {r : Bytes} {m : Nat} (hb : b < 0x80) (h : Ends r m) : Ends (b :: r) (1 + m) := by
  by_cases hm : m = 0
  · subst hm; exact Ends.of_asciiAt (l := b :: r) (i := 0) ⟨b, by simp, hb⟩
  · exact Ends.shift (l := b :: r) (k := 1) (by simpa using h) hm

structure EndsIn (l : Bytes) (n : Nat) : Prop where
  le : n ≤ l.length
  ends : Ends l n

theorem EndsIn.seq {l : Bytes} {n m : Nat} (h1 : EndsIn l n) (h2 : EndsIn (l.drop n) m) : EndsIn l (n + m) := by
  have := h1.le
  have := h2.le
  simp only [List.length_drop] at this
  exact ⟨by omega, h1.ends.seq h2.ends⟩

theorem EndsIn.shift {l : Bytes} {k e : Nat} (h : EndsIn (l.drop k) e) (he : 1 ≤ e) : EndsIn l (k + e) := by
  have := h.le
  simp only [List.length_drop] at this
  exact ⟨by omega, h.ends.shift (by omega)⟩

/-- **In well-formed text every `Ends` offset is a character boundary.** -/
theorem Ends.notCont {l : Bytes} {n : Nat} (h : Ends l n) (hv : validUtf8 l = true) : NotContAt l n := by
  rcases h with rfl | ⟨hn, a, ha, hlt⟩ | hnc
  · exact notContAt_of_valid_drop l 0 hv
  · exact Nat.sub_add_cancel hn ▸ notContAt_of_valid_drop l _ (valid_drop_after_ascii l (n - 1) a hv ha hlt)
  · exact hnc

theorem AsciiUpTo.ends {l : Bytes} {n : Nat} (h : AsciiUpTo l n) : Ends l n := by
  by_cases hn : n = 0
  · exact Or.inl hn
  · exact Or.inr (Or.inl ⟨by omega, h (n - 1) (by omega)⟩)

theorem AsciiUpTo.endsIn {l : Bytes} {n : Nat} (h : AsciiUpTo l n) : EndsIn l n := ⟨h.le, h.ends⟩

/-- the scan `countWhile p` stops at a byte that is not a continuation byte when `p` accepts them all -/
theorem notContAt_countWhile (p : UInt8 → Bool) (hp : ∀ x, isCont x = true → p x = true) (l : Bytes) :
    NotContAt l (countWhile p l) := by
  intro b hb
  have := countWhile_stop p l b hb
  cases hc : isCont b with
  | false => rfl
  | true => rw [hp b hc] at this; simp at this

/-! ### the two scans that pass non-ASCII bytes -/

theorem identLen_notCont (l : Bytes) : NotContAt l (identLen l) := by
  intro b hb
  have hlt := (List.getElem?_eq_some_iff.1 hb).1
  rw [identLen_eq_span] at hb hlt
  have := spanLen_stop _ l hlt
  rw [List.drop_eq_getElem_cons hlt, (List.getElem?_eq_some_iff.1 hb).2, identAt, Bool.and_eq_false_iff] at this
  rcases this with h | h
  · simp only [headIs, isIdentByte, Bool.or_eq_false_iff, decide_eq_false_iff_not] at h
    exact notCont_of_lt (UInt8.not_le.1 h.2)
  · simp only [Bool.not_eq_false', u3000, List.isPrefixOf, Bool.and_eq_true, beq_iff_eq] at h
    rw [← h.1]; decide

theorem isPrefix_getElem? {p l : Bytes} (h : p <+: l) (i : Nat) (hi : i < p.length) : l[i]? = p[i]? := by
  obtain ⟨t, rfl⟩ := h
  rw [List.getElem?_append_left hi]

theorem lineCommentEnd_notCont (l : Bytes) : NotContAt l (lineCommentEnd l) :=
  lineCommentEnd_eq l ▸ notContAt_countWhile _ (fun x hx => by
    cases h : (x == 0x0A || x == 0x0D) with
    | false => rfl
    | true =>
      simp only [Bool.or_eq_true, beq_iff_eq] at h
      rcases h with rfl | rfl <;> exact absurd hx (by decide)) l

end Pasfmt
