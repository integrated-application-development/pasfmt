/-
  What `FormattingData::from` reads back from the whitespace the reconstructor emits for a
  non-ignored token: the same number of line breaks, and the width of the indentation + spaces.
-/
import PasfmtModel.Proofs.LinesCustom
import PasfmtModel.Proofs.Settings

namespace Pasfmt

theorem trimStartLen_tabsSpaces (l : Bytes) (h : TabsSpaces l) : trimStartLen l = l.length := by
  induction l with
  | nil => rfl
  | cons b r ih =>
    have hb := h b (by simp)
    have hr : TabsSpaces r := fun x hx => h x (by simp [hx])
    rcases hb with rfl | rfl
    · rw [trimStartLen]
      · simp [ih hr]
      · intro r' hh; simp at hh
    · rw [trimStartLen]
      · simp [ih hr]
      · intro r' hh; simp at hh

theorem trimEndCr_tabsSpaces (l : Bytes) (h : TabsSpaces l) : trimEndCr l = l := by
  unfold trimEndCr
  have : l.reverse.dropWhile (· == 0x0D) = l.reverse := by
    cases hr : l.reverse with
    | nil => rfl
    | cons a t =>
      have ha : a ∈ l := by rw [← List.mem_reverse, hr]; simp
      rcases h a ha with rfl | rfl <;> simp
  rw [this, List.reverse_reverse]

theorem ofWs_gap (S : Settings) (hS : SettingsForm S) (n i c s : Nat) :
    FmtData.ofWs (replicateBytes n S.nlStr ++ (replicateBytes i S.indStr ++
        replicateBytes c S.contStr ++ List.replicate s 0x20)) false =
      { ignored := false, nl := u16sat n, ind := 0, cont := 0,
        sp := u16sat (replicateBytes i S.indStr ++ replicateBytes c S.contStr ++
          List.replicate s 0x20).length } := by
  obtain ⟨pre, hnl, hpre⟩ := hS.nl_split
  have hpre := not_mem_of_containsByte hpre
  have htail : TabsSpaces (replicateBytes i S.indStr ++ replicateBytes c S.contStr ++ List.replicate s 0x20) :=
    ((hS.ind.replicateBytes i).append (hS.cont.replicateBytes c)).append
      (fun b hb => Or.inr (List.mem_replicate.1 hb).2)
  generalize replicateBytes i S.indStr ++ replicateBytes c S.contStr ++ List.replicate s 0x20 = tail at htail ⊢
  have hno : (0x0A : UInt8) ∉ tail := fun hm => htail.all (p := (· ≠ 0x0A)) (by decide) (by decide) _ hm rfl
  unfold FmtData.ofWs
  have hcount : countByte 0x0A (replicateBytes n S.nlStr ++ tail) = n := by
    simp [countByte_eq_count, replicateBytes, List.count_flatten, List.count_eq_zero_of_not_mem hno, hnl,
      List.count_eq_zero_of_not_mem hpre]
  have hlast : lastLine (replicateBytes n S.nlStr ++ tail) = tail := by
    cases n with
    | zero => simpa [replicateBytes] using lastLine_no_nl tail hno
    | succ m =>
      rw [replicateBytes_succ', hnl]
      have : replicateBytes m (pre ++ [0x0A]) ++ (pre ++ [0x0A]) ++ tail =
          (replicateBytes m (pre ++ [0x0A]) ++ pre) ++ 0x0A :: tail := by simp
      rw [this]
      exact lastLine_append _ tail hno
  rw [hcount, hlast, trimEndCr_tabsSpaces tail htail, trimStartLen_tabsSpaces tail htail]

end Pasfmt
