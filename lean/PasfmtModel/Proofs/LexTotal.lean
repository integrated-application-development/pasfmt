/-
  The scan as a whole.  A successful scan is a chain of `lexOne` steps (`Scan`); losslessness and the
  shape of the token list are inductions over it.  `lex_total`: the scanner model never returns
  `none` — no sub-lexer runs out of fuel, every token is non-empty and inside the text, and the outer
  loop's fuel suffices.
-/
import PasfmtModel.Proofs.RunSub
import PasfmtModel.Proofs.TrailingWs
import PasfmtModel.Proofs.FlatText

namespace Pasfmt

theorem leLength_iff (e : Nat) (l : Bytes) : leLength e l = true ↔ e ≤ l.length := by
  induction e generalizing l with
  | zero => simp [leLength]
  | succ n ih =>
    cases l with
    | nil => simp [leLength]
    | cons b r => simp [leLength, ih]

inductive Scan (simd : Bool) : LexState → Bytes → List RawTok → Prop
  | eof {st : LexState} {inp : Bytes} : lexOne simd st inp = some none →
      Scan simd st inp [{ ws := inp, content := [], kind := .rEof }]
  | tok {st st' : LexState} {inp : Bytes} {ws e : Nat} {kind : RawKind} {rest : List RawTok} :
      lexOne simd st inp = some (some (ws, e, kind, st')) → ws < e → e ≤ inp.length →
      Scan simd st' (inp.drop e) rest →
      Scan simd st inp ({ ws := inp.take ws, content := (inp.take e).drop ws, kind := kind } :: rest)

theorem Scan.lossless {simd : Bool} {st : LexState} {inp : Bytes} {toks : List RawTok}
    (h : Scan simd st inp toks) : flatText toks = inp := by
  induction h with
  | eof => simp [flatText, RawTok.text]
  | @tok st st' inp ws e kind rest _ hws _ _ ih =>
    simp only [flatText, List.flatMap_cons, RawTok.text] at ih ⊢
    have h1 : List.take ws inp ++ List.drop ws (List.take e inp) = List.take e inp := by
      have : List.take ws inp = List.take ws (List.take e inp) := by
        rw [List.take_take]; congr 1; omega
      rw [this, List.take_append_drop]
    rw [ih, h1, List.take_append_drop]

theorem idLen_le (simd : Bool) (l : Bytes) :
    (if simd then identLenSimd (l.length + 1) l else identLen l) ≤ l.length := by
  rw [identLenSimd_eq]; simp [identLen_le]

/-- the scanner state after a token of kind `kind` -/
def stepState (st : LexState) (kind : RawKind) (inAsm : Bool) : LexState :=
  { isFirst := false, inAsm := inAsm,
    prevReal := if kind.isCommentOrDirective then st.prevReal else some kind }

/-- "first token on its line": the blanks before the token contain a line feed, or it is the
    first token of the text -/
def nlBeforeOf (st : LexState) (inp : Bytes) : Bool :=
  containsByte 0x0A (inp.take (countLeadingWs inp)) || st.isFirst

/-- the step of the scanner, given what the sub-lexer of the first non-blank byte returns; length, kind and mode are
    variables so that the three are read off the statement this is applied to -/
theorem lexOne_of_runSub {simd : Bool} {st : LexState} {inp : Bytes} {b : UInt8} {r : Bytes} {n : Nat} {k : RawKind}
    {a : Bool} (sub : SubLexer) (hd : inp.drop (countLeadingWs inp) = b :: r) (hs : dispatch st.inAsm b = sub)
    (hr : runSub st sub b r (nlBeforeOf st inp) (fun _ => countTrailingWs inp) simd = some ⟨n, k, a⟩) :
    lexOne simd st inp = some (some (countLeadingWs inp, countLeadingWs inp + n, k, stepState st k a)) := by
  unfold lexOne
  simp only [hd, dispatch_eq, hs]
  unfold nlBeforeOf at hr
  rw [hr]
  rfl

/-- One step of the scanner: at the end of the text it says so; otherwise it returns the token that
    the sub-lexer of the first non-blank byte finds. -/
theorem lexOne_spec (simd : Bool) (st : LexState) (inp : Bytes) :
    (inp.drop (countLeadingWs inp) = [] ∧ lexOne simd st inp = some none) ∨
    ∃ (b : UInt8) (r : Bytes) (o : LexOut), inp.drop (countLeadingWs inp) = b :: r ∧
      runSub st (dispatch st.inAsm b) b r (nlBeforeOf st inp) (fun _ => countTrailingWs inp) simd = some o ∧
      SubOut st (dispatch st.inAsm b) b r o ∧ TokLen b r (countTrailingWs inp) o.len ∧
      lexOne simd st inp =
        some (some (countLeadingWs inp, countLeadingWs inp + o.len, o.kind, stepState st o.kind o.inAsm)) := by
  cases hd : inp.drop (countLeadingWs inp) with
  | nil => exact Or.inl ⟨rfl, by unfold lexOne; simp only [hd]⟩
  | cons b r =>
    obtain ⟨o, ho, hk, hlen⟩ := runSub_spec st (dispatch st.inAsm b) b r (nlBeforeOf st inp)
      (fun _ => countTrailingWs inp) simd (countTrailingWs_lt inp b r hd) (dispatch_cases st.inAsm b).text
      (dispatch_ascii st.inAsm b)
    exact Or.inr ⟨b, r, o, rfl, ho, hk, hlen, lexOne_of_runSub _ hd rfl ho⟩

/-- what a step that returns a token has done -/
theorem lexOne_inv {simd : Bool} {st : LexState} {inp : Bytes} {ws e : Nat} {k : RawKind} {st' : LexState}
    (h : lexOne simd st inp = some (some (ws, e, k, st'))) :
    ∃ b r o, inp.drop (countLeadingWs inp) = b :: r ∧
      runSub st (dispatch st.inAsm b) b r (nlBeforeOf st inp) (fun _ => countTrailingWs inp) simd = some o ∧
      SubOut st (dispatch st.inAsm b) b r o ∧ TokLen b r (countTrailingWs inp) o.len ∧
      ws = countLeadingWs inp ∧ e = countLeadingWs inp + o.len ∧ k = o.kind ∧ st' = stepState st o.kind o.inAsm := by
  rcases lexOne_spec simd st inp with ⟨_, h0⟩ | ⟨b, r, o, hd, ho, hk, hlen, h1⟩
  · rw [h0] at h; cases h
  · rw [h1] at h; cases h; exact ⟨b, r, o, hd, ho, hk, hlen, rfl, rfl, rfl, rfl⟩

theorem lexOne_ok (simd : Bool) (st : LexState) (inp : Bytes) :
    lexOne simd st inp ≠ none ∧
    ∀ ws e k st', lexOne simd st inp = some (some (ws, e, k, st')) → ws < e ∧ e ≤ inp.length := by
  rcases lexOne_spec simd st inp with ⟨_, h⟩ | ⟨b, r, o, hd, _, _, hlen, h⟩
  · rw [h]; exact ⟨nofun, fun _ _ _ _ heq => nomatch heq⟩
  · rw [h]
    refine ⟨nofun, ?_⟩
    intro ws e k st'' heq
    cases heq
    have hl := congrArg List.length hd
    simp only [List.length_drop, List.length_cons] at hl
    have := hlen.pos
    have := hlen.le
    omega

theorem Scan.fuel {simd : Bool} {st : LexState} {inp : Bytes} {toks : List RawTok} (h : Scan simd st inp toks) :
    ∀ fuel, inp.length < fuel → lexFuel simd fuel st inp = some toks := by
  induction h with
  | eof hone => intro fuel hf; cases fuel with | zero => omega | succ f => rw [lexFuel, hone]
  | tok hone hlt hle _ ih =>
    intro fuel hf
    cases fuel with
    | zero => omega
    | succ f =>
      rw [lexFuel, hone]
      simp only [hlt, (leLength_iff _ _).2 hle, and_self, if_true]
      rw [ih f (by simp only [List.length_drop]; omega)]

/-- every text has a scan: each step answers, with a token that is not empty and lies inside the text -/
theorem Scan.total (simd : Bool) : ∀ (n : Nat) (st : LexState) (inp : Bytes), inp.length < n → ∃ toks, Scan simd st inp toks
  | 0, _, _, h => by omega
  | n + 1, st, inp, h => by
    have hok := lexOne_ok simd st inp
    match hone : lexOne simd st inp with
    | none => exact absurd hone hok.1
    | some none => exact ⟨_, .eof hone⟩
    | some (some (ws, e, k, st')) =>
      have hb := hok.2 ws e k st' hone
      obtain ⟨rest, hr⟩ := Scan.total simd n st' (inp.drop e) (by simp only [List.length_drop]; omega)
      exact ⟨_, .tok hone hb.1 hb.2 hr⟩

/-- **The scanner is total**: for every byte string (in particular every UTF-8 text) the model
    returns a token list: no sub-lexer runs out of fuel, no token is empty (no stalled loop), no
    slice is out of range. -/
theorem lexWith_total (simd : Bool) (inp : Bytes) : ∃ toks, lexWith simd inp = some toks :=
  (Scan.total simd _ LexState.init inp (Nat.lt_succ_self _)).imp fun _ h => h.fuel _ (Nat.lt_succ_self _)

/-- a successful run of the scanner is the scan of the text -/
theorem lexWith_scan {simd : Bool} {s : Bytes} {toks : List RawTok} (h : lexWith simd s = some toks) :
    Scan simd LexState.init s toks := by
  obtain ⟨t, ht⟩ := Scan.total simd _ LexState.init s (Nat.lt_succ_self _)
  cases (ht.fuel _ (Nat.lt_succ_self _)).symm.trans h
  exact ht

theorem lex_lossless_with (simd : Bool) (s : Bytes) (toks : List RawTok) (h : lexWith simd s = some toks) :
    flatText toks = s := (lexWith_scan h).lossless

/-- a token of the scan, given as blanks, content and rest -/
theorem Scan.cons {simd : Bool} {st st' : LexState} {g c rest : Bytes} {e : Nat} {kind : RawKind} {toks : List RawTok}
    (hone : lexOne simd st (g ++ c ++ rest) = some (some (g.length, e, kind, st'))) (he : e = g.length + c.length)
    (h : Scan simd st' rest toks) : Scan simd st (g ++ c ++ rest) ({ ws := g, content := c, kind := kind } :: toks) := by
  have hok := (lexOne_ok simd st _).2 _ _ _ _ hone
  have := Scan.tok hone hok.1 hok.2 (rest := toks)
  subst he
  rw [← List.length_append, List.drop_left, List.take_left, List.append_assoc, List.take_left, List.drop_left] at this
  rw [List.append_assoc]
  exact this h

theorem lex_total (inp : Bytes) : ∃ toks, lex inp = some toks := lexWith_total false inp

theorem lexOne_some (simd : Bool) (st : LexState) (inp : Bytes) (ws e : Nat) (k : RawKind) (st' : LexState)
    (h : lexOne simd st inp = some (some (ws, e, k, st'))) :
    ws = countLeadingWs inp ∧ k ≠ .rEof := by
  obtain ⟨_, _, _, _, _, hk, _, rfl, _, rfl, _⟩ := lexOne_inv h
  exact ⟨rfl, hk.ne_eof⟩

theorem lexOne_none (simd : Bool) (st : LexState) (inp : Bytes)
    (h : lexOne simd st inp = some none) : inp.drop (countLeadingWs inp) = [] := by
  rcases lexOne_spec simd st inp with ⟨hd, _⟩ | ⟨b, r, o, _, _, _, _, h1⟩
  · exact hd
  · rw [h1] at h; cases h

structure TokOk (t : RawTok) : Prop where
  kind_ne : t.kind ≠ .rEof
  ws_gap : Gap t.ws
  nonblank : NonBlankStart t.content

structure EofOk (t : RawTok) : Prop where
  kind_eq : t.kind = .rEof
  content_nil : t.content = []
  ws_gap : Gap t.ws

theorem Scan.shape {simd : Bool} {st : LexState} {inp : Bytes} {toks : List RawTok}
    (h : Scan simd st inp toks) : ∃ pre e, toks = pre ++ [e] ∧ EofOk e ∧ ∀ t ∈ pre, TokOk t := by
  induction h with
  | @eof st inp hone =>
    refine ⟨[], _, rfl, ⟨rfl, rfl, ?_⟩, fun _ ht => absurd ht List.not_mem_nil⟩
    have := List.take_append_drop (countLeadingWs inp) inp
    rw [lexOne_none _ _ _ hone, List.append_nil] at this
    exact this ▸ Gap.leadingWs inp
  | @tok st st' inp ws e kind rest hone hlt hle _ ih =>
    obtain ⟨rfl, hk⟩ := lexOne_some _ _ _ _ _ _ _ hone
    obtain ⟨pre, e', rfl, heof, hall⟩ := ih
    refine ⟨_ :: pre, e', rfl, heof, ?_⟩
    intro t ht
    rcases List.mem_cons.1 ht with rfl | ht
    · refine ⟨hk, Gap.leadingWs inp, ?_⟩
      show NonBlankStart ((inp.take e).drop (countLeadingWs inp))
      rw [List.drop_take]
      rcases drop_countLeadingWs inp with hnil | hnb
      · have := congrArg List.length hnil
        simp only [List.length_drop, List.length_nil] at this
        omega
      · exact hnb.take _ (by omega)
    · exact hall t ht

theorem lexWith_shape {simd : Bool} {s : Bytes} {toks : List RawTok} (h : lexWith simd s = some toks) :
    ∃ pre e, toks = pre ++ [e] ∧ EofOk e ∧ ∀ t ∈ pre, TokOk t :=
  (lexWith_scan h).shape

/-- the leading whitespace of every scanned token is absorbed by blank-stripping whatever follows it -/
theorem lex_ws_gap (s : Bytes) (toks : List RawTok) (h : lex s = some toks) : ∀ t ∈ toks, Gap t.ws := by
  obtain ⟨pre, e, hp, he, hall⟩ := lexWith_shape h
  intro t ht
  rw [hp] at ht
  rcases List.mem_append.1 ht with h1 | h1
  · exact (hall t h1).ws_gap
  · simp at h1; subst h1; exact he.ws_gap

end Pasfmt
