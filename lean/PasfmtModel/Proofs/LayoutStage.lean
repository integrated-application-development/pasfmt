/-
  Layout independence of the wrapper stage with the search inside (`wrapStageFull`), for C06.

  Two token states are `RelW F W`-related when they have the same kinds, texts, ignored flags and (outside the free
  positions `F`) spaces, the same
  blank-line class of the line-break counter (`nlc`: what `reconstruct_solution` keeps of it at the first token
  of a line), identical ignored tokens, and identical counters at the positions in `W` ("already written").  The
  search reads a token only through its view (type, length of the last line of its text; spaces and text lengths at
  set-up), so related states get the same
  solutions; applying a solution overwrites the counters of its tokens, so they join `W`.  Once every token is
  written, the rest of the stage and the reconstructor are functions of what the relation keeps.
-/
import PasfmtModel.Model.LayoutCheck
import PasfmtModel.Proofs.WrapStageProps
import PasfmtModel.Proofs.SpacingForm

namespace Pasfmt

/-- equal counters, up to the spaces of a free token -/
structure FmtEq (fr : Prop) (f f' : FmtData) : Prop where
  ign : f.ignored = f'.ignored
  nl : f.nl = f'.nl
  ind : f.ind = f'.ind
  cont : f.cont = f'.cont
  sp : fr ∨ f.sp = f'.sp

/-- same token up to what the layout of the input decides: leading whitespace, indentation counters, and the
    line-break counter within its class -/
structure LR (fr : Prop) (t t' : FTok) : Prop where
  kind : t.tok.kind = t'.tok.kind
  content : t.tok.content = t'.tok.content
  ign : t.fmt.ignored = t'.fmt.ignored
  /-- `fr` ("free"): the token follows a line comment that shares its line with code and can keep its spacing -
      `TokenSpacing` leaves it the input's value, which the wrapper never reads and zeroes in the end -/
  sp : fr ∨ t.fmt.sp = t'.fmt.sp
  nl : nlc t.fmt.nl = nlc t'.fmt.nl
  ignEq : t.fmt.ignored = true → t.tok = t'.tok ∧ FmtEq fr t.fmt t'.fmt

theorem FmtEq.eq {f f' : FmtData} (h : FmtEq False f f') : f = f' := by
  cases f; cases f'
  obtain ⟨a, b, c, d, e⟩ := h
  rcases e with e | e
  · exact absurd e id
  · simp_all

def RelW (F W : Nat → Prop) (ft ft' : FT) : Prop :=
  ft.length = ft'.length ∧
  ∀ j t t', ft[j]? = some t → ft'[j]? = some t' → LR (F j) t t' ∧ (W j → FmtEq (F j) t.fmt t'.fmt)

/-- `RelW` at one position; `w`: the position is written -/
def LRW (F : Nat → Prop) (w : Prop) (j : Nat) (t t' : FTok) : Prop := LR (F j) t t' ∧ (w → FmtEq (F j) t.fmt t'.fmt)

theorem relW_iff {F W : Nat → Prop} {ft ft' : FT} : RelW F W ft ft' ↔ Pw (fun j => LRW F (W j) j) ft ft' := Iff.rfl

theorem LRW.sview {F : Nat → Prop} (w : Prop) (j : Nat) (t t' : FTok) (h : LRW F w j t t') : t.sview = t'.sview := by
  simp only [FTok.sview, h.1.kind, h.1.content]

/-- `F` marks only positions the masked `token_lengths` do not read; `freeAtB ft` is such an `F`
    (`freeOk_freeAtB`, Proofs/LayoutFull.lean) -/
def FreeOk (F : Nat → Prop) (ft : FT) : Prop :=
  ∀ j t, ft[j]? = some t → F j →
    j ≥ 1 ∧ (ft[j - 1]?).map (·.tok.kind) = some (.tComment .cInlineLine) ∧ keepsCur t.tok.kind = true

/-- `token_lengths` position by position: the spaces are masked out exactly at the free positions (`freeAtB`) -/
theorem tokenLengthsGo_getElem? (prev : Option Kind) (ft : FT) (j : Nat) :
    (tokenLengthsGo prev ft)[j]? = (ft[j]?).map fun t =>
      { spacesBefore := if ((if j = 0 then prev else (ft[j - 1]?).map (·.tok.kind)) == some (.tComment .cInlineLine) &&
          keepsCur t.tok.kind) = true then 0 else t.fmt.sp, content := t.tok.content.length } := by
  induction ft generalizing prev j with
  | nil => rfl
  | cons t r ih =>
    cases j with
    | zero => rfl
    | succ j =>
      rw [tokenLengthsGo, List.getElem?_cons_succ, List.getElem?_cons_succ, ih]
      cases j <;> rfl

theorem tokenLengths_getElem? (ft : FT) (j : Nat) :
    (tokenLengthsGo none ft)[j]? = (ft[j]?).map fun t =>
      { spacesBefore := if freeAtB ft j = true then 0 else t.fmt.sp, content := t.tok.content.length } := by
  rw [tokenLengthsGo_getElem?]
  cases ht : ft[j]? with
  | none => rfl
  | some t =>
    unfold freeAtB
    rw [ht]
    cases j <;> simp

theorem searchInit_congr {F W : Nat → Prop} {ft ft' : FT} (h : RelW F W ft ft') (hF : FreeOk F ft) (cfg : Config)
    (lines : List Line) : searchInit cfg lines ft = searchInit cfg lines ft' := by
  have hk := (relW_iff.1 h).map_eq (fun t => t.tok.kind) (fun _ _ _ lr => lr.1.kind)
  have hl : tokenLengthsGo none ft = tokenLengthsGo none ft' := by
    apply List.ext_getElem?
    intro j
    rw [tokenLengths_getElem?, tokenLengths_getElem?, ← freeAtB_congr ft ft' hk j]
    cases hj : ft[j]? with
    | none => rw [(relW_iff.1 h).get_none hj]
    | some t =>
      obtain ⟨t', ht', lr, _⟩ := (relW_iff.1 h).get hj
      rw [ht', Option.map_some, Option.map_some, ← lr.content]
      rcases lr.sp with hf | he
      · obtain ⟨h0, h1, h2⟩ := hF j t hj hf
        rw [freeAtB_iff.2 ⟨h0, h1, t, hj, h2⟩, if_pos rfl, if_pos rfl]
      · rw [he]
  unfold searchInit
  rw [hk, hl]

theorem lrw_dec (F : Nat → Prop) : DecLift (LRW F) := by
  refine ⟨fun {_ j t t'} first ind cont d ⟨lr, _⟩ => ?_⟩
  have hfmt : FmtEq (F j) (applyDec t.fmt first ind cont d) (applyDec t'.fmt first ind cont d) := by
    rw [applyDec_eq, applyDec_eq]
    exact ⟨lr.ign, by simp only [lr.nl], rfl, rfl, lr.sp⟩
  refine ⟨⟨lr.kind, lr.content, hfmt.ign, hfmt.sp, congrArg nlc hfmt.nl, fun hi => ?_⟩, fun _ => hfmt⟩
  have hi0 : t.fmt.ignored = true := by rw [applyDec_ignored] at hi; exact hi
  exact ⟨(lr.ignEq hi0).1, hfmt⟩

theorem applyChildren_relW (lines : List Line) (F W : Nat → Prop) (ft ft' ft1 : FT) (ks : List (Nat × Sol))
    (h : RelW F W ft ft') (h1 : applyChildren lines ft ks = some ft1) :
    ∃ ft1', applyChildren lines ft' ks = some ft1' ∧ RelW F (fun j => W j ∨ j ∈ childrenTokens lines ks) ft1 ft1' :=
  let ⟨ft1', e, _, r⟩ := applyChildren_lift (lrw_dec F) lines W ft ft' ft1 ks h h1
  ⟨ft1', e, r⟩

abbrev RelT (F : Nat → Prop) (ft ft' : FT) : Prop := RelW F (fun _ => True) ft ft'

theorem setContent_LR {fr : Prop} {t t' : FTok} (lr : LR fr t t') (c : Bytes) : LR fr (t.setContent c) (t'.setContent c) := by
  rcases setContent_cases t c with ⟨hi, e⟩ | ⟨hi, e⟩ <;> rcases setContent_cases t' c with ⟨hi', e'⟩ | ⟨hi', e'⟩ <;>
    rw [e, e']
  · exact lr
  · rw [← lr.ign, hi] at hi'; cases hi'
  · rw [← lr.ign, hi] at hi'; cases hi'
  · exact ⟨lr.kind, rfl, lr.ign, lr.sp, lr.nl, fun h => by rw [hi] at h; cases h⟩

/-- a string pass reads of a written token only what the relation keeps, and `setContent_LR` -/
theorem lrw_mls (S : Settings) (F : Nat → Prop) (C : Prop) (j : Nat) (t t' : FTok) (r : LRW F True j t t') :
    LRW F True j (mlsUpd S t) (mlsUpd S t') ∧ (C → (mlsNew S t').isSome = (mlsNew S t).isSome) := by
  obtain ⟨lr, hf⟩ := r
  have hf := hf trivial
  have e : mlsNew S t' = mlsNew S t := by
    unfold mlsNew; rw [lr.kind, lr.content, hf.ign, hf.ind, hf.cont]
  refine ⟨?_, fun _ => by rw [e]⟩
  unfold mlsUpd
  rw [e]
  cases mlsNew S t with
  | none => exact ⟨lr, fun _ => hf⟩
  | some c => exact ⟨setContent_LR lr c, fun _ => by rw [setContent_fmt, setContent_fmt]; exact hf⟩

/-- the removal of the spaces at line starts: a free token that starts a line loses its spaces in both states, so
    when every free token starts a line the two results agree in every counter -/
theorem zero_relT (F : Nat → Prop) (ft ft' : FT) (h : RelT F ft ft')
    (hfree : ∀ j t, ft[j]? = some t → F j → t.fmt.nl > 0) :
    RelT (fun _ => False) (zeroLineStartSpaces ft) (zeroLineStartSpaces ft') := by
  refine Pw.map (relW_iff.1 h) zeroTok zeroTok fun j t t' hj ⟨lr, hf⟩ => ?_
  have hf := hf trivial
  rw [zeroTok_eq, zeroTok_eq, ← hf.nl]
  have hz : FmtEq False { t.fmt with sp := if t.fmt.nl > 0 then 0 else t.fmt.sp }
      { t'.fmt with sp := if t.fmt.nl > 0 then 0 else t'.fmt.sp } := by
    refine ⟨hf.ign, hf.nl, hf.ind, hf.cont, Or.inr ?_⟩
    dsimp only
    split
    · rfl
    · exact hf.sp.resolve_left fun hfr => ‹¬ t.fmt.nl > 0› (hfree j t hj hfr)
  exact ⟨⟨lr.kind, lr.content, lr.ign, hz.sp, lr.nl, fun hi => ⟨(lr.ignEq hi).1, hz⟩⟩, fun _ => hz⟩

theorem reconGo_relT (S : Settings) (mb : Bool) (ft ft' : FT) (h : RelT (fun _ => False) ft ft') :
    reconGo S mb ft = reconGo S mb ft' :=
  (⟨rfl, fun ha hb => by rw [ha, hb]⟩ : Concat Eq).recon ⟨rfl, rfl, rfl, rfl⟩ h.1 (fun j t t' hj hj' => by
    obtain ⟨lr, hf⟩ := h.2 j t t' hj hj'
    exact ⟨(hf trivial).eq.symm, lr.kind.symm, lr.content, fun hi => ⟨by rw [(lr.ignEq hi).1], rfl⟩⟩) mb

theorem wrapStageFull_layout (cfg : Config) (lines : List Line) (F : Nat → Prop) (W0 : Nat → Bool) (ft ft' ftz : FT)
    (sols : List (Nat × Nat × Sol))
    (h : RelW F (fun j => W0 j = true) ft ft') (hF : FreeOk F ft)
    (h1 : wrapStageFull cfg lines ft = some (ftz, sols))
    (hall : allWritten lines W0 ft.length sols = true)
    (hfree : ∀ j t, ftz[j]? = some t → F j → t.fmt.nl > 0) :
    ∃ ftz', wrapStageFull cfg lines ft' = some (ftz', sols) ∧ RelT (fun _ => False) ftz ftz' := by
  -- the removal of spaces keeps the line-break counters, so `hfree` speaks about the state before it too
  have hz : ∀ (x : FT), (∀ j u, (zeroLineStartSpaces x)[j]? = some u → F j → u.fmt.nl > 0) →
      ∀ j t, x[j]? = some t → F j → t.fmt.nl > 0 :=
    fun x hu j t hx hf => zeroTok_nl t ▸ hu j _ (zero_getElem? hx) hf
  -- after the first pass every token is written
  obtain ⟨fta, sta, solsa, fta', ha, ha', rT, hr⟩ := wrapStageFull_all_written (lrw_dec F) LRW.sview h h1 hall
  rw [searchInit_congr h hF] at ha'
  rcases hr with ⟨hm, rfl, rfl⟩ | ⟨hm, ftb, toReflow, ftc, stc, ftd, hb, hc, hd, rfl⟩
  · exact ⟨_, wrapStageFull_eq_some.2 ⟨fta', sta, solsa, ha', Or.inl ⟨hm, rfl, rfl⟩⟩,
      zero_relT F _ _ rT (hz fta hfree)⟩
  · obtain ⟨ftb', hb', _, rb⟩ := mlsPass1_lift (lrw_mls cfg.settings F True) trivial lines _ fta fta' ftb [] toReflow rT hb
    obtain ⟨ftc', _, hc', _, _, _, rc⟩ :=
      applyLinesS_lift (lrw_dec F) LRW.sview 1 lines _ _ stc (fun _ => True) ftb ftb' ftc solsa sols rb hc
    obtain ⟨ftd', hd', _, rd⟩ := mlsPass2_lift (fun j t t' r => (lrw_mls cfg.settings F True j t t' r).1) lines ftc ftc' ftd
      (rc.imp fun j _ _ _ r => ⟨r.1, fun _ => r.2 (Or.inl trivial)⟩) hd
    exact ⟨_, wrapStageFull_eq_some.2 ⟨fta', sta, solsa, ha', Or.inr ⟨hm, ftb', toReflow, ftc', stc, ftd', hb', hc', hd', rfl⟩⟩,
      zero_relT F _ _ rd (hz ftd hfree)⟩

end Pasfmt
