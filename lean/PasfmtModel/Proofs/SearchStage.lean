/-
  The wrapper stage on single tokens, and the search as the stage sees it.  Applying solutions and the string
  passes keep token types (`kindAt`) and write only at the tokens of the applied solution (`*_untouched`), so the
  formatter state the search runs in (`stageOlf`) looks the same to it along the whole stage (`SameView`).  Hence an
  invariant of `format_line` holds of every solution the stage applies (`wrapStageFull_inv`), and what every applied
  solution establishes at a token holds at the end (`wrapStageFull_last_writer`).
-/
import PasfmtModel.Proofs.StageToken

namespace Pasfmt

theorem getElem!_of_getElem? {α : Type} [Inhabited α] (a : Array α) (i : Nat) (x : α) (h : a[i]? = some x) : a[i]! = x := by
  rw [getElem!_def, h]

theorem lines_getElem?_toA {O : Olf} {lines : List Line} (hO : O.lines = (lines.map Line.toA).toArray) {i : Nat}
    {l : Line} (hl : lines[i]? = some l) : O.lines[i]? = some l.toA := by
  rw [hO]; simp [hl]

theorem lines_getElem!_toA (O : Olf) (lines : List Line) (hO : O.lines = (lines.map Line.toA).toArray) (i : Nat)
    (l : Line) (hl : lines[i]? = some l) : O.lines[i]! = l.toA :=
  getElem!_of_getElem? _ _ _ (lines_getElem?_toA hO hl)

theorem toA_tokens (l : Line) (i : Nat) : l.toA.tokens[i]? = l.tokens[i]? :=
  List.getElem?_toArray

def kindAt (ft : FT) (j : Nat) : Option Kind := (ft[j]?).map (·.tok.kind)
def fmtAt (ft : FT) (j : Nat) : Option FmtData := (ft[j]?).map (·.fmt)

theorem kindAt_of_pw {Q : Nat → FTok → FTok → Prop} (hQ : ∀ j a b, Q j a b → b.tok.kind = a.tok.kind) {ft ft1 : FT}
    (h : Pw Q ft ft1) (j : Nat) : kindAt ft1 j = kindAt ft j := by
  unfold kindAt
  rw [← List.getElem?_map, ← List.getElem?_map, h.map_eq (·.tok.kind) fun j a b q => (hQ j a b q).symm]

theorem applyDecs_kindAt (lines : List Line) (ind cont : Nat) (toks : List Nat) (i : Nat) (ft ft1 : FT)
    (decs : List (Dec × List (Nat × Sol))) (h : applyDecs lines ind cont toks i ft decs = some ft1) (j : Nat) :
    kindAt ft1 j = kindAt ft j :=
  kindAt_of_pw (fun _ _ _ q => by rw [q.1]) (applyDecs_steps MlsPipe.fmtOnly_dec h) j

theorem applyChildren_kindAt (lines : List Line) (ft ft1 : FT) (ks : List (Nat × Sol))
    (h : applyChildren lines ft ks = some ft1) (j : Nat) : kindAt ft1 j = kindAt ft j :=
  kindAt_of_pw (fun _ _ _ q => by rw [q.1]) (applyChildren_steps MlsPipe.fmtOnly_dec h) j

/-- `w`: a solution has written the position since the reference state -/
theorem untouchedLift (ft0 : FT) : DecLift fun w => Since (fun _ t0 t => ¬ w → t = t0) ft0 :=
  DecLift.since (I := fun w _ t0 t => ¬ w → t = t0) (fun _ _ _ _ _ hw => absurd trivial hw) ft0

theorem untouched_of {ft ft1 : FT} {W : Nat → Prop} (h : Pw (fun j t0 t => ¬ (False ∨ W j) → t = t0) ft ft1) (j : Nat)
    (hj : ¬ W j) : ft1[j]? = ft[j]? := by
  cases h0 : ft[j]? with
  | none => exact h.get_none h0
  | some a =>
    obtain ⟨b, hb, e⟩ := h.get h0
    rw [hb, e fun w => w.elim id hj]

theorem applySol_untouched (lines : List Line) (ft ft1 : FT) (s : Sol) (li : Nat)
    (h : applySol lines ft s li = some ft1) (j : Nat) (hj : j ∉ solTokens lines s li) : ft1[j]? = ft[j]? :=
  untouched_of (since_run (fun r => applySol_lift (untouchedLift ft) lines (fun _ => False) ft ft ft1 s li r h)
    (Pw.refl (fun _ _ _ => rfl) ft)) j hj

theorem applyDecs_untouched (lines : List Line) (ind cont : Nat) (toks : List Nat) (i : Nat) (ft ft1 : FT)
    (decs : List (Dec × List (Nat × Sol))) (h : applyDecs lines ind cont toks i ft decs = some ft1)
    (j : Nat) (hj : j ∉ decsTokens lines toks i decs) : ft1[j]? = ft[j]? :=
  untouched_of (since_run (fun r => applyDecs_lift (untouchedLift ft) lines ind cont toks i (fun _ => False) ft ft ft1
    decs r h) (Pw.refl (fun _ _ _ => rfl) ft)) j hj

theorem applyChildren_untouched (lines : List Line) (ft ft1 : FT) (ks : List (Nat × Sol))
    (h : applyChildren lines ft ks = some ft1) (j : Nat) (hj : j ∉ childrenTokens lines ks) : ft1[j]? = ft[j]? :=
  untouched_of (since_run (fun r => applyChildren_lift (untouchedLift ft) lines (fun _ => False) ft ft ft1 ks r h)
    (Pw.refl (fun _ _ _ => rfl) ft)) j hj

theorem at_of_pw {ft ft1 : FT} (h : Pw (fun _ a b => b.tok.kind = a.tok.kind ∧ b.fmt = a.fmt) ft ft1) (j : Nat) :
    kindAt ft1 j = kindAt ft j ∧ fmtAt ft1 j = fmtAt ft j := by
  refine ⟨kindAt_of_pw (fun _ _ _ q => q.1) h j, ?_⟩
  unfold fmtAt
  rw [← List.getElem?_map, ← List.getElem?_map, h.map_eq (·.fmt) fun _ _ _ q => q.2.symm]

/-- a string pass keeps the type and the counters of every token -/
theorem mlsUpd_at (S : Settings) (t0 t : FTok) (q : t.tok.kind = t0.tok.kind ∧ t.fmt = t0.fmt) :
    (mlsUpd S t).tok.kind = t0.tok.kind ∧ (mlsUpd S t).fmt = t0.fmt :=
  ⟨(applyRule_kind (fun _ => mlsNew S t) t).trans q.1, (mlsUpd_fmt S t).trans q.2⟩

theorem mlsPass1_at (S : Settings) (lines : List Line) (ls : List (Line × Nat)) (ft ft1 : FT) (acc out : List Nat)
    (h : mlsPass1 S lines ls ft acc = some (ft1, out)) (j : Nat) :
    kindAt ft1 j = kindAt ft j ∧ fmtAt ft1 j = fmtAt ft j :=
  at_of_pw (mlsPass1_since (fun _ _ => ⟨rfl, rfl⟩) (fun _ => mlsUpd_at S) h) j

theorem mlsPass2_at (S : Settings) (ls : List Line) (ft ft1 : FT) (h : mlsPass2 S ls ft = some ft1) (j : Nat) :
    kindAt ft1 j = kindAt ft j ∧ fmtAt ft1 j = fmtAt ft j :=
  at_of_pw (mlsPass2_since (fun _ _ => ⟨rfl, rfl⟩) (fun _ => mlsUpd_at S) h) j

theorem applyLinesS_acc_sub (phase : Nat) (lines : List Line) (is : List Nat) (st st1 : SearchState) (ft ft1 : FT)
    (acc sols : List (Nat × Nat × Sol)) (h : applyLinesS phase lines is st ft acc = some (ft1, st1, sols)) :
    ∀ x ∈ acc, x ∈ sols := by
  obtain ⟨news, rfl, _⟩ := applyLinesS_sols h
  exact fun x hx => List.mem_append_left _ hx

theorem zero_fmtAt {R : FmtData → Prop} (hR : ∀ f : FmtData, R f → R { f with sp := 0 }) {ft : FT} {j : Nat}
    (h : ∃ f, fmtAt ft j = some f ∧ R f) :
    ∃ t, (zeroLineStartSpaces ft)[j]? = some t ∧ R t.fmt ∧ (t.fmt.nl > 0 → t.fmt.sp = 0) := by
  obtain ⟨f, hf, hg⟩ := h
  unfold fmtAt at hf
  cases hq : ft[j]? with
  | none => rw [hq] at hf; cases hf
  | some t =>
    rw [hq] at hf
    cases hf
    refine ⟨zeroTok t, zero_getElem? hq, ?_, zeroTok_no_spaces t⟩
    rw [zeroTok_eq]
    split
    · exact hR _ hg
    · exact hg

/-- two formatter states the search cannot tell apart but for the texts and lengths of the tokens -/
structure SameView (O O' : Olf) : Prop where
  lines : O'.lines = O.lines
  kinds : ∀ i, O'.getTokenType i = O.getTokenType i
  lineChildren : O'.lineChildren = O.lineChildren
  cfg : O'.cfg = O.cfg

theorem SameView.refl (O : Olf) : SameView O O := ⟨rfl, fun _ => rfl, rfl, rfl⟩
theorem SameView.symm {O O' : Olf} (h : SameView O O') : SameView O' O :=
  ⟨h.lines.symm, fun i => (h.kinds i).symm, h.lineChildren.symm, h.cfg.symm⟩
theorem SameView.trans {O O' O'' : Olf} (h : SameView O O') (h' : SameView O' O'') : SameView O O'' :=
  ⟨h'.lines.trans h.lines, fun i => (h'.kinds i).trans (h.kinds i), h'.lineChildren.trans h.lineChildren,
    h'.cfg.trans h.cfg⟩

/-- the formatter state `format_line` runs in: the state of the stage and the live tokens -/
def stageOlf (st : SearchState) (ft : FT) : Olf :=
  { cfg := st.cfg, iterationMax := 20000, formattedTokens := (ft.map FTok.sview).toArray,
    lines := st.lines, lineChildren := st.lineChildren, tokenTypes := st.tokenTypes, tokenLengths := st.tokenLengths }

theorem getTokenType_eq (O : Olf) (i : Nat) : O.getTokenType i = (O.formattedTokens[i]?).map (·.kind) := by
  unfold Olf.getTokenType; cases O.formattedTokens[i]? <;> rfl

theorem stageOlf_getTokenType (st : SearchState) (ft : FT) (i : Nat) : (stageOlf st ft).getTokenType i = kindAt ft i := by
  rw [getTokenType_eq]
  unfold kindAt stageOlf
  simp only [List.getElem?_toArray, List.getElem?_map, Option.map_map]
  rfl

theorem stageOlf_sameView (st st' : SearchState) (ft ft' : FT) (hl : st'.lines = st.lines)
    (hlc : st'.lineChildren = st.lineChildren) (hcfg : st'.cfg = st.cfg)
    (hk : ∀ j, kindAt ft' j = kindAt ft j) : SameView (stageOlf st ft) (stageOlf st' ft') :=
  ⟨hl, fun i => by rw [stageOlf_getTokenType, stageOlf_getTokenType, hk], hlc, hcfg⟩

/-- the search of the stage is `format_line` in `stageOlf`, its solution converted for `applySol`; rewrite with this
    before comparing: left to the unifier, the pair pattern of `searchSolveV` makes it evaluate `format_line` -/
theorem searchSolve_eq (st : SearchState) (ft : FT) (i : Nat) : searchSolve st ft i =
    (((stageOlf st ft).formatLine st.childLineCache i).1.map (·.toSol (st.lines.size + 1)),
      { st with childLineCache := ((stageOlf st ft).formatLine st.childLineCache i).2 }) := by
  unfold searchSolve searchSolveV stageOlf
  dsimp only

theorem searchSolve_eq_some {st : SearchState} {ft : FT} {i : Nat} {s : Sol} :
    (searchSolve st ft i).1 = some s ↔ ∃ sol, ((stageOlf st ft).formatLine st.childLineCache i).1 = some sol ∧
      sol.toSol (st.lines.size + 1) = s := by
  rw [searchSolve_eq]
  exact Option.map_eq_some_iff

/-- an applied solution `(phase, line, solution)` is the image of a search solution satisfying `T` for its line -/
def FromSearch (T : Nat → FormattingSolution → Prop) (fuel : Nat) (x : Nat × Nat × Sol) : Prop :=
  ∃ sol : FormattingSolution, x.2.2 = sol.toSol fuel ∧ T x.2.1 sol

section Stage
variable (C : Olf → ChildLineCache → Prop) (T : Olf → Nat → FormattingSolution → Prop)
  (hC : ∀ {O O' : Olf} {c : ChildLineCache}, SameView O O' → C O c → C O' c)
  (hT : ∀ {O O' : Olf} {li : Nat} {sol : FormattingSolution}, SameView O O' → T O li sol → T O' li sol)
  (hfl : ∀ O cache i, C O cache →
    C O (O.formatLine cache i).2 ∧ ∀ sol, (O.formatLine cache i).1 = some sol → T O i sol)
include hC hT hfl

/-- the stage keeps "the search sees what it saw at the start" and `C` of the cache, and every solution the search
    returns is then the image of a search solution satisfying `T` -/
theorem stageInv_formatLine (lines : List Line) (O0 : Olf) :
    StageInv lines (fun st ft => SameView O0 (stageOlf st ft) ∧ C O0 st.childLineCache)
      (fun i s => ∃ sol : FormattingSolution, s = sol.toSol (O0.lines.size + 1) ∧ T O0 i sol) where
  solve {st ft} i := fun ⟨hv, hc⟩ => by
    have hf := hfl (stageOlf st ft) st.childLineCache i (hC hv hc)
    rw [searchSolve_eq]
    refine ⟨⟨hv, hC hv.symm hf.1⟩, fun s hs => ?_⟩
    obtain ⟨sol, hsol, rfl⟩ := Option.map_eq_some_iff.1 hs
    exact ⟨sol, by rw [← hv.lines]; rfl, hT hv.symm (hf.2 sol hsol)⟩
  kinds := fun ⟨hv, hc⟩ r =>
    ⟨hv.trans (stageOlf_sameView _ _ _ _ rfl rfl rfl (kindAt_of_pw (fun _ _ _ q => q) r)), hc⟩

/-- for `C` and `T` insensitive to `SameView` and kept by `format_line`: every solution the stage applies - first
    wrapping and re-wrapping - is the image of a search solution satisfying `T` -/
theorem wrapStageFull_inv (hempty : ∀ O, C O {}) (cfg : Config) (lines : List Line) (ft ftz : FT)
    (sols : List (Nat × Nat × Sol)) (h : wrapStageFull cfg lines ft = some (ftz, sols)) :
    ∀ x ∈ sols, FromSearch (T (stageOlf (searchInit cfg lines ft) ft))
      ((stageOlf (searchInit cfg lines ft) ft).lines.size + 1) x :=
  (stageInv_formatLine C T hC hT hfl lines _).wrapStageFull ⟨SameView.refl _, hempty _⟩ h

end Stage

/-- `x = (phase, line, solution)` -/
def Writes (lines : List Line) (x : Nat × Nat × Sol) (j : Nat) : Prop := j ∈ solTokens lines x.2.2 x.2.1

theorem applyLinesS_last_writer (R : FmtData → Prop) (phase : Nat) (lines : List Line) (is : List Nat)
    (st st1 : SearchState) (ft ft1 : FT) (acc sols : List (Nat × Nat × Sol)) (j : Nat)
    (h : applyLinesS phase lines is st ft acc = some (ft1, st1, sols))
    (hW : ∀ x ∈ sols, Writes lines x j → ∀ fa fb, applySol lines fa x.2.2 x.2.1 = some fb →
      ∃ f, fmtAt fb j = some f ∧ R f)
    (hP : (∃ x ∈ acc, Writes lines x j) → ∃ f, fmtAt ft j = some f ∧ R f) :
    (∃ x ∈ sols, Writes lines x j) → ∃ f, fmtAt ft1 j = some f ∧ R f := by
  fun_induction applyLinesS phase lines is st ft acc with
  | case1 st ft acc => cases h; exact hP
  | case2 i' rest st ft acc st' _ ih => exact ih h hP
  | case3 i' rest st ft acc s' st' _ ha => cases h
  | case4 i' rest st ft acc s' st' _ ft' ha ih =>
    have hmem : (phase, i', s') ∈ sols := applyLinesS_acc_sub _ _ _ _ _ _ _ _ _ h _ (by simp)
    refine ih h ?_
    intro ⟨x, hx, hxw⟩
    by_cases hw : Writes lines (phase, i', s') j
    · exact hW _ hmem hw ft ft' ha
    · have hun : ft'[j]? = ft[j]? := applySol_untouched lines ft ft' s' i' ha j hw
      simp only [List.mem_append, List.mem_singleton] at hx
      rcases hx with hx | rfl
      · obtain ⟨f, hf, hg⟩ := hP ⟨x, hx, hxw⟩
        exact ⟨f, by unfold fmtAt at hf ⊢; rw [hun]; exact hf, hg⟩
      · exact absurd hxw hw

theorem wrapStageFull_last_writer (R : FmtData → Prop) (hR : ∀ f : FmtData, R f → R { f with sp := 0 })
    (cfg : Config) (lines : List Line) (ft ftz : FT) (sols : List (Nat × Nat × Sol)) (j : Nat)
    (h : wrapStageFull cfg lines ft = some (ftz, sols))
    (hW : ∀ x ∈ sols, Writes lines x j → ∀ fa fb, applySol lines fa x.2.2 x.2.1 = some fb →
      ∃ f, fmtAt fb j = some f ∧ R f)
    (hsome : ∃ x ∈ sols, Writes lines x j) :
    ∃ f, fmtAt ftz j = some f ∧ R f := by
  have fin : ∀ ft4 : FT, (∃ f, fmtAt ft4 j = some f ∧ R f) → ∃ f, fmtAt (zeroLineStartSpaces ft4) j = some f ∧ R f := by
    intro ft4 h4
    obtain ⟨t, e, hr, _⟩ := zero_fmtAt hR h4
    exact ⟨t.fmt, by unfold fmtAt; rw [e]; rfl, hr⟩
  obtain ⟨ft1, st1, sols1, h1, ⟨_, rfl, rfl⟩ | ⟨_, ft2, toReflow, ft3, st3, ft4, h2, h3, h4, rfl⟩⟩ :=
    wrapStageFull_eq_some.1 h
  · exact fin _ (applyLinesS_last_writer R 0 lines _ _ _ _ _ _ _ j h1 hW (by simp) hsome)
  · have hsub := applyLinesS_acc_sub _ _ _ _ _ _ _ _ _ h3
    have c1 := applyLinesS_last_writer R 0 lines _ _ _ _ _ _ _ j h1 (fun x hx => hW x (hsub x hx)) (by simp)
    obtain ⟨_, f2⟩ := mlsPass1_at _ _ _ _ _ _ _ h2 j
    have c3 := applyLinesS_last_writer R 1 lines _ _ _ _ _ _ _ j h3 hW (by rw [f2]; exact c1)
    obtain ⟨_, f4⟩ := mlsPass2_at _ _ _ _ h4 j
    exact fin _ (by rw [f4]; exact c3 hsome)

end Pasfmt
