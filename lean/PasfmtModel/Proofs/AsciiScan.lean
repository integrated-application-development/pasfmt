/-
  Byte classes, and the scans that pass ASCII bytes only (the number scanners).  The classes of `Model/Lexer.lean`
  are unions of intervals; what is needed of them (plain-term readings, ASCII, disjointness) stands first.
  `AsciiUpTo l n`: the first `n` bytes of `l` exist and are ASCII.  For such a scan both the length bound and the fact
  that it stops at a character boundary follow from this one statement, and it composes along the scanners' offset
  arithmetic.  `fracLenF`/`expLenF` name the two optional parts of `dec_number_literal`, with their equations.
-/
import PasfmtModel.Proofs.ScanLemmas
import PasfmtModel.Model.Lexer

namespace Pasfmt

/-! ### byte classes

  The classes are unions of intervals of byte values: a fact about them is arithmetic on `toNat`. -/

/-- a byte of an assembler label: ASCII letter, digit, `_` or `@` (no non-ASCII bytes) -/
def isAsmLabelByte (b : UInt8) : Bool := isAlnum b || b == 0x5F || b == 0x40

theorem isDecimalByte_iff (b : UInt8) : isDecimalByte b = true ↔ (0x30 ≤ b ∧ b ≤ 0x39) ∨ b = 0x5F := by
  simp [isDecimalByte, isDigit, or_comm]

theorem isHexByte_iff (b : UInt8) : isHexByte b = true ↔
    (0x30 ≤ b ∧ b ≤ 0x39) ∨ (0x61 ≤ b ∧ b ≤ 0x66) ∨ (0x41 ≤ b ∧ b ≤ 0x46) ∨ b = 0x5F := by
  simp only [isHexByte, isDigit, Bool.or_eq_true, Bool.and_eq_true, beq_iff_eq, decide_eq_true_eq,
    UInt8.le_iff_toNat_le, ← UInt8.toNat_inj, UInt8.toNat_ofNat]
  omega

theorem isBinaryByte_iff (b : UInt8) : isBinaryByte b = true ↔ b = 0x30 ∨ b = 0x31 ∨ b = 0x5F := by
  simp only [isBinaryByte, Bool.or_eq_true, beq_iff_eq, ← UInt8.toNat_inj, UInt8.toNat_ofNat]
  omega

theorem isDirectiveNameByte_iff (b : UInt8) : isDirectiveNameByte b = true ↔
    (0x41 ≤ b ∧ b ≤ 0x5A) ∨ (0x61 ≤ b ∧ b ≤ 0x7A) ∨ (0x30 ≤ b ∧ b ≤ 0x39) ∨ b = 0x5F := by
  simp [isDirectiveNameByte, isAlnum, isAlpha, isUpper, isLower, isDigit, or_assoc]

theorem isAsmLabelByte_iff (b : UInt8) : isAsmLabelByte b = true ↔
    (0x41 ≤ b ∧ b ≤ 0x5A) ∨ (0x61 ≤ b ∧ b ≤ 0x7A) ∨ (0x30 ≤ b ∧ b ≤ 0x39) ∨ b = 0x5F ∨ b = 0x40 := by
  simp [isAsmLabelByte, isAlnum, isAlpha, isUpper, isLower, isDigit, or_assoc]

theorem digitClass_ascii (b : UInt8) :
    (isDecimalByte b = true → b < 0x80) ∧ (isHexByte b = true → b < 0x80) ∧
    (isBinaryByte b = true → b < 0x80) ∧ (isDigit b = true → b < 0x80) ∧ (isAsmLabelByte b = true → b < 0x80) := by
  simp only [isDecimalByte, isHexByte, isBinaryByte, isAsmLabelByte, isAlnum, isAlpha, isUpper, isLower, isDigit,
    Bool.or_eq_true, Bool.and_eq_true, beq_iff_eq, decide_eq_true_eq, UInt8.le_iff_toNat_le, UInt8.lt_iff_toNat_lt,
    ← UInt8.toNat_inj, UInt8.toNat_ofNat]
  omega

theorem isDecimalByte_ascii {b : UInt8} (h : isDecimalByte b = true) : b < 0x80 := (digitClass_ascii b).1 h
theorem isHexByte_ascii {b : UInt8} (h : isHexByte b = true) : b < 0x80 := (digitClass_ascii b).2.1 h
theorem isBinaryByte_ascii {b : UInt8} (h : isBinaryByte b = true) : b < 0x80 := (digitClass_ascii b).2.2.1 h
theorem isDigit_ascii {b : UInt8} (h : isDigit b = true) : b < 0x80 := (digitClass_ascii b).2.2.2.1 h
theorem isAsmLabelByte_ascii {b : UInt8} (h : isAsmLabelByte b = true) : b < 0x80 := (digitClass_ascii b).2.2.2.2 h

/-- `$`, `%`, digits, letters with `_`, and non-ASCII bytes are pairwise disjoint -/
theorem byteClass_disjoint (c : UInt8) :
    (isDigit c = true → (c == 0x24) = false ∧ (c == 0x25) = false ∧ isAlpha c = false) ∧
    (isAlpha c = true ∨ c = 0x5F → (c == 0x24) = false ∧ (c == 0x25) = false ∧ isDigit c = false) ∧
    (c ≥ 0x80 → (c == 0x24) = false ∧ (c == 0x25) = false ∧ isDigit c = false ∧ isAlpha c = false ∧
      (c == 0x5F) = false) := by
  simp only [isDigit, isAlpha, isUpper, isLower, Bool.or_eq_true, Bool.and_eq_true, Bool.and_eq_false_iff,
    Bool.or_eq_false_iff, beq_eq_false_iff_ne, ne_eq, decide_eq_true_eq, decide_eq_false_iff_not, ge_iff_le,
    UInt8.le_iff_toNat_le, ← UInt8.toNat_inj, UInt8.toNat_ofNat]
  omega

theorem isDigit_decimal (d : UInt8) (h : isDigit d = true) : isDecimalByte d = true := by
  simp [isDecimalByte, h]

theorem isDigit_ne (d : UInt8) (h : isDigit d = true) : d ≠ 0x5F ∧ d ≠ 0x2B ∧ d ≠ 0x2D := by
  refine ⟨?_, ?_, ?_⟩ <;> (rintro rfl; revert h; decide)

theorem decimal_not_digit (d : UInt8) (h : isDecimalByte d = true) (hne : d ≠ 0x5F) : isDigit d = true := by
  simpa [isDecimalByte, hne] using h

/-! ### scans that pass ASCII bytes only -/

def AsciiAt (l : Bytes) (i : Nat) : Prop := ∃ a, l[i]? = some a ∧ a < 0x80

theorem asciiAt_drop {l : Bytes} {k i : Nat} (h : AsciiAt (l.drop k) i) : AsciiAt l (k + i) := by
  obtain ⟨a, ha, hlt⟩ := h
  exact ⟨a, by simpa [List.getElem?_drop] using ha, hlt⟩

def AsciiUpTo (l : Bytes) (n : Nat) : Prop := ∀ i, i < n → AsciiAt l i

theorem AsciiUpTo.zero (l : Bytes) : AsciiUpTo l 0 := fun _ h => by omega

theorem AsciiUpTo.le {l : Bytes} {n : Nat} (h : AsciiUpTo l n) : n ≤ l.length := by
  cases n with
  | zero => omega
  | succ m =>
    obtain ⟨a, ha, _⟩ := h m (by omega)
    have := (List.getElem?_eq_some_iff.1 ha).1
    omega

theorem AsciiUpTo.seq {l : Bytes} {n m : Nat} (h1 : AsciiUpTo l n) (h2 : AsciiUpTo (l.drop n) m) :
    AsciiUpTo l (n + m) := by
  intro i hi
  by_cases hlt : i < n
  · exact h1 i hlt
  · have := asciiAt_drop (h2 (i - n) (by omega))
    have e : n + (i - n) = i := by omega
    rwa [e] at this

theorem AsciiUpTo.cons {b : UInt8} {r : Bytes} {m : Nat} (hb : b < 0x80) (h : AsciiUpTo r m) :
    AsciiUpTo (b :: r) (1 + m) := by
  intro i hi
  cases i with
  | zero => exact ⟨b, by simp, hb⟩
  | succ j =>
    obtain ⟨a, ha, hlt⟩ := h j (by omega)
    exact ⟨a, by simpa using ha, hlt⟩

theorem AsciiUpTo.mono {l : Bytes} {n m : Nat} (h : AsciiUpTo l n) (hm : m ≤ n) : AsciiUpTo l m :=
  fun i hi => h i (by omega)

theorem asciiUpTo_countWhile (p : UInt8 → Bool) (hp : ∀ x, p x = true → x < 0x80) (l : Bytes) :
    AsciiUpTo l (countWhile p l) := by
  intro i hi
  have hlen := countWhile_le p l
  have hil : i < l.length := by omega
  refine ⟨l[i], by simp [hil], hp _ ?_⟩
  exact countWhile_all p l i hi l[i] (by simp [hil])

theorem countDecimal_ascii (l : Bytes) : AsciiUpTo l (countDecimal l) :=
  asciiUpTo_countWhile _ (fun _ => isDecimalByte_ascii) l

theorem countHex_ascii (l : Bytes) : AsciiUpTo l (countHex l) :=
  asciiUpTo_countWhile _ (fun _ => isHexByte_ascii) l

theorem countBinary_ascii (l : Bytes) : AsciiUpTo l (countBinary l) :=
  asciiUpTo_countWhile _ (fun _ => isBinaryByte_ascii) l

theorem countFullDecimal_cons_ne (b : UInt8) (t : Bytes) (hb : b ≠ 0x5F) :
    countFullDecimal (b :: t) = countDecimal (b :: t) := by
  unfold countFullDecimal
  split
  · rename_i heq; simp only [List.cons.injEq] at heq; exact absurd heq.1 hb
  · rfl

theorem countFullDecimal_ascii (l : Bytes) : AsciiUpTo l (countFullDecimal l) := by
  unfold countFullDecimal
  split
  · exact AsciiUpTo.zero _
  · exact countDecimal_ascii l

/-- the fractional part of `dec_number_literal` -/
def fracLenF (r1 : Bytes) : Nat :=
  match r1 with
  | 0x2E :: r2 =>
    let f := countFullDecimal r2
    if f > 0 then 1 + f else 0
  | _ => 0

/-- the exponent part of `dec_number_literal` -/
def expLenF (r3 : Bytes) : Nat :=
  match r3 with
  | b :: r4 =>
    if b == 0x65 || b == 0x45 then
      match r4 with
      | s :: r5 =>
        if s == 0x2B || s == 0x2D then 2 + countFullDecimal r5 else 1 + countFullDecimal r4
      | [] => 1
    else 0
  | [] => 0

theorem decNumberRest_eq (r : Bytes) :
    decNumberRest r = countDecimal r + fracLenF (r.drop (countDecimal r))
      + expLenF ((r.drop (countDecimal r)).drop (fracLenF (r.drop (countDecimal r)))) := rfl


theorem fracLenF_dot (r2 : Bytes) :
    fracLenF (0x2E :: r2) = if countFullDecimal r2 > 0 then 1 + countFullDecimal r2 else 0 := rfl

theorem fracLenF_not_dot (b : UInt8) (t : Bytes) (h : b ≠ 0x2E) : fracLenF (b :: t) = 0 := by
  unfold fracLenF
  split
  · rename_i heq; simp only [List.cons.injEq] at heq; exact absurd heq.1 h
  · rfl

theorem fracLenF_nil : fracLenF [] = 0 := rfl

theorem expLenF_e (e : UInt8) (r4 : Bytes) (he : e = 0x65 ∨ e = 0x45) :
    expLenF (e :: r4) =
      match r4 with
      | s :: r5 => if s == 0x2B || s == 0x2D then 2 + countFullDecimal r5 else 1 + countFullDecimal r4
      | [] => 1 := by
  rcases he with rfl | rfl <;> rfl

theorem expLenF_not_e (b : UInt8) (t : Bytes) (h1 : b ≠ 0x65) (h2 : b ≠ 0x45) : expLenF (b :: t) = 0 := by
  simp [expLenF, h1, h2]

theorem fracLen_ascii (r1 : Bytes) : AsciiUpTo r1 (fracLenF r1) := by
  unfold fracLenF
  split
  · rename_i r2
    simp only
    split
    · exact AsciiUpTo.cons (by decide) (countFullDecimal_ascii r2)
    · exact AsciiUpTo.zero _
  · exact AsciiUpTo.zero _

theorem expLen_ascii (r3 : Bytes) : AsciiUpTo r3 (expLenF r3) := by
  unfold expLenF
  split
  · rename_i b r4
    split
    · rename_i hb
      have hb' : b < 0x80 := by
        simp only [Bool.or_eq_true, beq_iff_eq] at hb
        rcases hb with rfl | rfl <;> decide
      split
      · rename_i s r5
        split
        · rename_i hs
          have hs' : s < 0x80 := by
            simp only [Bool.or_eq_true, beq_iff_eq] at hs
            rcases hs with rfl | rfl <;> decide
          have := AsciiUpTo.cons hb' (AsciiUpTo.cons hs' (countFullDecimal_ascii r5))
          have e : 1 + (1 + countFullDecimal r5) = 2 + countFullDecimal r5 := by omega
          rwa [e] at this
        · exact AsciiUpTo.cons hb' (countFullDecimal_ascii (s :: r5))
      · have := AsciiUpTo.cons (r := []) hb' (AsciiUpTo.zero _)
        simpa using this
    · exact AsciiUpTo.zero _
  · exact AsciiUpTo.zero _

theorem decNumberRest_ascii (r : Bytes) : AsciiUpTo r (decNumberRest r) := by
  rw [decNumberRest_eq, List.drop_drop]
  exact ((countDecimal_ascii r).seq (fracLen_ascii _)).seq (expLen_ascii _)

end Pasfmt
