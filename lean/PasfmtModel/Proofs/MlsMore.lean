/-
  The multi-line string re-indenter (`Model/Mls.lean`), end to end from `mlsRewrite`: the re-indenter as one equation
  (`mlsRewrite_eq`: the result is a first line and new lines, `newLines`, joined by the terminator, `joinNl`); the anatomy of a
  literal that ends in a quote (`Anatomy`: first line, lines between, closing blanks and quotes), on which the
  re-indenter is a shorter equation (`Anatomy.rewrite`), which every literal it changes has (`Anatomy.of_rewrite`) and
  which its result has again (`Anatomy.join`); from these idempotence, the value of the literal (`literalValue`,
  declarative) and its preservation; last, the line breaks inside it.  Nothing here rests on the scanner: that the
  rewritten literal is still one multi-line literal token is `mls_one_token` of `Proofs/MultiLineLiteral.lean`.
-/
import PasfmtModel.Proofs.ListFacts
import PasfmtModel.Proofs.ScanLemmas
import PasfmtModel.Proofs.Settings

namespace Pasfmt.MlsMore

open CrlfFull (joinNl)

theorem noNl_replicateBytes {s : Bytes} (h : NoNl s) (n : Nat) : NoNl (replicateBytes n s) :=
  fun b hb => h b (mem_replicateBytes hb)

/-- the last line of a first line and segments joined by `\n` or `\r\n` -/
theorem lastLine_joinNl {nl : Bytes} (hnl : nl = [0x0A] ∨ nl = [0x0D, 0x0A]) (first : Bytes) (segs : List Bytes)
    (hs : ∀ s ∈ segs, NoNl s) (hf : segs = [] → NoNl first) :
    lastLine (joinNl nl first segs) = segs.getLast?.getD first := by
  rcases List.eq_nil_or_concat segs with rfl | ⟨init, l, rfl⟩
  · rw [joinNl_nil, lastLine_no_nl _ (noNl_not_mem_lf (hf rfl))]; rfl
  · obtain ⟨p, rfl⟩ : ∃ p, nl = p ++ [0x0A] := by
      rcases hnl with rfl | rfl
      · exact ⟨[], rfl⟩
      · exact ⟨[0x0D], rfl⟩
    rw [List.concat_eq_append] at hs ⊢
    have : joinNl (p ++ [0x0A]) first (init ++ [l]) = (joinNl (p ++ [0x0A]) first init ++ p) ++ 0x0A :: l := by
      rw [joinNl_snoc]; simp
    rw [this, lastLine_append _ _ (noNl_not_mem_lf (hs l (by simp))), List.getLast?_concat]; rfl

/-! ### runs of quotes at the end of a text -/

/-- all bytes are the quote `'` -/
def AllQ (q : Bytes) : Prop := ∀ b ∈ q, b = 0x27

theorem allQ_noNl {q : Bytes} (h : AllQ q) : NoNl q := by
  intro b hb
  rw [h b hb]; decide

theorem ends_quote_of_allQ (x q : Bytes) (hq : q ≠ []) (hAllQ : AllQ q) : (x ++ q).getLast? = some 0x27 := by
  rw [getLast?_append_ne _ _ hq]
  cases hl : q.getLast? with
  | none => exact absurd (List.getLast?_eq_none_iff.1 hl) hq
  | some b => rw [hAllQ b (List.mem_of_getLast? hl)]

theorem trimEndQuotes_append (x q : Bytes) (hx : ∀ b, x.getLast? = some b → b ≠ 0x27) (hq : AllQ q) :
    trimEndQuotes (x ++ q) = x := by
  unfold trimEndQuotes
  rw [List.reverse_append, List.dropWhile_append_of_pos (by
    intro b hb; rw [List.mem_reverse] at hb; rw [hq b hb]; decide)]
  cases hr : x.reverse with
  | nil => rw [← List.reverse_reverse x, hr]; rfl
  | cons a r =>
    have : x.getLast? = some a := by rw [← List.head?_reverse, hr]; rfl
    rw [List.dropWhile_cons_of_neg (by simpa using hx a this), ← hr, List.reverse_reverse]

/-! ### leading blanks, trailing quotes -/

theorem _root_.Pasfmt.BlankUnits.not_quote {w : Bytes} (h : BlankUnits w) : (0x27 : UInt8) ∉ w := by
  induction h with
  | nil => simp
  | blank b w hb _ ih => exact List.not_mem_cons_of_ne_of_not_mem (fun e => absurd (e ▸ hb) (by decide)) ih
  | wide w _ ih => simpa using ih

theorem countLeadingWs_blank_quotes (w q : Bytes) (hw : ∀ b ∈ w, b ≤ 0x20) (hq : AllQ q) :
    countLeadingWs (w ++ q) = w.length := by
  refine countLeadingWs_append (.of_allLe20 hw) ?_
  cases q with
  | nil => exact .inl rfl
  | cons a r =>
    cases hq a (by simp)
    exact .inr ⟨_, _, rfl, by decide, fun ⟨t, ht⟩ => by cases ht⟩
/-- a text whose leading blanks reach up to its trailing quotes is blanks followed by quotes -/
theorem blanks_quotes {l : Bytes} (h : (l.take (countLeadingWs l)).length = (trimEndQuotes l).length) :
    ∃ w q, l = w ++ q ∧ countLeadingWs l = w.length ∧ AllQ q := by
  obtain ⟨q, hs, hq⟩ := trimEnd_decomp (· == 0x27) l
  refine ⟨trimEndQuotes l, q, hs, ?_, fun b hb => by simpa using hq b hb⟩
  have := countLeadingWs_le l
  rw [List.length_take] at h
  omega

theorem blanks_no_quote {w q : Bytes} (h : countLeadingWs (w ++ q) = w.length) : (0x27 : UInt8) ∉ w := by
  have := (blankUnits_leadingWs (w ++ q)).not_quote
  rwa [h, List.take_left' rfl] at this

/-! ### the loop over the lines after the first -/

/-- what the re-indenter makes of one interior line: `none` = the literal is rejected -/
def lineValue (base line : Bytes) : Option Bytes :=
  if base.isPrefixOf line then some (line.drop base.length)
  else if line.isPrefixOf base then some []
  else none

/-- the indentation the re-indenter writes in front of every non-empty interior line and of the closing quotes -/
def newIndent (S : Settings) (ind cont : Nat) : Bytes := replicateBytes ind S.indStr ++ replicateBytes cont S.contStr

/-- its bytes are bytes of the two configured strings: whatever class of bytes these consist of (blanks, ASCII, no line
    break, …), the indentation consists of -/
theorem forall_mem_newIndent {P : UInt8 → Prop} {S : Settings} (hi : ∀ b ∈ S.indStr, P b) (hc : ∀ b ∈ S.contStr, P b)
    (ind cont : Nat) : ∀ b ∈ newIndent S ind cont, P b :=
  fun b hb => (List.mem_append.1 hb).elim (fun h => hi b (mem_replicateBytes h)) (fun h => hc b (mem_replicateBytes h))

/-- an interior line after re-indentation, without its terminator -/
def lineText (S : Settings) (ind cont : Nat) (v : Bytes) : Bytes := if v.isEmpty then [] else newIndent S ind cont ++ v

/-- a line has a value: it is the indentation followed by the value, or it is a prefix of the indentation and counts as
    empty -/
theorem lineValue_cases {base l v : Bytes} (h : lineValue base l = some v) :
    l = base ++ v ∨ (l <+: base ∧ v = []) := by
  unfold lineValue at h
  split at h
  · rename_i hp
    obtain ⟨t, rfl⟩ := List.isPrefixOf_iff_prefix.1 hp
    cases h
    exact Or.inl (by rw [List.drop_left])
  · split at h
    · rename_i hp
      cases h
      exact Or.inr ⟨List.isPrefixOf_iff_prefix.1 hp, rfl⟩
    · cases h

theorem rewriteLines_eq (S : Settings) (ind cont : Nat) (base : Bytes) (lines : List Bytes) :
    rewriteLines S ind cont base lines =
      (lines.mapM (lineValue base)).map fun vs => joinNl S.nlStr [] (vs.map (lineText S ind cont)) := by
  induction lines with
  | nil => rfl
  | cons line rest ih =>
    rw [rewriteLines, List.mapM_cons, ih]
    generalize List.mapM (lineValue base) rest = m
    by_cases h1 : base.isPrefixOf line = true
    · cases m <;> simp [lineValue, h1, joinNl, lineText, newIndent, List.append_assoc]
    · by_cases h2 : line.isPrefixOf base = true
      · cases m <;> simp [lineValue, h1, h2, joinNl, lineText]
      · simp [lineValue, h1, h2]

/-- the first line and the new lines of a literal the re-indenter accepts, before they are joined: the closing
    indentation `base` is the leading blanks of the last line of `str::lines`, which must be those blanks followed by
    quotes only; the first line of `lines_custom` is kept; every other line must have a value with respect to `base`
    and is re-indented.  The configured terminator `S.nlStr` plays no part here (`CrlfFull.newLines_pair`). -/
def newLines (S : Settings) (content : Bytes) (ind cont : Nat) : Option (Bytes × List Bytes) :=
  let last := lastLineOf content
  let base := last.take (countLeadingWs last)
  if base.length != (trimEndQuotes last).length then none else
    match linesCustom content with
    | [] => none
    | first :: rest => (rest.mapM (lineValue base)).map fun vs => (first, vs.map (lineText S ind cont))

/-- **the re-indenter as an equation**: the new lines are joined behind the first line by the configured terminator;
    `set_content` is called only if the result differs from the text -/
theorem mlsRewrite_eq (S : Settings) (content : Bytes) (ind cont : Nat) :
    mlsRewrite S content ind cont = (newLines S content ind cont).bind fun p =>
      if joinNl S.nlStr p.1 p.2 = content then none else some (joinNl S.nlStr p.1 p.2) := by
  unfold mlsRewrite newLines tryRewriteString
  dsimp only
  split
  · rfl
  · cases hl : linesCustom content with
    | nil => simp [linesCustom_eq_nil hl]
    | cons first rest =>
      simp only [rewriteLines_eq]
      cases rest.mapM (lineValue _) <;> simp [joinNl]

theorem newLines_some {S : Settings} {content : Bytes} {ind cont : Nat} {p : Bytes × List Bytes}
    (h : newLines S content ind cont = some p) :
    ∃ rest vs, linesCustom content = p.1 :: rest ∧
      rest.mapM (lineValue ((lastLineOf content).take (countLeadingWs (lastLineOf content)))) = some vs ∧
      p.2 = vs.map (lineText S ind cont) ∧
      ((lastLineOf content).take (countLeadingWs (lastLineOf content))).length =
        (trimEndQuotes (lastLineOf content)).length := by
  unfold newLines at h
  dsimp only at h
  split at h
  · cases h
  rename_i hlen
  split at h
  · cases h
  rename_i first rest hl
  cases hv : rest.mapM (lineValue ((lastLineOf content).take (countLeadingWs (lastLineOf content)))) with
  | none => rw [hv] at h; cases h
  | some vs => rw [hv] at h; cases h; exact ⟨rest, vs, hl, hv, rfl, by simpa using hlen⟩

/-- a successful rewrite is the new lines joined, and differs from the text -/
theorem mlsRewrite_joined {S : Settings} {content : Bytes} {ind cont : Nat} {c' : Bytes}
    (h : mlsRewrite S content ind cont = some c') :
    ∃ p, newLines S content ind cont = some p ∧ c' = joinNl S.nlStr p.1 p.2 ∧ c' ≠ content := by
  rw [mlsRewrite_eq] at h
  cases hp : newLines S content ind cont with
  | none => rw [hp] at h; cases h
  | some p =>
    rw [hp, Option.bind_some] at h
    split at h
    · cases h
    · cases h; exact ⟨p, rfl, rfl, ‹_›⟩

theorem mlsRewrite_some {S : Settings} {content : Bytes} {ind cont : Nat} {c' : Bytes}
    (h : mlsRewrite S content ind cont = some c') :
    ∃ first rest vs, linesCustom content = first :: rest ∧
      rest.mapM (lineValue ((lastLineOf content).take (countLeadingWs (lastLineOf content)))) = some vs ∧
      c' = joinNl S.nlStr first (vs.map (lineText S ind cont)) ∧ c' ≠ content ∧
      ((lastLineOf content).take (countLeadingWs (lastLineOf content))).length =
        (trimEndQuotes (lastLineOf content)).length := by
  obtain ⟨p, hp, rfl, hne⟩ := mlsRewrite_joined h
  obtain ⟨rest, vs, hl, hv, h2, hlen⟩ := newLines_some hp
  exact ⟨p.1, rest, vs, hl, hv, by rw [h2], hne, hlen⟩

/-! ### lines, values, indentation -/

theorem not_ends_crlf {content : Bytes} (hq : content.getLast? = some 0x27) :
    ¬ ∃ p, content = p ++ [0x0D, 0x0A] := by
  rintro ⟨p, rfl⟩
  simp at hq

/-- an interior line after re-indentation is empty or the new indentation followed by its (non-empty) value -/
theorem lineText_cases (S : Settings) (ind cont : Nat) (v : Bytes) :
    (v = [] ∧ lineText S ind cont v = []) ∨ (v ≠ [] ∧ lineText S ind cont v = newIndent S ind cont ++ v) := by
  unfold lineText
  cases v <;> simp

theorem lineText_quotes (S : Settings) (ind cont : Nat) {q : Bytes} (hq : q ≠ []) :
    lineText S ind cont q = newIndent S ind cont ++ q :=
  ((lineText_cases S ind cont q).resolve_left fun h => hq h.1).2

theorem newIndent_indentBytes {S : Settings} (hS : SettingsOk S) (ind cont : Nat) : IndentBytes (newIndent S ind cont) :=
  forall_mem_newIndent hS.ind hS.cont ind cont

theorem newIndent_noNl {S : Settings} (hS : SettingsOk S) (ind cont : Nat) : NoNl (newIndent S ind cont) :=
  fun b hb => (newIndent_indentBytes hS ind cont b hb).2

theorem lineText_noNl {S : Settings} {ind cont : Nat} (hi : NoNl (newIndent S ind cont)) {v : Bytes} (hv : NoNl v) :
    NoNl (lineText S ind cont v) := by
  rcases lineText_cases S ind cont v with ⟨_, e⟩ | ⟨_, e⟩ <;> rw [e]
  · exact NoNl.nil
  · exact NoNl.append hi hv

theorem lineValue_noNl {base l v : Bytes} (h : lineValue base l = some v) (hl : NoNl l) : NoNl v := by
  rcases lineValue_cases h with rfl | ⟨_, rfl⟩
  · exact fun b hb => hl b (List.mem_append_right _ hb)
  · exact NoNl.nil

theorem mapM_values_noNl {base : Bytes} {ls vs : List Bytes} (h : ls.mapM (lineValue base) = some vs)
    (hl : ∀ l ∈ ls, NoNl l) : ∀ v ∈ vs, NoNl v := by
  intro v hv
  obtain ⟨l, hm, hlv⟩ := mapM_some_mem h v hv
  exact lineValue_noNl hlv (hl l hm)

/-- the first line and the new lines of a rewrite hold no line break of their own -/
theorem newLines_noNl {S : Settings} (hind : NoNl S.indStr) (hcont : NoNl S.contStr) {ind cont : Nat}
    {c : Bytes} {p : Bytes × List Bytes} (h : newLines S c ind cont = some p) : NoNl p.1 ∧ ∀ s ∈ p.2, NoNl s := by
  obtain ⟨rest, vs, hlc, hvs, e, _⟩ := newLines_some h
  have hno := linesCustom_noNl c
  rw [hlc] at hno
  refine ⟨hno _ (by simp), fun s hs => ?_⟩
  rw [e] at hs
  obtain ⟨v, hv, rfl⟩ := List.mem_map.1 hs
  exact lineText_noNl (forall_mem_newIndent hind hcont _ _)
    (mapM_values_noNl hvs (fun l hl => hno l (by simp [hl])) v hv)

theorem lineValue_lineText (S : Settings) (ind cont : Nat) (v : Bytes) :
    lineValue (newIndent S ind cont) (lineText S ind cont v) = some v := by
  unfold lineValue lineText
  cases v with
  | nil => cases newIndent S ind cont <;> simp
  | cons a r => simp [List.isPrefixOf_iff_prefix]

theorem values_preserved (S : Settings) (ind cont : Nat) (vs : List Bytes) :
    (vs.map (lineText S ind cont)).mapM (lineValue (newIndent S ind cont)) = some vs := by
  induction vs with
  | nil => rfl
  | cons v vs ih =>
    simp only [List.map_cons, List.mapM_cons, lineValue_lineText, ih]
    rfl

theorem lineValue_suffix {base l v : Bytes} (h : lineValue base l = some v) : v <:+ l := by
  rcases lineValue_cases h with rfl | ⟨_, rfl⟩
  · exact List.suffix_append _ _
  · exact List.nil_suffix

theorem newIndent_no_quote {S : Settings} (hS : SettingsOk S) (ind cont : Nat) : ∀ b ∈ newIndent S ind cont, b ≠ 0x27 := by
  intro b hb e
  have := (newIndent_indentBytes hS ind cont b hb).1
  subst e
  revert this; decide

theorem lineValue_append (w v : Bytes) : lineValue w (w ++ v) = some v := by
  simp [lineValue, List.isPrefixOf_iff_prefix]

/-! ### the value of a literal, declaratively -/

/-- **The value of a multi-line string literal**, independent of the rewriter: split the text at CR LF / CR / LF
    (`refLines`); there must be at least two lines; the last line must consist of blanks followed by a non-empty run of
    quotes and nothing else, the blanks being *the indentation*; the value is the list of the lines strictly between
    the first and the last, each with the indentation removed - a line that is a (proper) prefix of the indentation
    counts as empty; a line that neither starts with the indentation nor is a prefix of it makes the literal
    ill-formed (`none`). -/
def literalValue (c : Bytes) : Option (List Bytes) :=
  match refLines c with
  | [] => none
  | _ :: rest =>
    match rest.getLast? with
    | none => none
    | some closing =>
      let n := countLeadingWs closing
      let quotes := closing.drop n
      if !quotes.isEmpty && quotes.all (· == 0x27) then rest.dropLast.mapM (lineValue (closing.take n))
      else none

/-! ### the anatomy of a literal -/

/-- **Anatomy of a multi-line literal** `c` that ends in a quote: its lines are a first line, lines between and a closing
    line `w ++ q` (`w` = its leading blanks, `q` = a non-empty run of quotes), and the closing line is also what
    `str::lines().last()` sees (no lone CR before it).  On such a text the re-indenter is one equation
    (`Anatomy.rewrite`); a literal that the re-indenter changes has an anatomy (`Anatomy.of_rewrite`), and so has what
    it writes (`Anatomy.join`). -/
structure Anatomy (c first : Bytes) (mid : List Bytes) (w q : Bytes) : Prop where
  lines : Lines c (first :: (mid ++ [w ++ q]))
  last : lastLineOf c = w ++ q
  blanks : countLeadingWs (w ++ q) = w.length
  allQ : AllQ q
  q_ne : q ≠ []
  ends : c.getLast? = some 0x27

section
variable {c first w q : Bytes} {mid : List Bytes} (A : Anatomy c first mid w q)
include A

theorem Anatomy.linesCustom : linesCustom c = first :: (mid ++ [w ++ q]) := by
  rw [linesCustom_eq_refLines c (not_ends_crlf A.ends), lines_iff.1 A.lines]

theorem Anatomy.w_last : ∀ b, w.getLast? = some b → b ≠ 0x27 :=
  fun _ hb e => blanks_no_quote A.blanks (e ▸ List.mem_of_getLast? hb)

theorem Anatomy.values_noNl {vs : List Bytes} (hv : mid.mapM (lineValue w) = some vs) : ∀ v ∈ vs, NoNl v :=
  mapM_values_noNl hv fun l hl => A.lines.noNl l (by simp [hl])

theorem Anatomy.value : literalValue c = mid.mapM (lineValue w) := by
  unfold literalValue
  rw [lines_iff.1 A.lines]
  simp only [List.getLast?_append, List.getLast?_singleton, Option.some_or, A.blanks, List.drop_left',
    List.dropLast_concat, List.take_left' rfl]
  have h3 : q.isEmpty = false := by simpa using A.q_ne
  have h4 : q.all (· == 0x27) = true := by
    rw [List.all_eq_true]; intro b hb; rw [A.allQ b hb]; decide
  simp [h3, h4]

/-- **the re-indenter on a literal with a known anatomy**: every line between must have a value with respect to the
    closing blanks; the values are re-indented, the closing quotes too; `set_content` is called only if that differs
    from the text -/
theorem Anatomy.rewrite (S : Settings) (ind cont : Nat) :
    mlsRewrite S c ind cont = (mid.mapM (lineValue w)).bind fun vs =>
      let c' := joinNl S.nlStr first (vs.map (lineText S ind cont) ++ [newIndent S ind cont ++ q])
      if c' = c then none else some c' := by
  rw [mlsRewrite_eq, newLines, A.last, A.linesCustom]
  dsimp only
  rw [A.blanks, List.take_left' rfl, trimEndQuotes_append w q A.w_last A.allQ, if_neg (by simp), List.mapM_append]
  cases mid.mapM (lineValue w) with
  | none => rfl
  | some vs => simp [lineValue_append, lineText_quotes S ind cont A.q_ne]

end

/-- **what the re-indenter writes has an anatomy**: a first line, texts and a closing line of blanks and quotes, each
    behind `\n` or `\r\n` -/
theorem Anatomy.join {nl : Bytes} (hnl : nl = [0x0A] ∨ nl = [0x0D, 0x0A]) {first w q : Bytes} {texts : List Bytes}
    (hf : NoNl first) (ht : ∀ x ∈ texts, NoNl x) (hw : IndentBytes w) (hq : AllQ q) (hne : q ≠ []) :
    Anatomy (joinNl nl first (texts ++ [w ++ q])) first texts w q := by
  have hs : ∀ x ∈ texts ++ [w ++ q], NoNl x := by
    intro x hx
    rcases List.mem_append.1 hx with h | h
    · exact ht x h
    · rw [List.mem_singleton.1 h]; exact NoNl.append (fun b hb => (hw b hb).2) (allQ_noNl hq)
  have hends : (joinNl nl first (texts ++ [w ++ q])).getLast? = some 0x27 := by
    rw [joinNl_snoc, ← List.append_assoc]; exact ends_quote_of_allQ _ q hne hq
  have hll := lastLine_joinNl hnl first _ hs (by simp)
  rw [List.getLast?_concat, Option.getD_some] at hll
  refine ⟨lines_joinNl hnl hf hs fun l hl => ?_, lastLineOf_eq hll (ends_quote_of_allQ _ q hne hq),
    countLeadingWs_blank_quotes w q (fun b hb => (hw b hb).1) hq, hq, hne, hends⟩
  rw [← List.cons_append, List.getLast?_concat] at hl
  cases hl
  simp [hne]

/-- **a literal that ends in a quote and that the re-indenter changes has an anatomy**.  The re-indenter reads the
    closing blanks off `str::lines().last()` and the lines off `lines_custom`; the two agree on the closing line,
    because behind a lone CR the closing line of `lines_custom` would have no value with respect to blanks that hold
    that CR. -/
theorem Anatomy.of_rewrite {S : Settings} {content c' : Bytes} {ind cont : Nat} (hq : content.getLast? = some 0x27)
    (h : mlsRewrite S content ind cont = some c') : ∃ first mid w q, Anatomy content first mid w q := by
  obtain ⟨first0, rest, vs, hlc, hvs, rfl, hne, hlen⟩ := mlsRewrite_some h
  obtain ⟨w, q, hlast, hblanks, hAllQ⟩ := blanks_quotes hlen
  rw [hblanks, hlast, List.take_left' rfl] at hvs
  rw [hlast] at hblanks
  have hnq := blanks_no_quote hblanks
  obtain ⟨p, init, L, hc, hls, hL, hLne, hp, hpe⟩ := (lines_refLines content).unsnoc hq (by decide)
  have hLq : L.getLast? = some 0x27 := by rwa [hc, getLast?_append_ne _ _ hLne] at hq
  have hcl := lastLineOf_closing hL hLq hpe
  rw [← hc] at hcl
  rw [linesCustom_eq_refLines content (not_ends_crlf hq), hls] at hlc
  cases init with
  | nil =>
    -- a single line: nothing changes
    obtain ⟨rfl, rfl⟩ := List.cons.inj hlc
    cases hvs
    rw [hp.eq_nil_iff.1 rfl] at hc
    exact absurd (by simpa [joinNl] using hc.symm) hne
  | cons first mid =>
    obtain ⟨rfl, rfl⟩ := List.cons.inj hlc
    obtain ⟨_, vL, _, hvL, _⟩ := (mapM_snoc _ _ _ _).1 hvs
    -- the closing line starts with the blanks: it holds a quote, they do not
    have hLv : L = w ++ vL := (lineValue_cases hvL).resolve_right fun hp => hnq (hp.1.subset (List.mem_of_getLast? hLq))
    have hLeq : L = w ++ q := by
      rw [← hlast]
      refine (hcl.resolve_right fun hcr => ?_).symm
      rw [hlast] at hcr
      rcases List.mem_append.1 hcr with hm | hm
      · exact noNl_not_mem_cr hL (hLv ▸ List.mem_append_left _ hm)
      · exact absurd (hAllQ _ hm) (by decide)
    refine ⟨first, mid, w, q, lines_iff.2 (hLeq ▸ hls), hlast, hblanks, hAllQ, ?_, hq⟩
    rintro rfl
    rw [List.append_nil] at hLeq
    exact hnq (hLeq ▸ List.mem_of_getLast? hLq)

/-- **a successful rewrite**: the literal has an anatomy, the lines between have values, and the result is the first
    line, the re-indented values and the re-indented closing quotes, each behind the configured terminator -/
theorem mlsRewrite_struct (S : Settings) (content : Bytes) (ind cont : Nat) (c' : Bytes)
    (hq : content.getLast? = some 0x27) (h : mlsRewrite S content ind cont = some c') :
    ∃ (first : Bytes) (mid : List Bytes) (w q : Bytes) (vs : List Bytes), Anatomy content first mid w q ∧
      mid.mapM (lineValue w) = some vs ∧
      c' = joinNl S.nlStr first (vs.map (lineText S ind cont) ++ [newIndent S ind cont ++ q]) := by
  obtain ⟨first, mid, w, q, A⟩ := Anatomy.of_rewrite hq h
  rw [A.rewrite] at h
  cases hv : mid.mapM (lineValue w) with
  | none => rw [hv] at h; cases h
  | some vs =>
    rw [hv, Option.bind_some] at h
    dsimp only at h
    split at h
    · cases h
    · cases h; exact ⟨first, mid, w, q, vs, A, hv, rfl⟩

/-- the anatomy of the rewritten literal: the same first line and quotes, the re-indented values, the new indentation -/
theorem Anatomy.rendered {c first w q : Bytes} {mid vs : List Bytes} (A : Anatomy c first mid w q) {S : Settings}
    (hS : SettingsOk S) (ind cont : Nat) (hv : mid.mapM (lineValue w) = some vs) :
    Anatomy (joinNl S.nlStr first (vs.map (lineText S ind cont) ++ [newIndent S ind cont ++ q])) first
      (vs.map (lineText S ind cont)) (newIndent S ind cont) q :=
  Anatomy.join hS.nl (A.lines.noNl first (by simp))
    (fun x hx => by
      obtain ⟨v, hv', rfl⟩ := List.mem_map.1 hx
      exact lineText_noNl (newIndent_noNl hS ind cont) (A.values_noNl hv v hv'))
    (newIndent_indentBytes hS ind cont) A.allQ A.q_ne

/-- **second application**: on the rewritten literal the rewriter computes the same text again and therefore reports
    "no change" -/
theorem mls_idem (S : Settings) (hS : SettingsOk S) (content : Bytes) (ind cont : Nat) (c' : Bytes)
    (hq : content.getLast? = some 0x27) (h : mlsRewrite S content ind cont = some c') :
    mlsRewrite S c' ind cont = none := by
  obtain ⟨first, mid, w, q, vs, A, hv, rfl⟩ := mlsRewrite_struct S content ind cont c' hq h
  rw [(A.rendered hS ind cont hv).rewrite, values_preserved]
  simp

theorem mlsRewrite_ends_quote {S : Settings} {c c' : Bytes} {ind cont : Nat} (hq : c.getLast? = some 0x27)
    (h : mlsRewrite S c ind cont = some c') : c'.getLast? = some 0x27 := by
  obtain ⟨first, mid, w, q, vs, A, _, rfl⟩ := mlsRewrite_struct S c ind cont c' hq h
  rw [joinNl_snoc, ← List.append_assoc]
  exact ends_quote_of_allQ _ q A.q_ne A.allQ

/-- the text the re-indenter computes for a literal that ends in a quote ends in a quote, changed or not -/
theorem newLines_ends_quote {S : Settings} {c : Bytes} {p : Bytes × List Bytes} {ind cont : Nat}
    (hq : c.getLast? = some 0x27) (h : newLines S c ind cont = some p) :
    (joinNl S.nlStr p.1 p.2).getLast? = some 0x27 := by
  by_cases e : joinNl S.nlStr p.1 p.2 = c
  · rw [e]; exact hq
  · exact mlsRewrite_ends_quote hq (by rw [mlsRewrite_eq, h]; simp [e])

/-- **the value is kept**: the rewritten literal has the value of the literal -/
theorem mls_value {S : Settings} (hS : SettingsOk S) {content c' : Bytes} {ind cont : Nat}
    (hq : content.getLast? = some 0x27) (h : mlsRewrite S content ind cont = some c') :
    ∃ vs, literalValue content = some vs ∧ literalValue c' = some vs := by
  obtain ⟨first, mid, w, q, vs, A, hv, rfl⟩ := mlsRewrite_struct S content ind cont c' hq h
  exact ⟨vs, A.value.trans hv, (A.rendered hS ind cont hv).value.trans (values_preserved S ind cont vs)⟩

end Pasfmt.MlsMore

/-! ### line breaks inside a re-indented literal -/

namespace Pasfmt

open MlsMore

/-- **Every line break inside a re-indented multi-line string is the configured line ending.** -/
theorem mlsRewrite_breaks (S : Settings) (hind : NoNl S.indStr) (hcont : NoNl S.contStr)
    (content : Bytes) (ind cont : Nat) (c' : Bytes) (h : mlsRewrite S content ind cont = some c') :
    ∃ (first : Bytes) (segs : List Bytes),
      c' = first ++ (segs.map (S.nlStr ++ ·)).flatten ∧ NoNl first ∧ ∀ s ∈ segs, NoNl s := by
  obtain ⟨p, hp, rfl, _⟩ := mlsRewrite_joined h
  exact ⟨p.1, p.2, rfl, newLines_noNl hind hcont hp⟩

end Pasfmt
