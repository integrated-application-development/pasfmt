/-
  The generics consolidator only retypes `<` / `>` tokens (to the generic chevrons); it never changes the
  number of tokens or any other kind, and its inner scan always advances.
-/
import PasfmtModel.Model.Consolidators

namespace Pasfmt

/-- the only change a kind may undergo -/
def ChevRel (x y : Kind) : Prop :=
  x = y ∨ (∃ c, x = .tOp (.oLessThan c) ∧ y = .tOp (.oLessThan .chGeneric)) ∨
    (∃ c, x = .tOp (.oGreaterThan c) ∧ y = .tOp (.oGreaterThan .chGeneric))

theorem ChevRel.refl (x : Kind) : ChevRel x x := Or.inl rfl

theorem ChevRel.trans {x y z : Kind} (h1 : ChevRel x y) (h2 : ChevRel y z) : ChevRel x z := by
  rcases h1 with rfl | ⟨c, rfl, rfl⟩ | ⟨c, rfl, rfl⟩
  · exact h2
  · rcases h2 with rfl | ⟨c', h, rfl⟩ | ⟨c', h, rfl⟩
    · exact Or.inr (Or.inl ⟨c, rfl, rfl⟩)
    · exact Or.inr (Or.inl ⟨c, rfl, rfl⟩)
    · cases h
  · rcases h2 with rfl | ⟨c', h, rfl⟩ | ⟨c', h, rfl⟩
    · exact Or.inr (Or.inr ⟨c, rfl, rfl⟩)
    · cases h
    · exact Or.inr (Or.inr ⟨c, rfl, rfl⟩)

def ArrRel (a b : Array Kind) : Prop :=
  a.size = b.size ∧ ∀ i (h1 : i < a.size) (h2 : i < b.size), ChevRel a[i] b[i]

theorem ArrRel.refl (a : Array Kind) : ArrRel a a := ⟨rfl, fun _ _ _ => ChevRel.refl _⟩

theorem ArrRel.trans {a b c : Array Kind} (h1 : ArrRel a b) (h2 : ArrRel b c) : ArrRel a c :=
  ⟨h1.1.trans h2.1, fun i p q => (h1.2 i p (by have := h1.1; omega)).trans (h2.2 i (by have := h1.1; omega) q)⟩

/-- every open entry of the stack points at a `<` -/
def StackInv (s : GState) : Prop :=
  ∀ p ∈ s.stack, ∃ c, s.kinds[p.openIdx]? = some (.tOp (.oLessThan c))

theorem popBrack_sub (b : Nat) (st : List TPState) : ∀ p ∈ (popBrack b st).1, p ∈ st := by
  induction st with
  | nil => simp [popBrack]
  | cons x r ih =>
    intro p hp
    unfold popBrack at hp
    split at hp
    · exact hp
    · exact List.mem_cons_of_mem _ (ih p hp)

theorem ArrRel.set (a : Array Kind) (j : Nat) (y : Kind) (h : ∀ x, a[j]? = some x → ChevRel x y) :
    ArrRel a (a.setIfInBounds j y) := by
  refine ⟨by simp, ?_⟩
  intro i h1 h2
  by_cases e : j = i
  · subst e
    rw [Array.getElem_setIfInBounds_self]
    exact h _ (Array.getElem?_eq_getElem h1)
  · rw [Array.getElem_setIfInBounds_ne (h := e)]
    exact ChevRel.refl _

theorem ArrRel.keepsLt {a b : Array Kind} (h : ArrRel a b) {j : Nat} {c : ChevronKind}
    (hj : a[j]? = some (.tOp (.oLessThan c))) : ∃ c', b[j]? = some (.tOp (.oLessThan c')) := by
  obtain ⟨hlt, e1⟩ := Array.getElem?_eq_some_iff.1 hj
  have hlt' : j < b.size := h.1 ▸ hlt
  rw [Array.getElem?_eq_getElem hlt']
  rcases h.2 j hlt hlt' with e | ⟨c2, _, e⟩ | ⟨c2, e0, _⟩
  · exact ⟨c, by rw [← e, e1]⟩
  · exact ⟨.chGeneric, by rw [e]⟩
  · rw [e1] at e0; cases e0

theorem gStep_spec (s : GState) (i : Nat) (hinv : StackInv s) :
    ArrRel s.kinds (gStep s i).2.kinds ∧ StackInv (gStep s i).2 := by
  have base : ArrRel s.kinds s.kinds ∧ StackInv s := ⟨ArrRel.refl _, hinv⟩
  -- `gUpd` touches neither the kinds nor the stack
  have lift : ∀ (tt : Option Kind) (s' : GState), ArrRel s.kinds s'.kinds → StackInv s' →
      ArrRel s.kinds (gUpd tt s').2.kinds ∧ StackInv (gUpd tt s').2 := by
    intro tt s' h1 h2
    have hk : (gUpd tt s').2.kinds = s'.kinds ∧ (gUpd tt s').2.stack = s'.stack := by
      unfold gUpd
      cases tt with
      | none => exact ⟨rfl, rfl⟩
      | some t => by_cases h : t.isCommentOrDirective <;> simp [h]
    exact ⟨hk.1 ▸ h1, fun p hp => hk.1 ▸ h2 p (hk.2 ▸ hp)⟩
  have keep := lift s.kinds[i]? s (ArrRel.refl _) hinv
  have keepIf : ∀ (c : Prop) [Decidable c],
      ArrRel s.kinds (if c then gUpd s.kinds[i]? s else (false, s)).2.kinds ∧
        StackInv (if c then gUpd s.kinds[i]? s else (false, s)).2 := by
    intro c _; split
    · exact keep
    · exact base
  unfold gStep
  simp only
  split
  · -- `<`: push
    rename_i c hc
    refine lift _ _ (ArrRel.refl _) fun p hp => ?_
    rcases List.mem_cons.1 hp with rfl | e
    · exact ⟨c, hc⟩
    · exact hinv p e
  · exact lift _ _ (ArrRel.refl _) hinv  -- `,`
  -- the next seven arms of `gStep`, in its order (identifier, `.`, `:`, `;`, compiler directive, comment, conditional
  -- directive): the state is passed on
  iterate 7 exact keep
  · -- `>`: the `<` on top of the stack and this `>` become generic chevrons
    rename_i c hc
    split
    · exact base
    · split
      · exact base
      · rename_i closed rest hst
        obtain ⟨c0, hc0⟩ := hinv closed (by rw [hst]; simp)
        have hne : closed.openIdx ≠ i := by
          intro e; rw [e, hc] at hc0; cases hc0
        have r := (ArrRel.set s.kinds closed.openIdx (.tOp (.oLessThan .chGeneric))
            fun x hx => .inr (.inl ⟨c0, Option.some.inj (hx.symm.trans hc0), rfl⟩)).trans
          (ArrRel.set _ i (.tOp (.oGreaterThan .chGeneric)) fun x hx => by
            rw [Array.getElem?_setIfInBounds_ne hne, hc] at hx
            exact .inr (.inr ⟨c, (Option.some.inj hx).symm, rfl⟩))
        refine lift _ _ r fun p hp => ?_
        obtain ⟨cp, hcp⟩ := hinv p (by rw [hst]; exact List.mem_cons_of_mem _ hp)
        exact r.keepsLt hcp
  · split  -- `[`
    · exact lift _ _ (ArrRel.refl _) hinv
    · exact base
  · split  -- `]`: entries are only popped
    · exact lift _ _ (ArrRel.refl _) fun p hp => hinv p (popBrack_sub _ _ p hp)
    · exact base
  · split  -- a keyword
    · exact keep
    · exact keepIf _
  -- the three arms before the last (text literal, number literal, any other operator): passed on inside brackets, else
  -- the scan ends
  iterate 3 exact keepIf _
  · exact base

theorem gInner_spec (n : Nat) (s : GState) (i : Nat) (hinv : StackInv s) :
    ArrRel s.kinds (gInner n s i).1.kinds ∧ StackInv (gInner n s i).1 ∧ i ≤ (gInner n s i).2 := by
  fun_induction gInner n s i with
  | case1 s i h => exact ⟨ArrRel.refl _, hinv, Nat.le_refl _⟩
  | case2 s i h hlt s' hstep =>
    have := gStep_spec s i hinv
    rw [hstep] at this
    exact ⟨this.1, this.2, Nat.le_refl _⟩
  | case3 s i h hlt s' hstep ih =>
    have h1 := gStep_spec s i hinv
    rw [hstep] at h1
    obtain ⟨a, b, c⟩ := ih h1.2
    exact ⟨h1.1.trans a, b, by omega⟩
  | case4 s i h hlt => exact ⟨ArrRel.refl _, hinv, Nat.le_refl _⟩

/-- the scan that follows a `<` ends strictly after it: the `max` in `gOuter` is the identity (stated for its own sake:
    `gOuter_spec` does not need it) -/
theorem gInner_ge (n : Nat) (s : GState) (i : Nat) (hinv : StackInv s) : i ≤ (gInner n s i).2 :=
  (gInner_spec n s i hinv).2.2

theorem gOuter_spec (n : Nat) (kinds : Array Kind) (i : Nat) : ArrRel kinds (gOuter n kinds i) := by
  fun_induction gOuter n kinds i with
  | case1 kinds i hlt c hk s0 s j hin ih =>
    have hinv : StackInv s0 := by
      intro p hp
      simp [s0] at hp
      subst hp
      exact ⟨c, hk⟩
    have := gInner_spec n s0 (i + 1) hinv
    rw [hin] at this
    exact this.1.trans ih
  | case2 kinds i hlt hne ih => exact ih
  | case3 kinds i hlt => exact ArrRel.refl _

/-- `DistinguishGenericTypeParamsConsolidator` keeps the number of tokens and only retypes `<`/`>` as generic chevrons -/
theorem genericsConsolidate_frame (kinds : List Kind) :
    (genericsConsolidate kinds).length = kinds.length ∧
    ∀ i (h1 : i < kinds.length) (h2 : i < (genericsConsolidate kinds).length),
      ChevRel kinds[i] (genericsConsolidate kinds)[i] := by
  have h := gOuter_spec kinds.length kinds.toArray 0
  unfold genericsConsolidate
  refine ⟨by simpa using h.1.symm, ?_⟩
  intro i h1 h2
  have := h.2 i (by simpa using h1) (by simpa using h2)
  simpa using this

end Pasfmt
