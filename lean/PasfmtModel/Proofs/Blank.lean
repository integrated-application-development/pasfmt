/-
  Blanks as `stripBlank` and `countLeadingWs` see them: bytes `≤ 0x20` and U+3000 (`E3 80 80`).
  `Gap g`: `g` disappears under `stripBlank` whatever follows; `Closed c`: `stripBlank` can be taken
  piecewise after `c`.  `BlankUnits w`: `w` is a sequence of such blanks.  `countLeadingWs l = n` exactly when the
  first `n` bytes of `l` are `BlankUnits` and the rest is empty or has a `NonBlankStart` (`countLeadingWs_split`,
  `countLeadingWs_append`); the backward scan takes off `BlankUnits` too (`TrailingWs`), and two such sequences that
  overlap are in step (`BlankUnits.resync`).  Also the trimming of a byte class at the end of a text (`trimEnd_decomp`).
-/
import PasfmtModel.Model.Bytes

namespace Pasfmt

/-- `g` is absorbed by `stripBlank` whatever follows it -/
def Gap (g : Bytes) : Prop := ∀ x, stripBlank (g ++ x) = stripBlank x

/-- `stripBlank` distributes over `c ++ ·` -/
def Closed (c : Bytes) : Prop := ∀ x, stripBlank (c ++ x) = stripBlank c ++ stripBlank x

theorem Gap.nil : Gap [] := fun _ => rfl

theorem Gap.append {a b : Bytes} (ha : Gap a) (hb : Gap b) : Gap (a ++ b) := by
  intro x; rw [List.append_assoc, ha, hb]

theorem Gap.blankOnly {g : Bytes} (h : Gap g) : BlankOnly g := by
  have := h []; simpa [BlankOnly, stripBlank] using this

theorem Gap.closed {g : Bytes} (h : Gap g) : Closed g := by
  intro x
  rw [h x, Gap.blankOnly h]; rfl

theorem stripBlank_cons_le (b : UInt8) (r : Bytes) (h : b ≤ 0x20) : stripBlank (b :: r) = stripBlank r := by
  have hne : b ≠ 0xE3 := by intro hb; subst hb; exact absurd h (by decide)
  rw [stripBlank.eq_3]
  · simp [h]
  · intro r' hb; exact absurd hb hne

theorem Gap.single {b : UInt8} (h : b ≤ 0x20) : Gap [b] := by
  intro x; simpa using stripBlank_cons_le b x h

theorem Gap.u3000 : Gap [0xE3, 0x80, 0x80] := by
  intro x; simp [stripBlank]

def AllLe20 (g : Bytes) : Prop := ∀ b ∈ g, b ≤ 0x20

/-- a sequence of blank units: bytes `≤ 0x20` and `E3 80 80` -/
inductive BlankUnits : Bytes → Prop
  | nil : BlankUnits []
  | blank (b : UInt8) (w : Bytes) : b ≤ 0x20 → BlankUnits w → BlankUnits (b :: w)
  | wide (w : Bytes) : BlankUnits w → BlankUnits (0xE3 :: 0x80 :: 0x80 :: w)

theorem BlankUnits.gap {w : Bytes} (h : BlankUnits w) : Gap w := by
  induction h with
  | nil => exact Gap.nil
  | blank b w hb _ ih => exact Gap.append (Gap.single hb) ih
  | wide w _ ih => exact Gap.append Gap.u3000 ih

theorem BlankUnits.of_allLe20 {g : Bytes} (h : AllLe20 g) : BlankUnits g := by
  induction g with
  | nil => exact .nil
  | cons b r ih => exact .blank b r (h b (by simp)) (ih fun c hc => h c (by simp [hc]))

theorem Gap.of_allLe20 {g : Bytes} (h : AllLe20 g) : Gap g := (BlankUnits.of_allLe20 h).gap

theorem BlankUnits.append {a w : Bytes} (ha : BlankUnits a) (hw : BlankUnits w) : BlankUnits (a ++ w) := by
  induction ha with
  | nil => exact hw
  | blank b _ hb _ ih => exact .blank b _ hb ih
  | wide _ _ ih => exact .wide _ ih

theorem BlankUnits.cons_inv {a : UInt8} {t : Bytes} (h : BlankUnits (a :: t)) :
    (a ≤ 0x20 ∧ BlankUnits t) ∨ (a = 0xE3 ∧ ∃ t', t = 0x80 :: 0x80 :: t' ∧ BlankUnits t') := by
  cases h with
  | blank _ _ hb hw => exact .inl ⟨hb, hw⟩
  | wide w hw => exact .inr ⟨rfl, w, rfl, hw⟩

/-- a sequence of blank units that starts anywhere inside the sequence `w` and runs past its end falls in step with it -/
theorem BlankUnits.resync {w : Bytes} (hw : BlankUnits w) (c : Bytes) :
    ∀ k, BlankUnits (w.drop k ++ c) → BlankUnits c := by
  induction hw with
  | nil => intro k h; simpa using h
  | blank b w hb _ ih =>
    intro k h
    cases k with
    | succ k => exact ih k h
    | zero =>
      rcases h.cons_inv with ⟨_, h'⟩ | ⟨rfl, _⟩
      · exact ih 0 h'
      · exact absurd hb (by decide)
  | wide w _ ih =>
    intro k h
    match k with
    | 0 =>
      rcases h.cons_inv with ⟨hb, _⟩ | ⟨_, t', ht, h'⟩
      · exact absurd hb (by decide)
      · cases ht; exact ih 0 h'
    | 1 | 2 =>
      rcases h.cons_inv with ⟨hb, _⟩ | ⟨he, _⟩
      · exact absurd hb (by decide)
      · exact absurd he (by decide)
    | k + 3 => exact ih k h

/-- first byte is not blank and the text does not start with U+3000 -/
def NonBlankStart (c : Bytes) : Prop :=
  ∃ b r, c = b :: r ∧ ¬ b ≤ 0x20 ∧ ¬ ([0xE3, 0x80, 0x80] <+: c)

theorem NonBlankStart.take {c : Bytes} (h : NonBlankStart c) (n : Nat) (hn : 0 < n) :
    NonBlankStart (c.take n) := by
  obtain ⟨b, r, hc, hb, hp⟩ := h
  subst hc
  cases n with
  | zero => omega
  | succ m =>
    refine ⟨b, r.take m, by simp, hb, ?_⟩
    intro hpre
    apply hp
    exact List.IsPrefix.trans hpre (List.take_prefix _ _)

theorem countLeadingWs_split (l : Bytes) :
    BlankUnits (l.take (countLeadingWs l)) ∧
      (l.drop (countLeadingWs l) = [] ∨ NonBlankStart (l.drop (countLeadingWs l))) := by
  fun_induction countLeadingWs l with
  | case1 => exact ⟨.nil, Or.inl rfl⟩
  | case2 r ih => exact ⟨.wide _ ih.1, ih.2⟩
  | case3 b r _ hle ih => exact ⟨.blank b _ hle ih.1, ih.2⟩
  | case4 b r hne hle =>
    refine ⟨.nil, Or.inr ⟨b, r, rfl, hle, ?_⟩⟩
    rintro ⟨t, ht⟩
    cases ht
    exact hne t rfl rfl

/-- the value of the forward scan: it takes a sequence of blank units off a text that goes on with none -/
theorem countLeadingWs_append {w c : Bytes} (hw : BlankUnits w) (hc : c = [] ∨ NonBlankStart c) :
    countLeadingWs (w ++ c) = w.length := by
  induction hw with
  | nil =>
    rcases hc with rfl | ⟨b, r, rfl, hb, hp⟩
    · rfl
    · rw [List.nil_append, countLeadingWs.eq_3 _ _ (fun r' hb' hr => hp ⟨r', by rw [hb', hr]; rfl⟩), if_neg hb]; rfl
  | blank b w hb _ ih =>
    rw [List.cons_append, countLeadingWs.eq_3 _ _ (fun r' e _ => absurd (e ▸ hb) (by decide)), if_pos hb, ih]; rfl
  | wide w _ ih => simp [countLeadingWs, ih]

theorem blankUnits_leadingWs (l : Bytes) : BlankUnits (l.take (countLeadingWs l)) :=
  (countLeadingWs_split l).1

theorem countLeadingWs_le (s : Bytes) : countLeadingWs s ≤ s.length := by
  fun_induction countLeadingWs s <;> simp <;> omega

theorem drop_countLeadingWs (l : Bytes) :
    l.drop (countLeadingWs l) = [] ∨ NonBlankStart (l.drop (countLeadingWs l)) :=
  (countLeadingWs_split l).2

theorem Gap.leadingWs (l : Bytes) : Gap (l.take (countLeadingWs l)) := (blankUnits_leadingWs l).gap

theorem trimEnd_decomp (p : UInt8 → Bool) (s : Bytes) :
    ∃ tail, s = (s.reverse.dropWhile p).reverse ++ tail ∧ ∀ b ∈ tail, p b = true :=
  ⟨(s.reverse.takeWhile p).reverse, by rw [← List.reverse_append, List.takeWhile_append_dropWhile, List.reverse_reverse],
    fun b hb => List.all_eq_true.mp List.all_takeWhile b (List.mem_reverse.1 hb)⟩

end Pasfmt
