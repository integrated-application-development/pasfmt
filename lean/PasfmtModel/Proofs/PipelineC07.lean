/-
  C07 at the level of the whole pipeline: tokens that the ignorers mark reach the reconstructor with
  their scanned whitespace and text intact (no rule can touch them; the wrapper stage keeps them by
  contract), and the reconstructor emits a marked run verbatim.
-/
import PasfmtModel.Proofs.PipelineC01
import PasfmtModel.Proofs.ReconProps

namespace Pasfmt

/-- the wrapper stage keeps ignored tokens (flag, whitespace, text) and ignores no further token -/
def WrapKeepsIgnored (O : Oracles) : Prop :=
  ∀ cfg lines ft, All2 (fun (t t' : FTok) => t'.fmt.ignored = t.fmt.ignored ∧
    (t.fmt.ignored = true → t'.tok.ws = t.tok.ws ∧ t'.tok.content = t.tok.content)) ft (O.wrap cfg lines ft)

/-- a run of tokens that are ignored and carry their scanned whitespace and text: its verbatim text is the scanned text -/
theorem froz_run {rs : List RawTok} {run : FT}
    (h : All2 (fun r t => t.fmt.ignored = true ∧ t.tok.ws = r.ws ∧ t.tok.content = r.content) rs run) :
    (∀ t ∈ run, t.fmt.ignored = true) ∧ verbatimText run = rs.flatMap (fun r => r.ws ++ r.content) :=
  ⟨fun t ht => let ⟨_, _, h⟩ := all2_mem_right h t ht; h.1,
   (h.flatMap_eq fun _ _ hpt => by rw [hpt.2.1, hpt.2.2]).symm⟩

/-- **C07 for the whole pipeline.**  For every input token list, every parser behaviour and every wrapper
    behaviour that keeps ignored tokens: if the tokens at positions `[a, b)` are all marked by the
    ignorers (formatting toggles, asm instruction lines) and the safety-net line break does not fire
    inside that run, then the output contains, contiguously, exactly the scanned whitespace and text of
    those tokens — whatever the configuration. -/
theorem formatTokens_verbatim (cfg : Config) (O : Oracles) (hK : WrapKeepsIgnored O) (raw : List RawTok)
    (a b : Nat) (hab : a ≤ b)
    (hmark : ∀ i, a ≤ i → i < b → (preWrap O raw).1.getD i false = true)
    (hsafe : safeRun (mbAfter false ((O.wrap cfg (preWrap O raw).2.1 (preWrap O raw).2.2).take a))
      (((O.wrap cfg (preWrap O raw).2.1 (preWrap O raw).2.2).take b).drop a) = true) :
    ∃ (before after : Bytes),
      formatTokens cfg O raw = before ++ ((raw.take b).drop a).flatMap (fun r => r.ws ++ r.content) ++ after := by
  have hw := hK cfg (preWrap O raw).2.1 (preWrap O raw).2.2
  rw [formatTokens_eq]
  generalize O.wrap cfg (preWrap O raw).2.1 (preWrap O raw).2.2 = ft2 at hsafe hw ⊢
  have hlen : ft2.length = raw.length := (all2_length hw).symm.trans (preWrap_length O raw)
  -- a marked token reaches the reconstructor ignored, with its scanned blanks and text
  obtain ⟨hign, hverb⟩ := froz_run (rs := (raw.take b).drop a) (run := (ft2.take b).drop a) <| by
    refine .of_getElem? (by simp [hlen]) fun i r hi => ?_
    rw [List.getElem?_drop, List.getElem?_take] at hi
    split at hi
    · rename_i hlt
      obtain ⟨t1, ht1, pt⟩ := preWrap_get O raw hi
      obtain ⟨t2, ht2, hi2, hk2⟩ := all2_getElem? hw ht1
      have hm : t1.fmt.ignored = true := pt.ign.trans (hmark _ (Nat.le_add_right a i) hlt)
      refine ⟨t2, by rw [List.getElem?_drop, List.getElem?_take, if_pos hlt]; exact ht2, hi2.trans hm, ?_⟩
      rcases pt.text with e | ⟨hf, _⟩
      · exact ⟨(hk2 hm).1.trans e.1, (hk2 hm).2.trans e.2⟩
      · rw [pt.ign, hf] at hm; cases hm
    · cases hi
  refine ⟨reconGo cfg.settings false (ft2.take a),
    reconGo cfg.settings (mbAfter (mbAfter false (ft2.take a)) ((ft2.take b).drop a)) (ft2.drop b), ?_⟩
  rw [← hverb, ← reconstruct_verbatim_run cfg.settings _ _ _ hign hsafe, List.drop_take, ← List.take_add,
    Nat.add_sub_cancel' hab, List.take_append_drop]

end Pasfmt
