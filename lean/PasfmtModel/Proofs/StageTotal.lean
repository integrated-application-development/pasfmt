/-
  The wrapper stage never aborts (C04, closed model): `wrapStageFull` answers on well-formed lines.
  `none` results of the stage's functions stand for panics of the real code: `applySol` (a decision without a token, a
  child line that does not exist, a token index without formatting data), `mlsLine` (a token index without formatting
  data), `topParent` (a parent index out of range or a parent cycle).
-/
import PasfmtModel.Proofs.StageToken

namespace Pasfmt

/-- the lines are well formed for `n` tokens: every token index of every line is below `n`, and the parent of a line
    (if it has one) is an EARLIER line -/
def LinesOk (lines : List Line) (n : Nat) : Prop :=
  ∀ x ∈ lines.zipIdx, (∀ t ∈ x.1.tokens, t < n) ∧ ∀ p ∈ x.1.parent, p.lineIndex < x.2

instance (lines : List Line) (n : Nat) : Decidable (LinesOk lines n) := by
  unfold LinesOk; infer_instance

theorem LinesOk.tokens {lines : List Line} {n : Nat} (h : LinesOk lines n) {i : Nat} {l : Line}
    (hl : lines[i]? = some l) : ∀ t ∈ l.tokens, t < n :=
  (h (l, i) (List.mem_zipIdx_iff_getElem?.2 hl)).1

theorem LinesOk.parent {lines : List Line} {n : Nat} (h : LinesOk lines n) {i : Nat} {l : Line}
    (hl : lines[i]? = some l) {p : LineParent} (hp : l.parent = some p) : p.lineIndex < i :=
  (h (l, i) (List.mem_zipIdx_iff_getElem?.2 hl)).2 p hp

theorem linesOk_iff (lines : List Line) (n : Nat) :
    LinesOk lines n ↔ ∀ (i : Nat) (l : Line), lines[i]? = some l →
      (∀ t ∈ l.tokens, t < n) ∧ ∀ p : LineParent, l.parent = some p → p.lineIndex < i := by
  constructor
  · intro h i l hl
    exact ⟨h.tokens hl, fun p hp => h.parent hl hp⟩
  · intro h x hx
    obtain ⟨l, i⟩ := x
    have hl := List.mem_zipIdx_iff_getElem?.1 hx
    exact ⟨(h i l hl).1, fun p hp => (h i l hl).2 p hp⟩

theorem topParent_total_aux (lines : List Line) (n : Nat) (h : LinesOk lines n) :
    ∀ (fuel i : Nat), i < fuel → i < lines.length → ∃ p, topParent lines fuel i = some p ∧ p < lines.length := by
  intro fuel
  induction fuel with
  | zero => intro i hi; omega
  | succ f ih =>
    intro i hi hlen
    unfold topParent
    have hl : lines[i]? = some lines[i] := List.getElem?_eq_getElem hlen
    rw [hl]
    simp only
    split
    · exact ⟨i, rfl, hlen⟩
    · rename_i p hp
      have := h.parent hl hp
      exact ih p.lineIndex (by omega) (by omega)

theorem mlsLine_total (S : Settings) : ∀ (toks : List Nat) (ft : FT), (∀ t ∈ toks, t < ft.length) →
    ∃ ft1 ch, mlsLine S toks ft = some (ft1, ch) ∧ ft1.length = ft.length := by
  intro toks
  induction toks with
  | nil => intro ft _; exact ⟨ft, false, rfl, rfl⟩
  | cons idx rest ih =>
    intro ft h
    have hidx : idx < ft.length := h idx List.mem_cons_self
    obtain ⟨ft2, ch, h2, hl2⟩ := ih (ft.set idx (mlsUpd S ft[idx]))
      (fun t ht => by rw [List.length_set]; exact h t (List.mem_cons_of_mem _ ht))
    exact ⟨ft2, _, mlsLine_cons_eq_some.2 ⟨ft[idx], ch, List.getElem?_eq_getElem hidx, h2, rfl⟩,
      hl2.trans List.length_set⟩

theorem mlsPass1_total (S : Settings) (lines : List Line) (n : Nat) (h : LinesOk lines n) :
    ∀ (ls : List (Line × Nat)) (ft : FT) (acc : List Nat), (∀ x ∈ ls, x ∈ lines.zipIdx) → ft.length = n →
    ∃ ft1 out, mlsPass1 S lines ls ft acc = some (ft1, out) ∧ ft1.length = n := by
  intro ls
  induction ls with
  | nil => intro ft acc _ hn; exact ⟨ft, acc, rfl, hn⟩
  | cons x rest ih =>
    intro ft acc hls hn
    obtain ⟨l, i⟩ := x
    have hl : lines[i]? = some l := List.mem_zipIdx_iff_getElem?.1 (hls _ List.mem_cons_self)
    obtain ⟨ft1, ch, h1, hl1⟩ := mlsLine_total S l.tokens ft (fun t ht => by rw [hn]; exact h.tokens hl t ht)
    have hrest : ∀ x ∈ rest, x ∈ lines.zipIdx := fun x hx => hls x (List.mem_cons_of_mem _ hx)
    cases ch with
    | false =>
      obtain ⟨ft2, out, h2, hl2⟩ := ih ft1 acc hrest (hl1.trans hn)
      exact ⟨ft2, out, by rw [mlsPass1, h1]; exact h2, hl2⟩
    | true =>
      have hi := getElem?_lt_of_some hl
      obtain ⟨p, hp, _⟩ := topParent_total_aux lines n h (lines.length + 1) i (by omega) hi
      obtain ⟨ft2, out, h2, hl2⟩ := ih ft1 (acc ++ [p]) hrest (hl1.trans hn)
      exact ⟨ft2, out, by rw [mlsPass1, h1, hp]; exact h2, hl2⟩

theorem mlsPass2_total (S : Settings) (n : Nat) :
    ∀ (ls : List Line) (ft : FT), (∀ l ∈ ls, ∀ t ∈ l.tokens, t < n) → ft.length = n →
    ∃ ft1, mlsPass2 S ls ft = some ft1 ∧ ft1.length = n := by
  intro ls
  induction ls with
  | nil => intro ft _ hn; exact ⟨ft, rfl, hn⟩
  | cons l rest ih =>
    intro ft hls hn
    obtain ⟨ft1, ch, h1, hl1⟩ := mlsLine_total S l.tokens ft (fun t ht => by rw [hn]; exact hls l List.mem_cons_self t ht)
    obtain ⟨ft2, h2, hl2⟩ := ih ft1 (fun l' hl' => hls l' (List.mem_cons_of_mem _ hl')) (hl1.trans hn)
    exact ⟨ft2, by rw [mlsPass2, h1]; exact h2, hl2⟩

theorem LinesOk.all_tokens {lines : List Line} {n : Nat} (h : LinesOk lines n) : ∀ l ∈ lines, ∀ t ∈ l.tokens, t < n := by
  intro l hl
  obtain ⟨i, hi, rfl⟩ := List.mem_iff_getElem.1 hl
  exact h.tokens (List.getElem?_eq_getElem hi)

/-- the shape of a solution fits the lines: its line exists, it has at most as many decisions as the line has tokens,
    the line's token indices are below `n`, and every solution of a child line fits that child line -/
inductive SolFits (lines : List Line) (n : Nat) : Sol → Nat → Prop
  | mk (ind cont : Nat) (decs : List (Dec × List (Nat × Sol))) (i : Nat) (l : Line)
      (hl : lines[i]? = some l) (hlen : decs.length ≤ l.tokens.length) (htok : ∀ t ∈ l.tokens, t < n)
      (hrec : ∀ d ∈ decs, ∀ x ∈ d.2, SolFits lines n x.2 x.1) : SolFits lines n (.mk ind cont decs) i

theorem setFmt_total (ft : FT) (i : Nat) (g : FmtData → FmtData) (hi : i < ft.length) :
    ∃ ft1, setFmt ft i g = some ft1 ∧ ft1.length = ft.length :=
  ⟨_, setFmt_eq_some.2 ⟨ft[i], List.getElem?_eq_getElem hi, rfl⟩, List.length_set⟩

mutual
/-- applying a solution whose shape fits the lines answers (no decision without a token, no missing child line, no
    token index without formatting data) and keeps the number of tokens -/
theorem applySol_total (lines : List Line) (n : Nat) (ft : FT) (s : Sol) (i : Nat)
    (h : SolFits lines n s i) (hn : ft.length = n) : ∃ ft1, applySol lines ft s i = some ft1 ∧ ft1.length = n := by
  cases h with
  | mk ind cont decs _ l hl hlen htok hrec =>
    obtain ⟨ft1, h1, hl1⟩ := applyDecs_total lines n ind cont l.tokens 0 ft decs (by omega) htok hrec hn
    exact ⟨ft1, applySol_eq_some.2 ⟨l, hl, h1⟩, hl1⟩

theorem applyDecs_total (lines : List Line) (n : Nat) (ind cont : Nat) (toks : List Nat) (i : Nat) (ft : FT)
    (decs : List (Dec × List (Nat × Sol))) (hlen : i + decs.length ≤ toks.length) (htok : ∀ t ∈ toks, t < n)
    (hrec : ∀ d ∈ decs, ∀ x ∈ d.2, SolFits lines n x.2 x.1) (hn : ft.length = n) :
    ∃ ft1, applyDecs lines ind cont toks i ft decs = some ft1 ∧ ft1.length = n := by
  cases decs with
  | nil => exact ⟨ft, by rw [applyDecs], hn⟩
  | cons dk rest =>
    obtain ⟨d, children⟩ := dk
    simp only [List.length_cons] at hlen
    have hi : i < toks.length := by omega
    obtain ⟨fta, ha, hla⟩ := setFmt_total ft toks[i] (fun f => applyDec f (i == 0) ind cont d)
      (by rw [hn]; exact htok _ (List.getElem_mem hi))
    obtain ⟨ftb, hb, hlb⟩ := applyChildren_total lines n fta children
      (hrec (d, children) List.mem_cons_self) (hla.trans hn)
    obtain ⟨ftc, hc, hlc⟩ := applyDecs_total lines n ind cont toks (i + 1) ftb rest (by omega) htok
      (fun d' hd' => hrec d' (List.mem_cons_of_mem _ hd')) hlb
    exact ⟨ftc, applyDecs_cons_eq_some.2 ⟨_, fta, ftb, List.getElem?_eq_getElem hi, ha, hb, hc⟩, hlc⟩

theorem applyChildren_total (lines : List Line) (n : Nat) (ft : FT) (ks : List (Nat × Sol))
    (hrec : ∀ x ∈ ks, SolFits lines n x.2 x.1) (hn : ft.length = n) :
    ∃ ft1, applyChildren lines ft ks = some ft1 ∧ ft1.length = n := by
  cases ks with
  | nil => exact ⟨ft, by rw [applyChildren], hn⟩
  | cons k rest =>
    obtain ⟨li, s⟩ := k
    obtain ⟨fta, ha, hla⟩ := applySol_total lines n ft s li (hrec (li, s) List.mem_cons_self) hn
    obtain ⟨ftb, hb, hlb⟩ := applyChildren_total lines n fta rest (fun x hx => hrec x (List.mem_cons_of_mem _ hx)) hla
    exact ⟨ftb, applyChildren_cons_eq_some.2 ⟨fta, ha, hb⟩, hlb⟩
end

/-- the search returns only solutions whose shape fits the lines, from every state reachable in the stage (`P`) -/
def SearchFits (lines : List Line) (n : Nat) (P : SearchState → Prop) : Prop :=
  ∀ st ft i, P st → ft.length = n →
    P (searchSolve st ft i).2 ∧ ∀ s, (searchSolve st ft i).1 = some s → SolFits lines n s i

section
variable {cfg : Config} {lines : List Line} {P : SearchState → FT → Prop} {Q : Nat → Sol → Prop} {n : Nat}
  (I : StageInv lines P Q) (hfit : ∀ i s, Q i s → SolFits lines n s i)
include I hfit

/-- applying the solutions of a list of top-level lines answers when the search returns fitting solutions -/
theorem applyLinesS_total (phase : Nat) :
    ∀ (is : List Nat) (st : SearchState) (ft : FT) (acc : List (Nat × Nat × Sol)), P st ft → ft.length = n →
    ∃ ft1 st1 sols, applyLinesS phase lines is st ft acc = some (ft1, st1, sols) ∧ ft1.length = n ∧ P st1 ft1 := by
  intro is
  induction is with
  | nil => intro st ft acc hp hn; exact ⟨ft, st, acc, rfl, hn, hp⟩
  | cons i rest ih =>
    intro st ft acc hp hn
    obtain ⟨hp', hq⟩ := I.solve i hp
    rcases hs : searchSolve st ft i with ⟨_ | s, st'⟩
    · rw [hs] at hp'
      obtain ⟨ft1, st1, sols, h1, r⟩ := ih st' ft acc hp' hn
      exact ⟨ft1, st1, sols, by rw [applyLinesS, hs]; exact h1, r⟩
    · rw [hs] at hp' hq
      obtain ⟨fta, ha, hla⟩ := applySol_total lines n ft s i (hfit i s (hq s rfl)) hn
      obtain ⟨ft1, st1, sols, h1, r⟩ := ih st' fta (acc ++ [(phase, i, s)]) (I.apply hp' ha) hla
      exact ⟨ft1, st1, sols, by simp only [applyLinesS, hs, ha]; exact h1, r⟩

/-- the wrapper stage answers on well-formed lines if every solution the search returns fits the lines -/
theorem wrapStageFull_total_of {ft : FT} (hn : ft.length = n) (hL : LinesOk lines n) (h0 : P (searchInit cfg lines ft) ft) :
    ∃ r, wrapStageFull cfg lines ft = some r := by
  obtain ⟨ft1, st1, sols1, h1, hl1, hp1⟩ := applyLinesS_total I hfit 0 (firstPassLines lines) _ ft [] h0 hn
  cases hm : cfg.fmtMls with
  | false => exact ⟨_, wrapStageFull_eq_some.2 ⟨ft1, st1, sols1, h1, Or.inl ⟨hm, rfl, rfl⟩⟩⟩
  | true =>
    obtain ⟨ft2, out, h2, hl2⟩ := mlsPass1_total cfg.settings lines n hL lines.zipIdx ft1 [] (fun _ h => h) hl1
    obtain ⟨ft3, st3, sols3, h3, hl3, _⟩ := applyLinesS_total I hfit 1 (sortDedup out) st1 ft2 sols1 (I.mls hp1 h2) hl2
    obtain ⟨ft4, h4, _⟩ := mlsPass2_total cfg.settings n lines ft3 hL.all_tokens hl3
    exact ⟨_, wrapStageFull_eq_some.2 ⟨ft1, st1, sols1, h1, Or.inr ⟨hm, ft2, out, ft3, st3, ft4, h2, h3, h4, rfl⟩⟩⟩

end

end Pasfmt
