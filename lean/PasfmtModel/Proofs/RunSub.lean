/-
  Which sub-lexer a byte selects (`dispatch`: the two generated tables read as a function of the class of the byte)
  and what every sub-lexer of `runSub` returns (`runSub_spec`): an answer (the directive scanner's fuel suffices), a
  kind and assembler mode from its row of `SubOut`, and a token length that is positive, inside the text and at an
  `Ends` offset.  `lex_total` and `lexWith_char_boundaries` are folds of this over the scanner loop; the facts about
  kinds and the assembler mode are read off `SubOut`.
-/
import PasfmtModel.Proofs.LexSpecs2

namespace Pasfmt

/-! ### which sub-lexer a byte selects -/

/-- the sub-lexer of a byte that is neither a letter, a digit nor non-ASCII -/
def punctSub (asm : Bool) : UInt8 → SubLexer
  | 0x22 => if asm then .asm_text_literal else .unknown
  | 0x40 => if asm then .asm_label else .address_of
  | 0x27 | 0x23 => .text_literal
  | 0x24 => .hex_number_literal
  | 0x25 => .binary_number_literal
  | 0x26 => .ampersand
  | 0x28 => .l_paren
  | 0x29 => .r_paren
  | 0x2A => .star
  | 0x2B => .plus
  | 0x2C => .comma
  | 0x2D => .minus
  | 0x2E => .dot
  | 0x2F => .slash
  | 0x3A => .colon
  | 0x3B => .semicolon
  | 0x3C => .l_angle
  | 0x3D => .equal
  | 0x3E => .r_angle
  | 0x5B => .l_brack
  | 0x5D => .r_brack
  | 0x5E => .caret
  | 0x5F => .identifier
  | 0x7B => .l_brace
  | _ => .unknown

/-- The two generated dispatch tables (`LEXER_MAP`, `ASM_LEXER_MAP`) read as one function of the class of the byte,
    inside (`asm = true`) and outside `asm` blocks.  `punctSub` is a `match` and not a chain of `if`s: `split` on a
    chain of thirty runs out of steps. -/
def dispatch (asm : Bool) (b : UInt8) : SubLexer :=
  if isAlpha b then
    if asm then (if b = 0x61 ∨ b = 0x41 ∨ b = 0x65 ∨ b = 0x45 then .asm_identifier else .identifier)
    else .identifier_or_keyword
  else if isDigit b then (if asm then .asm_number_literal else .dec_number_literal)
  else if b ≥ 0x80 then .unicode_identifier
  else punctSub asm b

/-- the one comparison of the tables with their reading (one pass over each) -/
theorem dispatch_eq (asm : Bool) (b : UInt8) :
    (if asm then asmLexerMap else lexerMap).getD b.toNat .unknown = dispatch asm b := by
  cases asm
  · exact byteTable_forall lexerMap _ (fun b s => s = dispatch false b) (by decide +kernel) (by decide +kernel) b
  · exact byteTable_forall asmLexerMap _ (fun b s => s = dispatch true b) (by decide +kernel) (by decide +kernel) b

theorem dispatch_alpha {b : UInt8} (asm : Bool) (h : isAlpha b = true) :
    dispatch asm b =
      if asm then (if b = 0x61 ∨ b = 0x41 ∨ b = 0x65 ∨ b = 0x45 then .asm_identifier else .identifier)
      else .identifier_or_keyword := by
  rw [dispatch, if_pos h]

theorem dispatch_digit {b : UInt8} (asm : Bool) (h : isDigit b = true) :
    dispatch asm b = if asm then .asm_number_literal else .dec_number_literal := by
  rw [dispatch, if_neg (by rw [((byteClass_disjoint b).1 h).2.2]; exact Bool.false_ne_true), if_pos h]

theorem punctSub_cases (asm : Bool) (b : UInt8) :
    (punctSub asm b = .text_literal → b = 0x27 ∨ b = 0x23) ∧ punctSub asm b ≠ .identifier_or_keyword ∧
      punctSub asm b ≠ .asm_identifier := by
  unfold punctSub
  split <;> first | (split <;> simp) | simp

/-- the word sub-lexers are selected by letters only, the text-literal sub-lexer by `'` and `#` only -/
structure DispatchCases (asm : Bool) (b : UInt8) : Prop where
  word : dispatch asm b = .identifier_or_keyword → asm = false ∧ isAlpha b = true
  asmWord : dispatch asm b = .asm_identifier → asm = true ∧ isAlpha b = true
  text : dispatch asm b = .text_literal → b = 0x27 ∨ b = 0x23

theorem dispatch_cases (asm : Bool) (b : UInt8) : DispatchCases asm b := by
  have hp := punctSub_cases asm b
  suffices h : (dispatch asm b = .identifier_or_keyword → asm = false ∧ isAlpha b = true) ∧
      (dispatch asm b = .asm_identifier → asm = true ∧ isAlpha b = true) ∧
      (dispatch asm b = .text_literal → b = 0x27 ∨ b = 0x23) from ⟨h.1, h.2.1, h.2.2⟩
  unfold dispatch
  split
  · rename_i ha
    cases asm
    · exact ⟨fun _ => ⟨rfl, ha⟩, nofun, nofun⟩
    · rw [if_pos rfl]; split <;> exact ⟨nofun, fun _ => ⟨rfl, ha⟩, nofun⟩
  split
  · cases asm <;> exact ⟨nofun, nofun, nofun⟩
  split
  · exact ⟨nofun, nofun, nofun⟩
  · exact ⟨fun h => absurd h hp.2.1, fun h => absurd h hp.2.2, hp.1⟩

theorem dispatch_ascii (asm : Bool) (b : UInt8) (h : dispatch asm b ≠ .unicode_identifier) : b < 0x80 := by
  apply Decidable.byContradiction
  intro hb
  have hge : b ≥ 0x80 := UInt8.not_lt.1 hb
  have hc := (byteClass_disjoint b).2.2 hge
  exact h (by simp [dispatch, hc.2.2.1, hc.2.2.2.1, hge])

theorem asmIdentCharSet_eq : (fun x : UInt8 => asmIdentCharSet.getD x.toNat false) = isAsmLabelByte :=
  funext (byteTable_forall asmIdentCharSet _ (fun b v => v = isAsmLabelByte b) (by decide +kernel) (by decide +kernel))

/-- A length the scanner may give the token that starts at `b :: r`: positive, inside the text, and
    an `Ends` offset if the start of the text's trailing blanks (`trim` bytes) is one. -/
structure TokLen (b : UInt8) (r : Bytes) (trim n : Nat) : Prop where
  pos : 1 ≤ n
  le : n ≤ r.length + 1
  ends : Ends (b :: r) (r.length + 1 - trim) → Ends (b :: r) n

variable {b c : UInt8} {r t : Bytes} {trim m : Nat}

theorem EndsIn.cons_notCont (h : NotContAt r m) (hm : m ≤ r.length) : EndsIn (b :: r) (1 + m) :=
  ⟨by simp only [List.length_cons]; omega, .of_notCont (notContAt_drop (l := b :: r) (k := 1) h)⟩

theorem TokLen.of_endsIn (h : EndsIn (b :: r) (1 + m)) : TokLen b r trim (1 + m) :=
  ⟨by omega, h.le, fun _ => h.ends⟩

theorem TokLen.notCont (h : NotContAt r m) (hm : m ≤ r.length) : TokLen b r trim (1 + m) :=
  .of_endsIn (.cons_notCont h hm)

theorem TokLen.cons (hb : b < 0x80) (h : Ends r m) (hm : m ≤ r.length) : TokLen b r trim (1 + m) :=
  ⟨by omega, by omega, fun _ => Ends.cons_ascii hb h⟩

theorem TokLen.ascii (hb : b < 0x80) (h : AsciiUpTo r m) : TokLen b r trim (1 + m) :=
  .cons hb h.ends h.le

theorem TokLen.one (hb : b < 0x80) : TokLen b r trim 1 := .ascii hb (.zero r)

theorem TokLen.two (hb : b < 0x80) (hc : c < 0x80) : TokLen b (c :: t) trim 2 :=
  .ascii hb (.cons hc (.zero t))

theorem TokLen.seq {k n : Nat} (hpre : AsciiUpTo (b :: r) (1 + k)) (h : EndsIn ((b :: r).drop (1 + k)) n) :
    TokLen b r trim (1 + k + n) := by
  have := (hpre.endsIn.seq h).le
  exact ⟨by omega, by simpa only [List.length_cons] using this, fun _ => hpre.ends.seq h.ends⟩

/-- a comment or directive token behind the opener `b :: pre`: cut at the trailing blanks of the text (unterminated),
    or ending `e` bytes into `l` -/
theorem TokLen.cut_or_endsIn {pre l : Bytes} {n : Nat} (htrim : trim ≤ (pre ++ l).length)
    (h : n = (pre ++ l).length + 1 - trim ∨ ∃ e, n = pre.length + 1 + e ∧ 1 ≤ e ∧ EndsIn l e) :
    TokLen b (pre ++ l) trim n := by
  rcases h with rfl | ⟨e, rfl, hpos, he⟩
  · exact ⟨by omega, by omega, id⟩
  · have he := EndsIn.shift (l := b :: (pre ++ l)) (k := pre.length + 1)
      (by rw [List.drop_succ_cons, List.drop_left]; exact he) hpos
    exact ⟨by omega, he.le, fun _ => he.ends⟩

theorem TokLen.directive {pre l : Bytes} {kind : BlockCommentKind} {n : Nat}
    {k : Option ConditionalDirectiveKind} (htrim : trim ≤ (pre ++ l).length)
    (h : compilerDirective trim kind (pre.length + 1) ((pre ++ l).length + 1) l = some (n, k)) :
    TokLen b (pre ++ l) trim n :=
  .cut_or_endsIn htrim ((compilerDirective_iff _ _ _ _ _ _).1 h).endsIn

theorem TokLen.blockComment {pre l : Bytes} {kind : BlockCommentKind} {nlb : Bool}
    (htrim : trim ≤ (pre ++ l).length) :
    TokLen b (pre ++ l) trim (blockComment trim kind (pre.length + 1) ((pre ++ l).length + 1) nlb l).1 :=
  .cut_or_endsIn htrim (blockComment_sat ..).endsIn

theorem unicodeIdent_endsIn :
    EndsIn (b :: r) (1 + (countWhile isCont r + identLen (r.drop (countWhile isCont r)))) := by
  refine .cons_notCont (notContAt_drop (identLen_notCont _)) ?_
  have := countWhile_le isCont r
  have := identLen_le (r.drop (countWhile isCont r))
  simp only [List.length_drop] at this
  omega

/-! ### what a sub-lexer returns -/

/-- kinds that neither switch the assembler mode nor are text literals: operators, numbers, comments,
    directives, identifiers, unknown bytes -/
def RawTokenType.isPlain : RawKind → Bool
  | .rOp _ | .rNumberLiteral _ | .rComment _ | .rCompilerDirective | .rConditionalDirective _ | .rIdentifier
  | .rUnknown => true
  | _ => false

/-- kind and assembler mode of what a sub-lexer returns: the two word scanners consult the keyword table resp.
    `asm`/`end` and switch the mode, the two text-literal scanners return the kind their function finds, every other
    sub-lexer returns a plain kind and keeps the mode -/
def SubOut (st : LexState) (sub : SubLexer) (b : UInt8) (r : Bytes) (o : LexOut) : Prop :=
  match sub with
  | .identifier_or_keyword =>
    o.len = 1 + identLen r ∧ o.inAsm = (o.kind == .rKeyword .kAsm) ∧
      o.kind = if st.prevReal == some (.rOp .oDot) then .rIdentifier else wordKind ((b :: r).take (1 + identLen r))
  | .asm_identifier =>
    o.inAsm = (st.inAsm && o.kind != .rKeyword .kEnd) ∧
      (o.kind = .rIdentifier ∨ o.kind = .rKeyword .kEnd ∨ o.kind = .rKeyword .kAsm)
  | .text_literal =>
    o.inAsm = st.inAsm ∧ o.len = (textLiteral (b :: r)).1 ∧ o.kind = .rTextLiteral (textLiteral (b :: r)).2
  | .asm_text_literal => o.inAsm = st.inAsm ∧ o.kind = .rTextLiteral (asmTextLiteralRest r).2
  | _ => o.inAsm = st.inAsm ∧ o.kind.isPlain = true

theorem dirKind_plain (k : Option ConditionalDirectiveKind) : (dirKind k).isPlain = true := by cases k <;> rfl

theorem ampFollow_endsIn (l : Bytes) : EndsIn l (ampFollow l).1 ∧ (ampFollow l).2.isPlain = true := by
  fun_cases ampFollow l
  case case1 c r h => exact ⟨(AsciiUpTo.cons (by rw [beq_iff_eq.1 h]; decide) (countHex_ascii r)).endsIn, rfl⟩
  case case2 c r _ h => exact ⟨(AsciiUpTo.cons (by rw [beq_iff_eq.1 h]; decide) (countBinary_ascii r)).endsIn, rfl⟩
  case case3 c r _ _ h => exact ⟨(AsciiUpTo.cons (isDigit_ascii h) (decNumberRest_ascii r)).endsIn, rfl⟩
  case case4 c r _ _ _ _ => exact ⟨.cons_notCont (identLen_notCont r) (identLen_le r), rfl⟩
  case case5 c r _ _ _ _ _ => exact ⟨unicodeIdent_endsIn, rfl⟩
  all_goals exact ⟨⟨Nat.zero_le _, .zero _⟩, rfl⟩

theorem SubOut.mode_other {st : LexState} {sub : SubLexer} {b : UInt8} {r : Bytes} {o : LexOut}
    (h : SubOut st sub b r o) (h1 : sub ≠ .identifier_or_keyword) (h2 : sub ≠ .asm_identifier) :
    o.inAsm = st.inAsm ∧ ∀ kw, o.kind ≠ .rKeyword kw := by
  cases sub <;> simp only [SubOut] at h
  case identifier_or_keyword => exact absurd rfl h1
  case asm_identifier => exact absurd rfl h2
  case text_literal => exact ⟨h.1, fun kw hk => by rw [h.2.2] at hk; cases hk⟩
  case asm_text_literal => exact ⟨h.1, fun kw hk => by rw [h.2] at hk; cases hk⟩
  all_goals exact ⟨h.1, fun kw hk => by rw [hk] at h; exact absurd h.2 Bool.false_ne_true⟩

theorem SubOut.ne_eof {st : LexState} {sub : SubLexer} {b : UInt8} {r : Bytes} {o : LexOut}
    (h : SubOut st sub b r o) : o.kind ≠ .rEof := by
  intro hk
  cases sub <;> simp only [SubOut, hk] at h
  case identifier_or_keyword =>
    have h := h.2.2
    split at h
    · cases h
    · exact wordKind_ne_eof _ h.symm
  case asm_identifier => rcases h.2 with h | h | h <;> cases h
  case text_literal => cases h.2.2
  case asm_text_literal => cases h.2
  all_goals exact absurd h.2 Bool.false_ne_true

theorem asmTextLiteralRest_not_multi (l : Bytes) : (asmTextLiteralRest l).2 ≠ .tMultiLine := by
  have h := asmTextLiteralRest_sat l
  generalize asmTextLiteralRest l = x at h
  cases h <;> nofun

theorem SubOut.multi {st : LexState} {sub : SubLexer} {b : UInt8} {r : Bytes} {o : LexOut} (h : SubOut st sub b r o)
    (hk : o.kind = .rTextLiteral .tMultiLine) : textLiteral (b :: r) = (o.len, .tMultiLine) := by
  cases sub <;> simp only [SubOut] at h
  case identifier_or_keyword =>
    have h := hk.symm.trans h.2.2
    split at h
    · cases h
    · rcases wordKind_shape ((b :: r).take (1 + identLen r)) with h2 | ⟨k, h2⟩ | ⟨k, h2⟩ <;> (rw [h2] at h; cases h)
  case asm_identifier => rcases h.2 with h1 | h1 | h1 <;> (rw [h1] at hk; cases hk)
  case text_literal =>
    rw [h.2.2] at hk
    injection hk with hk
    rw [h.2.1, ← hk]
  case asm_text_literal =>
    rw [h.2] at hk
    injection hk with hk
    exact absurd hk (asmTextLiteralRest_not_multi r)
  all_goals rw [hk] at h; exact absurd h.2 Bool.false_ne_true

/-- **Every sub-lexer** answers, with a kind and assembler mode from its row of `SubOut` and a good token length,
    when the trailing blanks do not reach the token's first byte and the sub-lexer fits that byte (as the
    dispatch tables guarantee). -/
theorem runSub_spec (st : LexState) (sub : SubLexer) (b : UInt8) (r : Bytes) (nlb : Bool)
    (trimF : Unit → Nat) (simd : Bool) (htrim : trimF () ≤ r.length)
    (htl : sub = .text_literal → b = 0x27 ∨ b = 0x23) (hasc : sub ≠ .unicode_identifier → b < 0x80) :
    ∃ o, runSub st sub b r nlb trimF simd = some o ∧ SubOut st sub b r o ∧ TokLen b r (trimF ()) o.len := by
  have hid : TokLen b r (trimF ()) (1 + identLen r) := .notCont (identLen_notCont r) (identLen_le r)
  cases sub
  case ampersand =>
    have ha : AsciiUpTo (b :: r) (1 + countWhile (· == 0x26) r) :=
      .cons (hasc nofun) (asciiUpTo_countWhile _ (fun x hx => by rw [beq_iff_eq.1 hx]; decide) r)
    have hf := ampFollow_endsIn (r.drop (countWhile (· == 0x26) r))
    exact ⟨_, runSub_ampersand .., ⟨rfl, hf.2⟩, .seq ha (by rw [Nat.add_comm, List.drop_succ_cons]; exact hf.1)⟩
  all_goals simp only [runSub, identLenSimd_eq, ite_self, asmIdentCharSet_eq]
  case plus | minus | star | comma | semicolon | equal | caret | address_of | l_brack | r_brack | r_paren
      | unknown =>
    exact ⟨_, rfl, ⟨rfl, rfl⟩, .one (hasc nofun)⟩
  case colon | r_angle =>
    split
    · exact ⟨_, rfl, ⟨rfl, rfl⟩, .two (hasc nofun) (by decide)⟩
    · exact ⟨_, rfl, ⟨rfl, rfl⟩, .one (hasc nofun)⟩
  case l_angle | dot =>
    split
    · exact ⟨_, rfl, ⟨rfl, rfl⟩, .two (hasc nofun) (by decide)⟩
    · exact ⟨_, rfl, ⟨rfl, rfl⟩, .two (hasc nofun) (by decide)⟩
    · exact ⟨_, rfl, ⟨rfl, rfl⟩, .one (hasc nofun)⟩
  case slash =>
    split
    · rename_i r'
      refine ⟨_, rfl, ⟨rfl, rfl⟩, ?_⟩
      have h : NotContAt (0x2F :: r') (1 + lineCommentEnd r') :=
        notContAt_drop (l := 0x2F :: r') (k := 1) (lineCommentEnd_notCont r')
      have := lineCommentEnd_eq r' ▸ countWhile_le _ r'
      exact Nat.add_assoc 1 1 _ ▸ .notCont h (by simp only [List.length_cons]; omega)
    · exact ⟨_, rfl, ⟨rfl, rfl⟩, .one (hasc nofun)⟩
  case l_paren =>
    split
    · rename_i r'
      obtain ⟨⟨n, k⟩, hcd⟩ := Option.ne_none_iff_exists'.1
        (compilerDirective_ne_none (trimF ()) .parenStar 3 ((0x2A :: 0x24 :: r').length + 1) r')
      rw [hcd]
      exact ⟨_, rfl, ⟨rfl, dirKind_plain k⟩, .directive (pre := [0x2A, 0x24]) htrim hcd⟩
    · rename_i r' _
      exact ⟨_, rfl, ⟨rfl, rfl⟩, .blockComment (pre := [0x2A]) htrim⟩
    · exact ⟨_, rfl, ⟨rfl, rfl⟩, .two (hasc nofun) (by decide)⟩
    · exact ⟨_, rfl, ⟨rfl, rfl⟩, .one (hasc nofun)⟩
  case l_brace =>
    split
    · rename_i r'
      obtain ⟨⟨n, k⟩, hcd⟩ := Option.ne_none_iff_exists'.1
        (compilerDirective_ne_none (trimF ()) .brace 2 ((0x24 :: r').length + 1) r')
      rw [hcd]
      exact ⟨_, rfl, ⟨rfl, dirKind_plain k⟩, .directive (pre := [0x24]) htrim hcd⟩
    · exact ⟨_, rfl, ⟨rfl, rfl⟩, .blockComment (pre := []) htrim⟩
  case text_literal =>
    exact ⟨_, rfl, ⟨rfl, rfl, rfl⟩, textLiteral_pos b r (htl rfl), (textLiteral_endsIn (b :: r)).le,
      fun _ => (textLiteral_endsIn (b :: r)).ends⟩
  case binary_number_literal =>
    exact ⟨_, rfl, ⟨rfl, rfl⟩, .ascii (hasc nofun) (countBinary_ascii r)⟩
  case hex_number_literal =>
    exact ⟨_, rfl, ⟨rfl, rfl⟩, .ascii (hasc nofun) (countHex_ascii r)⟩
  case dec_number_literal =>
    exact ⟨_, rfl, ⟨rfl, rfl⟩, .ascii (hasc nofun) (decNumberRest_ascii r)⟩
  case identifier => exact ⟨_, rfl, ⟨rfl, rfl⟩, hid⟩
  case unicode_identifier =>
    exact ⟨_, rfl, ⟨rfl, rfl⟩, .of_endsIn unicodeIdent_endsIn⟩
  case identifier_or_keyword =>
    exact ⟨_, rfl, ⟨rfl, rfl, rfl⟩, hid⟩
  case asm_label =>
    exact ⟨_, rfl, ⟨rfl, rfl⟩, .ascii (hasc nofun) (asciiUpTo_countWhile _ (fun _ => isAsmLabelByte_ascii) r)⟩
  case asm_identifier =>
    split
    · exact ⟨_, rfl, ⟨by simp, Or.inr (Or.inl rfl)⟩, hid⟩
    split
    · exact ⟨_, rfl, ⟨by simp, Or.inr (Or.inr rfl)⟩, hid⟩
    · exact ⟨_, rfl, ⟨by simp, Or.inl rfl⟩, hid⟩
  case asm_text_literal =>
    exact ⟨_, rfl, ⟨rfl, rfl⟩, .cons (hasc nofun) (asmTextLiteralRest_sat r).endsIn.ends (asmTextLiteralRest_sat r).endsIn.le⟩
  case asm_number_literal =>
    exact ⟨_, rfl, ⟨rfl, rfl⟩, .ascii (hasc nofun) (asmNumberRest_ascii b r)⟩


end Pasfmt
