/-
  C01 for the parametrised pipeline (`formatTokens cfg O`): up to blanks and letter case the output is the scanned text.
  The state before the wrapper stage is described token by token (`PreTok`, Proofs/PreStage.lean), the wrapper is
  constrained by the frame `WrapFrame` (which the exact contract `WrapExact` implies: Proofs/MlsSim.lean), and the
  reconstructor adds blanks only.
-/
import PasfmtModel.Model.Contracts
import PasfmtModel.Proofs.PreStage
import PasfmtModel.Proofs.All2
import PasfmtModel.Proofs.RulesSim
import PasfmtModel.Proofs.FlatText
import PasfmtModel.Proofs.Settings

namespace Pasfmt

/-- what C01 needs of a formatted token relative to the scanned token it came from -/
def TokRel (r : RawTok) (t : FTok) : Prop :=
  Gap t.tok.ws ∧ nd t.tok.content = true ∧ foldStrip t.tok.content = foldStrip r.content

/-- what C01 needs of one wrapper-stage token step -/
def WrapRel (t t' : FTok) : Prop := (Gap t.tok.ws → Gap t'.tok.ws) ∧ Sim t.tok.content t'.tok.content

/-- the frame C01 asks of the wrapper component: it keeps the token vector and may only re-indent text (blank-only
    changes; checked on every run on the stage's before/after state) -/
def WrapFrame (O : Oracles) : Prop := ∀ cfg lines ft, All2 WrapRel ft (O.wrap cfg lines ft)

/-- leading whitespace that is kept or dropped stays invisible -/
theorem Gap.kept_or_dropped {a b : Bytes} (h : b = a ∨ b = []) (hg : Gap a) : Gap b := by
  rcases h with rfl | rfl
  · exact hg
  · exact Gap.nil

theorem all2B_sound {α β : Type} {f : α → β → Bool} {R : α → β → Prop} (hf : ∀ a b, f a b = true → R a b) :
    ∀ {as : List α} {bs : List β}, all2B f as bs = true → All2 R as bs
  | [], [], _ => .nil
  | [], _ :: _, h | _ :: _, [], h => by simp [all2B] at h
  | a :: as, b :: bs, h => by
    simp only [all2B, Bool.and_eq_true] at h
    exact .cons (hf a b h.1) (all2B_sound hf h.2)

/-- whitespace clause of the wrapper stage, decidable: leading whitespace kept or dropped -/
def wrapWsB (ft ft' : FT) : Bool :=
  all2B (fun t t' => t'.tok.ws == t.tok.ws || t'.tok.ws == []) ft ft'

theorem wrapWsB_sound (ft ft' : FT) (h : wrapWsB ft ft' = true) :
    All2 (fun t t' => Gap t.tok.ws → Gap t'.tok.ws) ft ft' := by
  refine all2B_sound (fun t t' h => ?_) h
  simp only [Bool.or_eq_true, beq_iff_eq] at h
  exact Gap.kept_or_dropped h

/-- **Exact wrapper contract.**  What the correspondence compares on every case (`wc`): the stage
    keeps or drops leading whitespace, keeps kinds and ignored flags, and changes a content only as
    the exact model of the string re-indenter does with the token's final counters. -/
def WrapExact (O : Oracles) : Prop :=
  ∀ cfg lines ft, wrapWsB ft (O.wrap cfg lines ft) = true ∧ wrapContentB cfg ft (O.wrap cfg lines ft) = true

theorem textRule_sim {U : Bytes → Bool} {k : Kind} {c c' : Bytes} (h : textRule U k c = some c') : Sim c c' :=
  textRule_rel sim_lower sim_formatCompilerDirective (sim_formatLineComment U) h

theorem preWrap_rel (O : Oracles) (raw : List RawTok) (hraw : ∀ r ∈ raw, Gap r.ws ∧ nd r.content = true) :
    All2 TokRel raw (preWrap O raw).2.2 :=
  preWrap_all2 O raw fun _ r _ hj p => by
    obtain ⟨hg, hn⟩ := hraw r (List.mem_of_getElem? hj)
    rcases p.text with ⟨e1, e2⟩ | ⟨_, e1, e2⟩
    · exact ⟨e1 ▸ hg, e2 ▸ hn, by rw [e2]⟩
    · exact ⟨e1 ▸ Gap.nil, textRule_sim e2 hn⟩

/-- how the content of one token may differ from the scanned text after the token-level rules (C01, second clause: the
    case of a letter changes only inside a token the parser typed as a keyword, or inside the name of a directive) -/
inductive CaseRel (k : Kind) (c c' : Bytes) : Prop
  /-- blanks only (line comments), or nothing -/
  | blanks : SimX c c' → CaseRel k c c'
  /-- a keyword, lower-cased as a whole -/
  | keyword : isKeywordKind k = true → c' = asciiLower c → CaseRel k c c'
  /-- a directive whose name is upper-cased -/
  | directive (pre name rest : Bytes) : c = pre ++ name ++ rest → c' = pre ++ asciiUpper name ++ rest →
      (pre = [0x7B, 0x24] ∨ pre = [0x28, 0x2A, 0x24]) → (∀ b ∈ name, isDirNameByte b = true) → CaseRel k c c'

/-! ### reconstruction -/

theorem gapOf_gap (S : Settings) (hS : Gap S.nlStr ∧ Gap S.indStr ∧ Gap S.contStr) (t : FTok) (mb : Bool)
    (hws : Gap t.tok.ws) : Gap (gapOf S t mb) :=
  (Concat.of_pred Gap.nil (fun _ _ => Gap.append)).gap (S' := S) ⟨hS.1, hS.2.1, hS.2.2, Gap.single (by decide)⟩
    (t' := t) rfl rfl (fun _ => ⟨rfl, hws⟩) mb

theorem reconGo_strip (S : Settings) (hS : Gap S.nlStr ∧ Gap S.indStr ∧ Gap S.contStr) (ft : FT) (mb : Bool)
    (h : ∀ t ∈ ft, Gap t.tok.ws ∧ nd t.tok.content = true) :
    stripBlank (reconGo S mb ft) = ft.flatMap (fun t => stripBlank t.tok.content) := by
  induction ft generalizing mb with
  | nil => rfl
  | cons t r ih =>
    rw [reconGo, List.flatMap_cons, List.append_assoc]
    have ht := h t (by simp)
    rw [gapOf_gap S hS t mb ht.1, nd_closed _ ht.2, ih _ (fun x hx => h x (by simp [hx]))]

theorem flatText_strip (raw : List RawTok) (h : ∀ r ∈ raw, Gap r.ws ∧ nd r.content = true) :
    stripBlank (flatText raw) = raw.flatMap (fun r => stripBlank r.content) := by
  induction raw with
  | nil => rfl
  | cons r rs ih =>
    unfold flatText at ih ⊢
    rw [List.flatMap_cons, List.flatMap_cons, RawTok.text, List.append_assoc]
    have hr := h r (by simp)
    rw [hr.1, nd_closed _ hr.2, ih (fun x hx => h x (by simp [hx]))]

theorem formatTokens_foldStrip (cfg : Config) (O : Oracles) (raw : List RawTok)
    (hW : WrapFrame O)
    (hraw : ∀ r ∈ raw, Gap r.ws ∧ nd r.content = true) :
    foldStrip (formatTokens cfg O raw) = foldStrip (flatText raw) := by
  rw [formatTokens_eq]
  have hall : All2 TokRel raw (O.wrap cfg (preWrap O raw).2.1 (preWrap O raw).2.2) :=
    All2.trans (preWrap_rel O raw hraw) (hW cfg _ _) fun r t t' h1 h2 =>
      ⟨h2.1 h1.1, (h2.2 h1.2.1).1, (h2.2 h1.2.1).2.trans h1.2.2⟩
  have hft : ∀ t ∈ O.wrap cfg (preWrap O raw).2.1 (preWrap O raw).2.2, Gap t.tok.ws ∧ nd t.tok.content = true :=
    fun t ht => let ⟨_, _, h⟩ := all2_mem_right hall t ht; ⟨h.1, h.2.1⟩
  unfold foldStrip reconstruct asciiLower
  rw [reconGo_strip _ (settings_gap cfg) _ _ hft, flatText_strip raw hraw, List.map_flatMap, List.map_flatMap]
  exact (All2.flatMap_eq hall fun r t h => h.2.2.symm).symm

end Pasfmt
