/-
  C09, second clause, for the closed model of the whole formatter: formatting with `crlf := true` gives the
  `crlf := false` result with every terminator substituted.

  Nothing before the wrapper stage reads the configuration; the search reads it through `Config.searchCfg` (no line
  ending) and reads live tokens through `FTok.sview` (type, length of the last line as `str::lines()` sees it).  So the
  two runs get the same solutions as long as their token states are related token by token: same type, same counters,
  ignored tokens identical, and the texts either identical (the text the stage started with) or the two renderings
  `first ++ (LF ++ seg)*` / `first ++ (CRLF ++ seg)*` of the same segments (`Joined`): a re-indented literal.
  The re-indenter maps related texts to related texts (`mlsRewrite_pair`).  The one place where the two runs can part
  is the "changed" flag of the first string pass (a literal that is already in LF form at the right indentation is
  left alone by the lf run and rewritten by the crlf run): it decides which lines are wrapped a second time.
-/
import PasfmtModel.Proofs.WrapStageProps
import PasfmtModel.Model.CrlfCheck
import PasfmtModel.Proofs.ReconProps
import PasfmtModel.Proofs.MlsMore
import PasfmtModel.Proofs.MlsPipeline

namespace Pasfmt.CrlfFull

open Pasfmt
open Pasfmt.MlsMore (lineText newIndent lastLine_joinNl newLines mlsRewrite_eq newLines_noNl newLines_ends_quote
  not_ends_crlf)

/-! ### texts: the two renderings of the same segments -/

/-- the lf and the crlf rendering of the same first line and segments, none of which contains `\n` or `\r` -/
def Joined (a b : Bytes) : Prop :=
  ∃ (first : Bytes) (segs : List Bytes), NoNl first ∧ (∀ s ∈ segs, NoNl s) ∧
    a = joinNl [0x0A] first segs ∧ b = joinNl [0x0D, 0x0A] first segs

/-- the text ends in a quote (every multi-line literal the scanner produces does) -/
def EndsQ (c : Bytes) : Prop := c.getLast? = some 0x27

theorem noNl_containsByte {l : Bytes} (h : NoNl l) : containsByte 0x0A l = false :=
  containsByte_eq_false.2 fun b hb e => absurd (h b hb) (by rw [e]; decide)

/-- the crlf rendering is the lf rendering with every `\n` replaced -/
theorem crlfOf_joinNl (first : Bytes) (segs : List Bytes) (hf : NoNl first) (hs : ∀ s ∈ segs, NoNl s) :
    crlfOf (joinNl [0x0A] first segs) = joinNl [0x0D, 0x0A] first segs := by
  have h := (Concat.of_hom (h := crlfOf) rfl crlfOf_append).joinNl (nl := [0x0A]) (nl' := [0x0D, 0x0A]) rfl
    (crlfOf_noNl _ (noNl_containsByte hf)) id id segs fun s hm => crlfOf_noNl _ (noNl_containsByte (hs s hm))
  rwa [List.map_id] at h

theorem Joined.crlfOf {a b : Bytes} (h : Joined a b) : b = crlfOf a := by
  obtain ⟨first, segs, hf, hs, rfl, rfl⟩ := h
  exact (crlfOf_joinNl first segs hf hs).symm

/-! ### `str::lines()` does not see the difference -/

theorem strLinesGo_noLf (s : Bytes) (hs : (0x0A : UInt8) ∉ s) (cur r : Bytes) :
    strLinesGo cur (s ++ r) = strLinesGo (s.reverse ++ cur) r := by
  induction s generalizing cur with
  | nil => rfl
  | cons c t ih =>
    rw [List.mem_cons, not_or] at hs
    rw [List.cons_append, strLinesGo, ih hs.2]
    · simp
    · exact fun e => hs.1 e.symm

/-- `str::lines()` one line at a time: a line, its terminator (the `\r` of `\r\n` is dropped), the rest -/
theorem strLines_cons {nl : Bytes} (hnl : nl = [0x0A] ∨ nl = [0x0D, 0x0A]) {l : Bytes} (hl : NoNl l) (rest : Bytes) :
    strLines (l ++ (nl ++ rest)) = l :: strLines rest := by
  unfold strLines
  rw [strLinesGo_noLf l (noNl_not_mem_lf hl), List.append_nil]
  rcases hnl with rfl | rfl
  · rw [List.singleton_append, strLinesGo, List.reverse_reverse]
    exact fun c e => noNl_not_mem_cr hl (by simpa using congrArg (0x0D ∈ ·) e)
  · rw [show [0x0D, 0x0A] ++ rest = 0x0D :: 0x0A :: rest from rfl, strLinesGo, strLinesGo, List.reverse_reverse]
    decide

theorem strLines_joined {a b : Bytes} (h : Joined a b) : strLines a = strLines b := by
  obtain ⟨first, segs, hf, hs, rfl, rfl⟩ := h
  induction segs generalizing first with
  | nil => rfl
  | cons s r ih =>
    rw [joinNl_cons, joinNl_cons, strLines_cons (.inl rfl) hf, strLines_cons (.inr rfl) hf,
      ih s (hs s (by simp)) fun x hx => hs x (by simp [hx])]

/-- what the search reads of a token's text is the same for both renderings -/
theorem lastLineLen_joined (k : Kind) {a b : Bytes} (h : Joined a b) : lastLineLen k a = lastLineLen k b := by
  unfold lastLineLen
  rw [strLines_joined h]

/-! ### the last line -/

theorem lastLineOf_joined {a b : Bytes} (h : Joined a b) : lastLineOf a = lastLineOf b := by
  obtain ⟨first, segs, hf, hs, rfl, rfl⟩ := h
  unfold lastLineOf
  rw [lastLine_joinNl (Or.inl rfl) first segs hs fun _ => hf, lastLine_joinNl (Or.inr rfl) first segs hs fun _ => hf]

/-! ### `lines_custom` of a rendering -/

/-- a rendering that ends in a quote is split into exactly its first line and its segments -/
theorem linesCustom_joinNl (nl : Bytes) (hnl : nl = [0x0A] ∨ nl = [0x0D, 0x0A]) (first : Bytes) (segs : List Bytes)
    (hf : NoNl first) (hs : ∀ s ∈ segs, NoNl s) (hq : EndsQ (joinNl nl first segs)) :
    linesCustom (joinNl nl first segs) = first :: segs := by
  rw [linesCustom_eq_refLines _ (not_ends_crlf hq)]
  refine lines_iff.1 (lines_joinNl hnl hf hs fun l hl e => ?_)
  -- an empty last segment would leave the terminator (or nothing) at the end
  subst e
  rcases List.eq_nil_or_concat segs with rfl | ⟨texts, t, rfl⟩
  · cases hl; simp [EndsQ, joinNl] at hq
  · rw [List.concat_eq_append, ← List.cons_append, List.getLast?_concat] at hl
    cases hl
    rw [List.concat_eq_append, joinNl_snoc, List.append_nil] at hq
    unfold EndsQ at hq
    rcases hnl with rfl | rfl <;> simp at hq

/-! ### the re-indenter, without the terminator -/

/-- the settings of the two runs: they differ in the terminator only -/
structure LfCrlf (SL SC : Settings) : Prop where
  nlL : SL.nlStr = [0x0A]
  nlC : SC.nlStr = [0x0D, 0x0A]
  ind : SC.indStr = SL.indStr
  cont : SC.contStr = SL.contStr
  indNoNl : NoNl SL.indStr
  contNoNl : NoNl SL.contStr

/-! ### one literal in the two runs -/

theorem newIndent_eq {SL SC : Settings} (hS : LfCrlf SL SC) (i k : Nat) : newIndent SC i k = newIndent SL i k := by
  unfold newIndent; rw [hS.ind, hS.cont]

/-- two texts with the same lines and the same last line have the same new lines in the two runs: the terminator
    comes in only when they are joined -/
theorem newLines_pair {SL SC : Settings} (hS : LfCrlf SL SC) {a b : Bytes} (hlines : linesCustom a = linesCustom b)
    (hlast : lastLineOf a = lastLineOf b) (i k : Nat) : newLines SC b i k = newLines SL a i k := by
  have hlt : lineText SC i k = lineText SL i k := funext fun v => by unfold lineText; rw [newIndent_eq hS]
  unfold newLines
  rw [hlines, hlast, hlt]

/-- the texts of one token in the two runs: the same text, or the two renderings of the same lines -/
def CRel (a b : Bytes) : Prop := a = b ∨ Joined a b

/-- **One literal in the two runs.**  Related texts that end in a quote: after the re-indenter (with the same
    counters, the lf terminator on one side and the crlf terminator on the other) the texts are the two renderings
    of the same lines, or both are untouched; they still end in a quote; and for texts that were already two
    renderings the two runs agree on whether the text changed. -/
theorem mlsRewrite_pair {SL SC : Settings} (hS : LfCrlf SL SC) (a b : Bytes) (hrel : CRel a b)
    (ha : EndsQ a) (hb : EndsQ b) (i k : Nat) :
    ((mlsRewrite SL a i k = none ∧ mlsRewrite SC b i k = none) ∨
      Joined ((mlsRewrite SL a i k).getD a) ((mlsRewrite SC b i k).getD b)) ∧
    EndsQ ((mlsRewrite SL a i k).getD a) ∧ EndsQ ((mlsRewrite SC b i k).getD b) ∧
    (Joined a b → (mlsRewrite SL a i k).isSome = (mlsRewrite SC b i k).isSome) := by
  have hlines : linesCustom a = linesCustom b := by
    rcases hrel with rfl | ⟨first, segs, hf, hs, rfl, rfl⟩
    · rfl
    · rw [linesCustom_joinNl _ (Or.inl rfl) first segs hf hs ha, linesCustom_joinNl _ (Or.inr rfl) first segs hf hs hb]
  have hlast : lastLineOf a = lastLineOf b := by
    rcases hrel with rfl | hj
    · rfl
    · exact lastLineOf_joined hj
  have hpair := newLines_pair hS hlines hlast i k
  rw [mlsRewrite_eq, mlsRewrite_eq, hpair, hS.nlL, hS.nlC]
  cases hp : newLines SL a i k with
  | none => exact ⟨Or.inl ⟨rfl, rfl⟩, ha, hb, fun _ => rfl⟩
  | some p =>
    obtain ⟨first, segs⟩ := p
    obtain ⟨hf, hs⟩ := newLines_noNl hS.indNoNl hS.contNoNl hp
    have qa : EndsQ (joinNl [0x0A] first segs) := hS.nlL ▸ newLines_ends_quote ha hp
    have qb : EndsQ (joinNl [0x0D, 0x0A] first segs) := hS.nlC ▸ newLines_ends_quote hb (hpair.trans hp)
    -- changed or not, the text afterwards is the join
    have hget : ∀ c' c : Bytes, (if c' = c then none else some c').getD c = c' := fun c' c => by split <;> simp [*]
    simp only [Option.bind_some, hget]
    refine ⟨Or.inr ⟨first, segs, hf, hs, rfl, rfl⟩, qa, qb, ?_⟩
    rintro ⟨f0, s0, hf0, hs0, rfl, rfl⟩
    obtain ⟨_, _, hlc, _⟩ := MlsMore.newLines_some hp
    rw [linesCustom_joinNl _ (Or.inl rfl) f0 s0 hf0 hs0 ha] at hlc
    obtain ⟨rfl, _⟩ := List.cons.inj hlc
    by_cases e : segs = s0
    · subst e; simp
    · -- different segments give different texts: the segments are the lines
      have hne : ∀ nl, (nl = [0x0A] ∨ nl = [0x0D, 0x0A]) → EndsQ (joinNl nl f0 segs) → EndsQ (joinNl nl f0 s0) →
          joinNl nl f0 segs ≠ joinNl nl f0 s0 := fun nl hnl q1 q2 h => by
        have := congrArg linesCustom h
        rw [linesCustom_joinNl _ hnl f0 segs hf hs q1, linesCustom_joinNl _ hnl f0 s0 hf0 hs0 q2] at this
        exact e (List.cons.inj this).2
      rw [if_neg (hne _ (Or.inl rfl) qa ha), if_neg (hne _ (Or.inr rfl) qb hb)]
      rfl

theorem lastLineLen_crel (k : Kind) {a b : Bytes} (h : CRel a b) : lastLineLen k a = lastLineLen k b := by
  rcases h with rfl | h
  · rfl
  · exact lastLineLen_joined k h

/-- the settings of a configuration with `crlf := false` and with `crlf := true` -/
theorem lfCrlf_settings (cfg : Config) : LfCrlf ({ cfg with crlf := false }).settings ({ cfg with crlf := true }).settings := by
  have h := settings_noNl { cfg with crlf := false }
  refine ⟨?_, ?_, ?_, ?_, h.1, h.2⟩
  all_goals (unfold Config.settings; simp only; split <;> rfl)

/-- the substitution maps the lf run's three strings to the crlf run's -/
theorem LfCrlf.letters {SL SC : Settings} (hS : LfCrlf SL SC) : Concat.Letters (fun a b => crlfOf a = b) SL SC :=
  ⟨by rw [hS.nlL, hS.nlC]; rfl, by rw [hS.ind]; exact crlfOf_noNl _ (noNl_containsByte hS.indNoNl),
    by rw [hS.cont]; exact crlfOf_noNl _ (noNl_containsByte hS.contNoNl), rfl⟩

/-! ### token states of the two runs -/

/-- one token in the lf run (`t`) and in the crlf run (`t'`); `oc` = its text when the stage started.  Same type, same
    counters, ignored tokens identical; the texts are both still the original one (and then `A` holds of the token:
    a side condition that the first string pass needs), or the two renderings of the same lines; the text of a
    non-ignored multi-line literal ends in a quote. -/
structure TR (A : FTok → Prop) (oc : Bytes) (t t' : FTok) : Prop where
  kind : t.tok.kind = t'.tok.kind
  fmt : t.fmt = t'.fmt
  ignEq : t.fmt.ignored = true → t = t'
  crel : (t.tok.content = t'.tok.content ∧ t.tok.content = oc ∧ A t) ∨ Joined t.tok.content t'.tok.content
  endsq : mlsLive t = true → EndsQ t.tok.content ∧ EndsQ t'.tok.content

theorem TR.toCRel {A : FTok → Prop} {oc : Bytes} {t t' : FTok} (h : TR A oc t t') : CRel t.tok.content t'.tok.content := by
  rcases h.crel with ⟨e, _, _⟩ | j
  · exact Or.inl e
  · exact Or.inr j

theorem TR.mono {A B : FTok → Prop} {oc : Bytes} {t t' : FTok} (h : TR A oc t t') (hab : A t → B t) : TR B oc t t' :=
  ⟨h.kind, h.fmt, h.ignEq, by
    rcases h.crel with ⟨e1, e2, e3⟩ | j
    · exact Or.inl ⟨e1, e2, hab e3⟩
    · exact Or.inr j, h.endsq⟩

/-- related states -/
def RelC (A : FTok → Prop) (oc : Nat → Bytes) (ft ft' : FT) : Prop :=
  ft.length = ft'.length ∧ ∀ j t t', ft[j]? = some t → ft'[j]? = some t' → TR A (oc j) t t'

theorem relC_iff {A : FTok → Prop} {oc : Nat → Bytes} {ft ft' : FT} :
    RelC A oc ft ft' ↔ Pw (fun j => TR A (oc j)) ft ft' := Iff.rfl

theorem RelC.mono {A B : FTok → Prop} {oc : Nat → Bytes} {ft ft' : FT} (h : RelC A oc ft ft')
    (hab : ∀ t ∈ ft, A t → B t) : RelC B oc ft ft' :=
  ⟨h.1, fun j t t' a b => (h.2 j t t' a b).mono (hab t (List.mem_of_getElem? a))⟩

theorem TR.sview {A : FTok → Prop} {oc : Bytes} {t t' : FTok} (tr : TR A oc t t') : t.sview = t'.sview := by
  simp only [FTok.sview, ← tr.kind, lastLineLen_crel t.tok.kind tr.toCRel]

/-! ### applying a solution -/

/-- no side condition on the tokens (the `A` of `TR`/`RelC` outside the first string pass) -/
abbrev T0 : FTok → Prop := fun _ => True

/-- `TR T0` reads the two tokens through their `tok`, their ignored flag and the equality of their counters: a step that
    changes counters only, and in the same way in both runs, keeps it -/
theorem TR.of_fmtOnly {oc : Bytes} {t t' u u' : FTok} (tr : TR T0 oc t t') (h : MlsPipe.FmtOnly t u)
    (h' : MlsPipe.FmtOnly t' u') (e : u.fmt = u'.fmt) : TR T0 oc u u' := by
  obtain ⟨ht, hi⟩ := h
  refine ⟨by rw [ht, h'.1]; exact tr.kind, e, fun hu => ?_, by rw [ht, h'.1]; exact tr.crel, fun hm => ?_⟩
  · cases tr.ignEq (hi ▸ hu)
    cases u; cases u'; cases ht; cases h'.1; cases e; rfl
  · rw [ht, h'.1]
    exact tr.endsq (by unfold mlsLive at hm ⊢; rwa [ht, hi] at hm)

theorem tr_dec (oc : Nat → Bytes) : DecLift fun _ j => TR T0 (oc j) :=
  ⟨fun first ind cont d tr => tr.of_fmtOnly ⟨rfl, applyDec_ignored ..⟩ ⟨rfl, applyDec_ignored ..⟩ (by simp only [tr.fmt])⟩

theorem applyDecs_relC (lines : List Line) (ind cont : Nat) (toks : List Nat) (i : Nat) (oc : Nat → Bytes)
    (ft ft' ft1 : FT) (decs : List (Dec × List (Nat × Sol)))
    (h : RelC T0 oc ft ft') (h1 : applyDecs lines ind cont toks i ft decs = some ft1) :
    ∃ ft1', applyDecs lines ind cont toks i ft' decs = some ft1' ∧ RelC T0 oc ft1 ft1' :=
  let ⟨ft1', e, _, r⟩ := applyDecs_lift (tr_dec oc) lines ind cont toks i (fun _ => False) ft ft' ft1 decs h h1
  ⟨ft1', e, r⟩

theorem applyChildren_relC (lines : List Line) (oc : Nat → Bytes) (ft ft' ft1 : FT) (ks : List (Nat × Sol))
    (h : RelC T0 oc ft ft') (h1 : applyChildren lines ft ks = some ft1) :
    ∃ ft1', applyChildren lines ft' ks = some ft1' ∧ RelC T0 oc ft1 ft1' :=
  let ⟨ft1', e, _, r⟩ := applyChildren_lift (tr_dec oc) lines (fun _ => False) ft ft' ft1 ks h h1
  ⟨ft1', e, r⟩

/-! ### the string passes -/

/-- the text after a string pass has visited the token -/
theorem mlsUpd_content (S : Settings) (t : FTok) : (mlsUpd S t).tok.content = (mlsNew S t).getD t.tok.content := by
  unfold mlsUpd
  cases h : mlsNew S t with
  | none => rfl
  | some c =>
    show (t.setContent c).tok.content = c
    rcases setContent_cases t c with ⟨hi, _⟩ | ⟨_, e⟩
    · simp [mlsNew, hi] at h
    · rw [e]

attribute [local irreducible] mlsRewrite in
/-- one token of a string pass in the two runs -/
theorem tr_mls {SL SC : Settings} (hS : LfCrlf SL SC) (A : FTok → Prop) (oc : Bytes) (t t' : FTok) (tr : TR A oc t t') :
    TR A oc (mlsUpd SL t) (mlsUpd SC t') ∧
      ((∀ x, A x → agreeTok SL SC x = true) → (mlsNew SC t').isSome = (mlsNew SL t).isSome) := by
  have hrL : mlsNew SL t = if mlsLive t = true then mlsRewrite SL t.tok.content t.fmt.ind t.fmt.cont else none := rfl
  have hrC : mlsNew SC t' = if mlsLive t = true then mlsRewrite SC t'.tok.content t.fmt.ind t.fmt.cont else none := by
    unfold mlsNew mlsLive; rw [← tr.kind, ← tr.fmt]
  by_cases hm : mlsLive t = true
  · rw [if_pos hm] at hrL hrC
    obtain ⟨qa, qb⟩ := tr.endsq hm
    obtain ⟨p1, p2, p3, p4⟩ := mlsRewrite_pair hS _ _ tr.toCRel qa qb t.fmt.ind t.fmt.cont
    rw [← hrL] at p1 p2 p4
    rw [← hrC] at p1 p3 p4
    rw [← mlsUpd_content, ← mlsUpd_content] at p1
    rw [← mlsUpd_content] at p2 p3
    refine ⟨⟨(applyRule_kind (fun _ => mlsNew SL t) t).trans (tr.kind.trans (applyRule_kind (fun _ => mlsNew SC t') t').symm),
      by rw [mlsUpd_fmt, mlsUpd_fmt, tr.fmt],
      fun hx => ?_, ?_, fun _ => ⟨p2, p3⟩⟩, fun hA => ?_⟩
    · unfold mlsLive at hm
      rw [mlsUpd_fmt] at hx
      simp [hx] at hm
    · rcases p1 with ⟨n1, n2⟩ | j
      · unfold mlsUpd; rw [n1, n2]; exact tr.crel
      · exact Or.inr j
    · rcases tr.crel with ⟨e1, _, e3⟩ | j
      · have := hA t e3
        unfold agreeTok at this
        rw [hm] at this
        simp only [Bool.not_true, Bool.false_or, beq_iff_eq] at this
        rw [hrL, hrC, ← e1, this]
      · exact (p4 j).symm
  · rw [if_neg hm] at hrL hrC
    unfold mlsUpd
    rw [hrL, hrC]
    exact ⟨tr, fun _ => rfl⟩

theorem zero_relC (oc : Nat → Bytes) (ft ft' : FT) (h : RelC T0 oc ft ft') :
    RelC T0 oc (zeroLineStartSpaces ft) (zeroLineStartSpaces ft') :=
  Pw.map (relC_iff.1 h) zeroTok zeroTok fun j t t' _ tr =>
    tr.of_fmtOnly (MlsPipe.zeroTok_fmtOnly t).1 (MlsPipe.zeroTok_fmtOnly t').1 (by rw [zeroTok_eq, zeroTok_eq, tr.fmt])

/-! ### applying solutions keeps texts and ignored flags -/

/-- what applying a solution never touches -/
def frameKey (t : FTok) : Tok × Bool := (t.tok, t.fmt.ignored)

theorem applyDecs_frame (lines : List Line) (ind cont : Nat) (toks : List Nat) (i : Nat) (ft ft1 : FT)
    (decs : List (Dec × List (Nat × Sol))) (h : applyDecs lines ind cont toks i ft decs = some ft1) :
    ft1.map frameKey = ft.map frameKey :=
  ((applyDecs_steps MlsPipe.fmtOnly_dec h).map_eq frameKey fun _ _ _ q => Prod.ext q.1.symm q.2.symm).symm

theorem applyChildren_frame (lines : List Line) (ft ft1 : FT) (ks : List (Nat × Sol))
    (h : applyChildren lines ft ks = some ft1) : ft1.map frameKey = ft.map frameKey :=
  ((applyChildren_steps MlsPipe.fmtOnly_dec h).map_eq frameKey fun _ _ _ q => Prod.ext q.1.symm q.2.symm).symm

/-! ### the whole stage -/

/-- the stage's input is related to itself -/
theorem relC_self {ft0 : FT} (hq : ∀ t ∈ ft0, mlsLive t = true → EndsQ t.tok.content) :
    RelC T0 (origContent ft0) ft0 ft0 := by
  refine ⟨rfl, fun j t t' ht ht' => ?_⟩
  cases ht.symm.trans ht'
  have hm := List.mem_of_getElem? ht
  exact ⟨rfl, rfl, fun _ => rfl, Or.inl ⟨rfl, by simp [origContent, ht], trivial⟩, fun h => ⟨hq t hm h, hq t hm h⟩⟩

theorem searchCfg_crlf (cfg : Config) : ({ cfg with crlf := true }).searchCfg = ({ cfg with crlf := false }).searchCfg := by
  unfold Config.searchCfg Config.settings
  simp only
  split <;> rfl

theorem searchInit_crlf (cfg : Config) (lines : List Line) (ft : FT) :
    searchInit { cfg with crlf := true } lines ft = searchInit { cfg with crlf := false } lines ft := by
  unfold searchInit
  rw [searchCfg_crlf]

/-! ### the reconstructor -/

theorem content_relC {A : FTok → Prop} {oc : Bytes} {t t' : FTok} (tr : TR A oc t t') (hs : safeTok oc t = true) :
    t'.tok.content = crlfOf t.tok.content := by
  rcases tr.crel with ⟨e1, e2, _⟩ | j
  · rw [← e1]
    unfold safeTok at hs
    by_cases hi : t.fmt.ignored = true
    · rw [if_pos hi] at hs
      simp only [Bool.and_eq_true, Bool.not_eq_true'] at hs
      exact (crlfOf_noNl _ hs.2).symm
    · rw [if_neg hi] at hs
      simp only [Bool.or_eq_true, Bool.not_eq_true', bne_iff_ne, ne_eq] at hs
      rcases hs with hs | hs
      · exact (crlfOf_noNl _ hs).symm
      · exact absurd e2 hs
  · exact j.crlfOf

theorem reconGo_relC {SL SC : Settings} (hS : LfCrlf SL SC) (A : FTok → Prop) (oc : Nat → Bytes) (ft ft' : FT)
    (h : RelC A oc ft ft') (hsafe : ∀ j t, ft[j]? = some t → safeTok (oc j) t = true) (mb : Bool) :
    reconGo SC mb ft' = crlfOf (reconGo SL mb ft) :=
  ((Concat.of_hom rfl crlfOf_append).recon hS.letters h.1
    (fun j t t' hj hj' => by
      have tr := h.2 j t t' hj hj'
      have hs := hsafe j t hj
      refine ⟨tr.fmt.symm, tr.kind.symm, (content_relC tr hs).symm, fun hi => ?_⟩
      obtain rfl := tr.ignEq hi
      unfold safeTok at hs
      rw [if_pos hi, Bool.and_eq_true, Bool.not_eq_true'] at hs
      exact ⟨rfl, crlfOf_noNl _ hs.1⟩) mb).symm

/-! ### the first side condition is a theorem

  The first side condition of the crlf/lf theorem (`CrlfFull.crlfStageOk`, conjunct (1): every non-ignored multi-line
  literal of the wrapper stage's input ends in a quote) is a theorem at the state the stage starts from:

  * a token typed `TextLiteral(MultiLine)` there was typed so by the scanner and has its scanned text
    (`MlsPipe.preWrap_literal`);
  * the scanner's multi-line literals end in a quote (`MlsPipe.lex_multi_ends_quote`).

  Result: `C09.C09_crlfOk_of_23`, hence `C09.C09_format_full_crlf_config23` (C09 with conjuncts (2) and (3) only).
-/

/-- (1) is a statement about the stage's input; the rest is `crlfStageOk23` -/
theorem crlfStageOk_iff {cfg : Config} {lines : List Line} {ft0 : FT} : crlfStageOk cfg lines ft0 = true ↔
    (∀ t ∈ ft0, mlsLive t = true → EndsQ t.tok.content) ∧ crlfStageOk23 cfg lines ft0 = true := by
  unfold crlfStageOk crlfStageOk23
  rw [Bool.and_assoc, Bool.and_eq_true, List.all_eq_true]
  refine and_congr (forall₂_congr fun t _ => ?_) Iff.rfl
  cases mlsLive t <;> simp [EndsQ]

open Pasfmt.MlsPipe (ruleKind)

/-- **every multi-line literal of the state the wrapper stage starts from ends in a quote**: it was scanned as a
    multi-line literal and has its scanned text -/
theorem preWrap_mls_ends_quote (alnum : Bytes → Bool) (s : Bytes) (raw : List RawTok) (po : ParserOut)
    (hraw : lex s = some raw) (hpo : parseAndConsolidate raw = some po) (t : FTok)
    (ht : t ∈ (preWrap { parser := fun _ => po, wrap := fun _ _ ft => ft, alnum := alnum } raw).2.2)
    (hk : t.tok.kind = .tTextLiteral .tMultiLine) : t.tok.content.getLast? = some 0x27 := by
  obtain ⟨r, hr, hlit⟩ := all2_mem_right (MlsPipe.preWrap_literal (alnum := alnum) hpo) t ht
  rw [(hlit _).2 hk]
  exact MlsPipe.lex_multi_ends_quote s raw hraw r hr ((hlit _).1.1 hk)

end Pasfmt.CrlfFull
