/-
  The reconstruction settings of a configuration (`Config.settings`): the line ending is LF or CR LF, the indentation and
  the continuation string consist of tabs and spaces.  `SettingsForm S` says this of any settings; the classes of settings
  the other modules work with (ASCII, blanks, no line break in the indentation, …) are weaker and follow from it byte by
  byte (`TabsSpaces.all`, `SettingsForm.nl_all`).
-/
import PasfmtModel.Proofs.ReconProps
import PasfmtModel.Proofs.NoDangling

namespace Pasfmt

def TabsSpaces (l : Bytes) : Prop := ∀ b ∈ l, b = 0x09 ∨ b = 0x20

theorem TabsSpaces.all {l : Bytes} (h : TabsSpaces l) {p : UInt8 → Prop} (htab : p 0x09) (hsp : p 0x20) : ∀ b ∈ l, p b :=
  fun b hb => (h b hb).elim (· ▸ htab) (· ▸ hsp)

theorem TabsSpaces.append {a b : Bytes} (ha : TabsSpaces a) (hb : TabsSpaces b) : TabsSpaces (a ++ b) :=
  fun x hx => (List.mem_append.1 hx).elim (ha x) (hb x)

theorem TabsSpaces.replicateBytes {s : Bytes} (h : TabsSpaces s) (n : Nat) : TabsSpaces (replicateBytes n s) :=
  fun b hb => h b (mem_replicateBytes hb)

structure SettingsForm (S : Settings) : Prop where
  nl : S.nlStr = [0x0A] ∨ S.nlStr = [0x0D, 0x0A]
  ind : TabsSpaces S.indStr
  cont : TabsSpaces S.contStr

theorem settings_form (c : Config) : SettingsForm c.settings := by
  have hr : ∀ (n : Nat) (x : UInt8), x = 0x09 ∨ x = 0x20 → TabsSpaces (List.replicate n x) :=
    fun n x hx b hb => (List.mem_replicate.1 hb).2 ▸ hx
  unfold Config.settings
  simp only
  split
  · exact ⟨by split <;> simp, hr _ _ (Or.inl rfl), hr _ _ (Or.inl rfl)⟩
  · exact ⟨by split <;> simp, hr _ _ (Or.inr rfl), hr _ _ (Or.inr rfl)⟩

namespace SettingsForm
variable {S : Settings} (h : SettingsForm S)
include h

theorem nl_all {p : UInt8 → Prop} (hlf : p 0x0A) (hcr : p 0x0D) : ∀ b ∈ S.nlStr, p b := by
  rcases h.nl with e | e <;> rw [e] <;> intro b hb <;> simp at hb
  · exact hb ▸ hlf
  · rcases hb with rfl | rfl <;> assumption

theorem nl_split : ∃ p, S.nlStr = p ++ [0x0A] ∧ containsByte 0x0A p = false := by
  rcases h.nl with e | e <;> rw [e]
  · exact ⟨[], rfl, rfl⟩
  · exact ⟨[0x0D], rfl, by decide⟩

theorem noBreak (x : UInt8) (hx : x = 0x0A ∨ x = 0x0D) :
    containsByte x S.indStr = false ∧ containsByte x S.contStr = false := by
  have hp : (0x09 : UInt8) ≠ x ∧ (0x20 : UInt8) ≠ x := by rcases hx with rfl | rfl <;> decide
  exact ⟨containsByte_eq_false.2 (h.ind.all hp.1 hp.2), containsByte_eq_false.2 (h.cont.all hp.1 hp.2)⟩

end SettingsForm

/-- the three strings of the reconstruction settings are ASCII -/
def AsciiSettings (S : Settings) : Prop := AllAscii S.nlStr ∧ AllAscii S.indStr ∧ AllAscii S.contStr

theorem SettingsForm.ascii {S : Settings} (h : SettingsForm S) : AsciiSettings S :=
  ⟨h.nl_all (by decide) (by decide), h.ind.all (by decide) (by decide), h.cont.all (by decide) (by decide)⟩

theorem config_settings_ascii (cfg : Config) : AsciiSettings cfg.settings := (settings_form cfg).ascii

theorem SettingsForm.gap {S : Settings} (h : SettingsForm S) : Gap S.nlStr ∧ Gap S.indStr ∧ Gap S.contStr :=
  ⟨Gap.of_allLe20 (h.nl_all (by decide) (by decide)), Gap.of_allLe20 (h.ind.all (by decide) (by decide)),
    Gap.of_allLe20 (h.cont.all (by decide) (by decide))⟩

theorem settings_gap (c : Config) : Gap c.settings.nlStr ∧ Gap c.settings.indStr ∧ Gap c.settings.contStr :=
  (settings_form c).gap

namespace MlsMore

/-- blanks that are not line breaks (spaces, tabs, …) -/
def IndentBytes (s : Bytes) : Prop := ∀ b ∈ s, b ≤ 0x20 ∧ isNlCr b = false

/-- what the theorems about the string re-indenter need of the reconstruction settings: the line ending is LF or CR LF,
    the indentation and continuation strings consist of blanks `≤ 0x20` other than CR and LF.  True of the settings of
    every configuration (`settings_ok`). -/
structure SettingsOk (S : Settings) : Prop where
  nl : S.nlStr = [0x0A] ∨ S.nlStr = [0x0D, 0x0A]
  ind : IndentBytes S.indStr
  cont : IndentBytes S.contStr

theorem _root_.Pasfmt.SettingsForm.ok {S : Settings} (h : SettingsForm S) : SettingsOk S :=
  ⟨h.nl, h.ind.all (by decide) (by decide), h.cont.all (by decide) (by decide)⟩

theorem settings_ok (c : Config) : SettingsOk c.settings := (settings_form c).ok

end MlsMore

theorem settings_noNl (c : Config) : NoNl c.settings.indStr ∧ NoNl c.settings.contStr :=
  ⟨fun b hb => ((MlsMore.settings_ok c).ind b hb).2, fun b hb => ((MlsMore.settings_ok c).cont b hb).2⟩

structure BlankSettings (S : Settings) : Prop where
  nl : AllLe20 S.nlStr
  ind : AllLe20 S.indStr
  cont : AllLe20 S.contStr

theorem MlsMore.SettingsOk.blank {S : Settings} (hS : MlsMore.SettingsOk S) : BlankSettings S :=
  ⟨by rcases hS.nl with h | h <;> rw [h] <;> unfold AllLe20 <;> decide,
    fun b hb => (hS.ind b hb).1, fun b hb => (hS.cont b hb).1⟩

theorem settings_blank (c : Config) : BlankSettings c.settings := (MlsMore.settings_ok c).blank

end Pasfmt
