/-
  The conditional-directive tree: one round of each parsing function on tokens with consecutive positions, the
  induction along the depth fuel shared by all functions on trees, and what a pass does to a nested section.
-/
import PasfmtModel.Model.Parser

namespace Pasfmt

def Consec (toks : List (Nat × RawKind)) (i0 : Nat) : Prop :=
  ∀ j (hj : j < toks.length), (toks[j]).1 = i0 + j

theorem Consec.head {x : Nat × RawKind} {r : List (Nat × RawKind)} {i0 : Nat} (h : Consec (x :: r) i0) : x.1 = i0 := by
  have := h 0 (by simp); simpa using this

theorem Consec.tail {x : Nat × RawKind} {r : List (Nat × RawKind)} {i0 : Nat} (h : Consec (x :: r) i0) :
    Consec r (i0 + 1) := by
  intro j hj
  have := h (j + 1) (by simp; omega)
  simp at this; omega

theorem Consec.drop {toks : List (Nat × RawKind)} {i0 : Nat} (h : Consec toks i0) (c : Nat) :
    Consec (toks.drop c) (i0 + c) := by
  intro j hj
  simp only [List.length_drop] at hj
  have := h (c + j) (by omega)
  simp only [List.getElem_drop]
  omega

/-- `parse_flat` takes the `k` leading non-directive tokens and stops behind the directive at position `k`, if any -/
theorem parseFlat_exact (toks : List (Nat × RawKind)) (i0 : Nat) (start : Option Nat) (lo hi : Nat)
    (hc : Consec toks i0) :
    ∃ k lo' hi' c, parseFlat start lo hi toks = (.flat false lo' hi', c, toks.drop (k + 1)) ∧
      k ≤ toks.length ∧
      ((k = 0 ∧ lo' = lo ∧ hi' = hi) ∨ (0 < k ∧ lo' = start.getD i0 ∧ hi' = i0 + k)) ∧
      ((k = toks.length ∧ c = none) ∨ ∃ q cd, toks[k]? = some q ∧ condKind? q.2 = some cd ∧ c = some cd) := by
  induction toks generalizing i0 start lo hi with
  | nil => exact ⟨0, lo, hi, none, rfl, Nat.le_refl _, .inl ⟨rfl, rfl, rfl⟩, .inl ⟨rfl, rfl⟩⟩
  | cons x r ih =>
    obtain ⟨idx, kd⟩ := x
    obtain rfl : idx = i0 := hc.head
    rw [parseFlat]
    cases hk : condKind? kd with
    | some cd =>
      exact ⟨0, lo, hi, some cd, rfl, Nat.zero_le _, .inl ⟨rfl, rfl, rfl⟩, .inr ⟨_, cd, rfl, hk, rfl⟩⟩
    | none =>
      obtain ⟨k, lo', hi', c, heq, hle, hfl, hend⟩ :=
        ih (idx + 1) (some (start.getD idx)) (start.getD idx) (idx + 1) hc.tail
      refine ⟨k + 1, lo', hi', c, heq, Nat.succ_le_succ hle, .inr ⟨Nat.succ_pos _, ?_, ?_⟩, ?_⟩
      · rcases hfl with ⟨_, h1, _⟩ | ⟨_, h1, _⟩ <;> exact h1
      · rcases hfl with ⟨h0, _, h2⟩ | ⟨_, _, h2⟩ <;> omega
      · rcases hend with ⟨h1, h2⟩ | h
        · exact .inl ⟨by rw [h1]; rfl, h2⟩
        · exact .inr (by simpa using h)

/-- one round of `parse_next`: that flat section, then what the directive at position `k` asks for -/
theorem parseNext_succ (g : Nat) (topLevel : Bool) (acc : DTree) (toks : List (Nat × RawKind)) (i0 : Nat)
    (hc : Consec toks i0) :
    ∃ k lo hi, k ≤ toks.length ∧
      ((k = 0 ∧ lo = 0 ∧ hi = 0) ∨ (0 < k ∧ lo = i0 ∧ hi = i0 + k)) ∧
      ((k = toks.length ∧
          parseNext (g + 1) topLevel acc toks = ((.flat false lo hi :: acc).reverse, none, [])) ∨
       ∃ q cd, toks[k]? = some q ∧ condKind? q.2 = some cd ∧
         parseNext (g + 1) topLevel acc toks =
           if cd.isIf then
             parseNext g topLevel ((parseNested g (toks.drop (k + 1))).1 :: .flat false lo hi :: acc)
               (parseNested g (toks.drop (k + 1))).2
           else if topLevel then parseNext g topLevel (.flat false lo hi :: acc) (toks.drop (k + 1))
           else ((.flat false lo hi :: acc).reverse, some cd, toks.drop (k + 1))) := by
  obtain ⟨k, lo, hi, c, heq, hle, hfl, hend⟩ := parseFlat_exact toks i0 none 0 0 hc
  refine ⟨k, lo, hi, hle, hfl, ?_⟩
  rw [parseNext, heq]
  rcases hend with ⟨hk, rfl⟩ | ⟨q, cd, hq, hcd, rfl⟩
  · exact .inl ⟨hk, by rw [hk, List.drop_of_length_le (Nat.le_succ _)]⟩
  · exact .inr ⟨q, cd, hq, hcd, rfl⟩

/-- `parse_nested` is its `while` loop (`parseNestedElse`) entered behind an `{$else}` with no branch yet -/
theorem parseNested_succ (g : Nat) (toks : List (Nat × RawKind)) :
    parseNested (g + 1) toks = parseNestedElse (g + 1) [] (some .dElse) toks := by
  rw [parseNested, parseNestedElse]; rfl

theorem parseNestedElse_succ (g : Nat) (acc : List DTree) (cdk : Option ConditionalDirectiveKind)
    (toks : List (Nat × RawKind)) :
    parseNestedElse (g + 1) acc cdk toks =
      if cdk.any (·.isElse) then
        parseNestedElse g ((parseNext g false [] toks).1 :: acc) (parseNext g false [] toks).2.1
          (parseNext g false [] toks).2.2
      else (.nested acc.reverse, toks) := by
  cases cdk with
  | none => rw [parseNestedElse]; rfl
  | some c => rw [parseNestedElse]; cases h : c.isElse <;> simp [h]

/-- the passes of a file are those of the tree parsed from its tokens with their positions -/
theorem passes_tokens (kinds : List RawKind) :
    ∃ toks : List (Nat × RawKind),
      passes kinds = passesGo (2 * kinds.length + 4) (kinds.length + 2) (parseNext (3 * kinds.length + 3) true [] toks).1 ∧
      Consec toks 0 ∧ toks.length = kinds.length ∧ ∀ p, p ∈ toks ↔ kinds[p.1]? = some p.2 := by
  -- `rw`, not `rfl`: the unifier would unfold `passesGo` on both sides before it finds the equation
  refine ⟨kinds.zipIdx.map (fun (k, i) => (i, k)), by rw [passes, parseTree], ?_, by simp, ?_⟩
  · intro j hj; simp
  · intro p
    simp only [List.mem_map, Prod.exists, List.mem_zipIdx_iff_getElem?]
    constructor
    · rintro ⟨k, i, h, rfl⟩; simpa using h
    · intro h; exact ⟨p.2, p.1, by simpa using h, rfl⟩

/-- the functions on sections and on trees recurse along a depth fuel in the same way; so does every proof -/
theorem fuel_induction {P : Nat → DSection → Prop} {Q : Nat → DTree → Prop}
    (flat : ∀ f e lo hi, P f (.flat e lo hi))
    (nested0 : ∀ trees, P 0 (.nested trees))
    (tree0 : ∀ t, Q 0 t)
    (nested : ∀ f trees, (∀ t, Q f t) → P (f + 1) (.nested trees))
    (tree : ∀ f t, (∀ s, P f s) → Q (f + 1) t) :
    ∀ f, (∀ s, P f s) ∧ (∀ t, Q f t) := by
  intro f
  induction f with
  | zero => exact ⟨fun s => by cases s; exact flat _ _ _ _; exact nested0 _, tree0⟩
  | succ f ih => exact ⟨fun s => by cases s; exact flat _ _ _ _; exact nested f _ ih.2, fun t => tree f t ih.1⟩

theorem treePass_succ (f : Nat) (t : DTree) :
    treePass (f + 1) t = (t.map (fun s => (sectionPass f s).1), (t.map (fun s => (sectionPass f s).2)).flatten) := by
  have : ∀ (acc1 : DTree) (acc2 : List Nat),
      t.foldl (fun (acc : DTree × List Nat) s => (acc.1 ++ [(sectionPass f s).1], acc.2 ++ (sectionPass f s).2))
          (acc1, acc2) =
        (acc1 ++ t.map (fun s => (sectionPass f s).1), acc2 ++ (t.map (fun s => (sectionPass f s).2)).flatten) := by
    induction t with
    | nil => simp
    | cons s r ih => intro acc1 acc2; simp only [List.foldl_cons, ih]; simp
  unfold treePass
  simpa using this [] []

/-- `Section::pass` enters one branch: the first that is not explored, the last if all are -/
theorem sectionPass_nested (f : Nat) (trees : List DTree) :
    (trees = [] ∧ sectionPass (f + 1) (.nested trees) = (.nested trees, [])) ∨
    ∃ i t, trees[i]? = some t ∧
      sectionPass (f + 1) (.nested trees) = (.nested (trees.set i (treePass f t).1), (treePass f t).2) ∧
      ((∃ t' ∈ trees, treeExplored (f + 1) t' = false) → treeExplored (f + 1) t = false) := by
  rw [sectionPass]
  cases hfi : trees.findIdx? (fun g => !treeExplored (f + 1) g) with
  | some i =>
    obtain ⟨hil, hp, -⟩ := List.findIdx?_eq_some_iff_getElem.1 hfi
    refine .inr ⟨i, trees[i], List.getElem?_eq_getElem hil, ?_, fun _ => by simpa using hp⟩
    simp only [List.getElem?_eq_getElem hil]
  | none =>
    cases trees with
    | nil => exact .inl ⟨rfl, rfl⟩
    | cons t r =>
      have hil : (t :: r).length - 1 < (t :: r).length := Nat.sub_lt (Nat.succ_pos _) Nat.one_pos
      refine .inr ⟨_, (t :: r)[(t :: r).length - 1], List.getElem?_eq_getElem hil, ?_, ?_⟩
      · simp only [List.isEmpty_cons, Bool.false_eq_true, if_false, List.getElem?_eq_getElem hil]
      · rintro ⟨t', ht', he⟩
        have := List.findIdx?_eq_none_iff.1 hfi t' ht'
        simp [he] at this

theorem passes_noCond (kinds : List RawKind) (h : ∀ k ∈ kinds, condKind? k = none) :
    passes kinds = [List.range kinds.length] := by
  obtain ⟨toks, htree, hc, hlen, hmem⟩ := passes_tokens kinds
  rw [htree]
  obtain ⟨k, lo, hi, -, hfl, ⟨hk, heq⟩ | ⟨q, cd, hq, hcd, -⟩⟩ :=
    parseNext_succ (3 * kinds.length + 2) true [] toks 0 hc
  · rw [heq, show 2 * kinds.length + 4 = (2 * kinds.length + 3) + 1 by omega,
      show kinds.length + 2 = (kinds.length + 1) + 1 by omega, passesGo, treePass_succ]
    rw [hk, hlen] at hfl
    rcases hfl with ⟨h0, rfl, rfl⟩ | ⟨-, rfl, rfl⟩
    · simp [sectionPass, treeExplored, sectionExplored, h0]
    · simp [sectionPass, treeExplored, sectionExplored]
  · have hqm := (hmem q).1 (List.mem_of_getElem? hq)
    rw [h q.2 (List.mem_of_getElem? hqm)] at hcd
    cases hcd

end Pasfmt
