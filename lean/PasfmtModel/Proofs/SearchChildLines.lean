/-
  Where the search places CHILD lines (for C05): every child solution hanging off a decision of a solution returned by
  `find_optimal_solution` starts with the whitespace "the parent solution's starting whitespace (or none at all, when the
  children continue the parent's line), plus the child line's own level, minus at most one level", and its first
  decision is "break, no continuation" or "continue" as the chosen `ChildLineOption` says - at every nesting depth,
  whether the child solutions were computed or taken from the `child_line_cache`.

  `TreeOk` is the invariant, `CacheOk` the one of the cache (every entry is a list of such child solutions for the
  option in its key); that the search keeps them is an instance of Proofs/SearchInvariants.lean, that every solution the
  stage applies has them an instance of Proofs/SearchStage.lean.
-/
import PasfmtModel.Proofs.SearchFirstToken
import PasfmtModel.Proofs.SearchInvariantsChildLines

namespace Pasfmt

/-- the `p`-th child solution of an option: its starting whitespace and its first decision -/
def ChildSolOk (O : Olf) (option : ChildLineOption) (p : Nat) (x : Nat × FormattingSolution) : Prop :=
  x.2.startingWs = childWs option.startingWs (O.lines[x.1]!).level ∧
  ((O.lines[x.1]!).tokens[0]?.isSome →
    (x.2.decisions.head?).map (·.decision) =
      some (if option.breaksAt p then rootDec O (O.lines[x.1]!) .brk else .cont))

/-- all child solutions in the tree of a solution are well placed -/
inductive TreeOk (O : Olf) : FormattingSolution → Prop
  | mk (ws : LineWhitespace) (decs : List TokenDecision) (pen len : Nat)
      (h : ∀ d ∈ decs, ∃ option : ChildLineOption, OptionFrom ws option ∧
          ∀ p x, d.childSolutions[p]? = some x → ChildSolOk O option p x)
      (hrec : ∀ d ∈ decs, ∀ x ∈ d.childSolutions, TreeOk O x.2) :
      TreeOk O (.mk ws decs pen len)

/-- a list of child solutions of one option -/
def ChildListOk (O : Olf) (option : ChildLineOption) (sols : List (Nat × FormattingSolution)) : Prop :=
  (∀ p x, sols[p]? = some x → ChildSolOk O option p x) ∧ ∀ x ∈ sols, TreeOk O x.2

/-- the child solutions of one decision of a solution starting with whitespace `W` -/
def DecOk (O : Olf) (W : LineWhitespace) (d : TokenDecision) : Prop :=
  ∃ option : ChildLineOption, OptionFrom W option ∧ ChildListOk O option d.childSolutions

/-- the local half of `DecOk` at every decision of the tree -/
theorem treeOk_iff_all (O : Olf) (li : Nat) (sol : FormattingSolution) :
    TreeOk O sol ↔ TreeAll (fun _ W _ d => ∃ option : ChildLineOption, OptionFrom W option ∧
      ∀ p x, d.childSolutions[p]? = some x → ChildSolOk O option p x) li sol := by
  constructor
  · intro h
    induction h generalizing li with
    | mk ws decs pen len h _ ih =>
      exact .mk li ws decs pen len (fun i d hd => h d (List.mem_of_getElem? hd)) fun d hd x hx => ih d hd x hx x.1
  · intro h
    induction h with
    | mk li ws decs pen len h _ ih =>
      refine .mk ws decs pen len (fun d hd => ?_) ih
      obtain ⟨i, hi⟩ := List.getElem?_of_mem hd
      exact h i d hi

theorem ChildListOk.nil (O : Olf) (option : ChildLineOption) : ChildListOk O option [] := by
  exact ⟨fun p x h => by simp at h, fun x h => by simp at h⟩

theorem DecOk.of_nil (O : Olf) (W : LineWhitespace) (d : TokenDecision) (h : d.childSolutions = []) : DecOk O W d :=
  ⟨.continueAll, Or.inl rfl, by rw [h]; exact ChildListOk.nil O _⟩

/-- every entry of the `child_line_cache` is a well-placed list of child solutions for the option in its key -/
def CacheOk (O : Olf) (cache : ChildLineCache) : Prop :=
  ∀ (key : ChildLineInitialConditions) sols, cache[key]? = some sols → ChildListOk O key.childLineOption sols

/-- a solver of child lines keeps the cache well-formed and returns well-placed trees -/
def SolverOk (O : Olf) (solve : Solver) : Prop :=
  ∀ cache ws li fd, CacheOk O cache →
    CacheOk O (solve cache ws li fd).2 ∧ ∀ sol, (solve cache ws li fd).1 = .ok sol → TreeOk O sol

theorem rootDec_cont (O : Olf) (line : LineA) (a : Nat) (b : Bool) : rootDec O line (.cont a b) = .cont := rfl

/-- the loop over the child lines of an option, with a solver that returns what it was asked for: the `p`-th solution
    is the `p`-th child solution of the option, and all are solutions of the solver -/
theorem solveChildLines_placed (O : Olf) (solve : Solver) (hK : SolverKey O solve) (C : ChildLineCache → Prop)
    (T : Nat → FormattingSolution → Prop) (hT : SolverAll C T solve) (option : ChildLineOption) (ls : List Nat)
    (cache : ChildLineCache) (lll : Nat) (r : Option (List (Nat × FormattingSolution))) (cache' : ChildLineCache)
    (hc : C cache) (h : solveChildLines O solve option option.startingWs ls 0 cache lll [] = (r, cache')) :
    C cache' ∧ ∀ sols, r = some sols →
      (∀ p x, sols[p]? = some x → ChildSolOk O option p x) ∧ (∀ x ∈ sols, T x.1 x.2) ∧ sols.map (·.1) = ls := by
  obtain ⟨h1, h2⟩ := solveChildLines_inv O solve option option.startingWs C
    (fun sofar => (∀ p x, sofar[p]? = some x → ChildSolOk O option p x) ∧ ∀ x ∈ sofar, T x.1 x.2)
    (fun c sofar childLine lll hc hP => by
      have hok := hT c (childWs option.startingWs (O.lines[childLine]!).level) childLine
        (option.firstDecision sofar.length lll) hc
      refine ⟨hok.1, fun sol hs => ⟨fun p x hx => ?_, fun x hx => ?_⟩⟩
      · rcases getElem?_snoc hx with h | ⟨rfl, rfl⟩
        · exact hP.1 p x h
        · obtain ⟨k1, k2⟩ := hK _ _ _ _ _ _ (Prod.ext hs rfl)
          exact ⟨k1, fun hne => by rw [k2 hne, rootDec_firstDecision]⟩
      · rcases List.mem_append.1 hx with h | h
        · exact hP.2 x h
        · rw [List.mem_singleton] at h
          subst h
          exact hok.2 _ hs)
    ls 0 cache lll [] r cache' hc rfl ⟨by simp, by simp⟩ h
  exact ⟨h1, fun sols hs => ⟨(h2 sols hs).1.1, (h2 sols hs).1.2, by simpa using (h2 sols hs).2⟩⟩

theorem findOptimalChildLinesSolution_ok (O : Olf) (solve : Solver) (hK : SolverKey O solve) (hT : SolverOk O solve)
    (cache : ChildLineCache) (line : Nat × LineA) (nli : Nat) (W : LineWhitespace) (decision : DecisionRef)
    (stack : SpecificContextStack) (node : FormattingNode) (tll pc : Nat) (hc : CacheOk O cache) :
    CacheOk O (O.findOptimalChildLinesSolution solve cache line nli W decision stack node tll pc).2 ∧
    ∀ sols ∈ (O.findOptimalChildLinesSolution solve cache line nli W decision stack node tll pc).1.toList,
      ∃ option, OptionFrom W option ∧ ChildListOk O option sols :=
  findOptimalChildLinesSolution_inv O solve (fun key sols => ChildListOk O key.childLineOption sols)
    (fun sols => ∃ option, OptionFrom W option ∧ ChildListOk O option sols) cache line nli W decision stack node tll pc
    ⟨.continueAll, Or.inl rfl, ChildListOk.nil O _⟩
    (fun lc _ option c r c' hcc h => by
      obtain ⟨h1, h2⟩ := solveChildLines_placed O solve hK _ (fun _ => TreeOk O) hT option _ c tll r c' hcc h
      exact ⟨h1, fun sols hs => ⟨(h2 sols hs).1, (h2 sols hs).2.1⟩⟩)
    (fun _ _ option ho _ sols hk => ⟨option, ho, hk⟩)
    hc

theorem findOptimalSolution_ok (O : Olf) (fuel : Nat) : SolverOk O (O.findOptimalSolution fuel) :=
  findOptimalSolution_all O (CacheOk O) (fun _ => TreeOk O) (fun fuel hT cache ws lineIdx fd hc =>
    findOptimalSolutionWith_all (T := fun _ => TreeOk O) (treeOk_iff_all O)
      O _ ws lineIdx fd (CacheOk O) (fun W cs => ∃ option, OptionFrom W option ∧ ChildListOk O option cs)
      (fun c line nli W dref stack node tll pc =>
        findOptimalChildLinesSolution_ok O _ (findOptimalSolution_key O fuel) hT c line nli W dref stack node tll pc)
      (fun _ _ ⟨_, _, h⟩ => h.2) (fun _ _ _ _ _ _ _ ⟨o, h1, h2⟩ => ⟨o, h1, h2.1⟩)
      (fun _ _ _ _ _ ⟨o, h1, h2⟩ => ⟨o, h1, h2.1⟩) cache hc) fuel

theorem format_line_children (O : Olf) (cache : ChildLineCache) (lineIdx : Nat) (hc : CacheOk O cache) :
    CacheOk O (O.formatLine cache lineIdx).2 ∧ ∀ sol, (O.formatLine cache lineIdx).1 = some sol → TreeOk O sol :=
  formatLine_all O (CacheOk O) (fun _ => TreeOk O) (findOptimalSolution_ok O _) cache lineIdx hc

theorem rootDec_congr {O O' : Olf} (h : SameView O O') (line : LineA) (fd : FirstDecision) :
    rootDec O' line fd = rootDec O line fd := by
  unfold rootDec
  rw [getFormattingInvariant_congr h.kinds]

theorem ChildSolOk.congr {O O' : Olf} (h : SameView O O') {option : ChildLineOption} {p : Nat}
    {x : Nat × FormattingSolution} (hx : ChildSolOk O option p x) : ChildSolOk O' option p x := by
  unfold ChildSolOk at hx ⊢
  rw [h.lines, rootDec_congr h]
  exact hx

theorem formatLine_level (O : Olf) (cache : ChildLineCache) (i : Nat) (sol : FormattingSolution)
    (h : (O.formatLine cache i).1 = some sol) :
    sol.startingWs = { indentations := (O.lines[i]!).level, continuations := 0 } := by
  obtain ⟨line, hl⟩ := formatLine_line h
  rw [format_line_starting_ws O cache _ i line sol hl (Prod.ext h rfl), getElem!_of_getElem? _ _ _ hl]

/-- an applied solution `(phase, line, solution)` is the image of a search solution that starts with the line's level
    and whose child solutions are all well placed -/
def SolOk (O : Olf) (x : Nat × Nat × Sol) : Prop :=
  ∃ sol : FormattingSolution, x.2.2 = sol.toSol (O.lines.size + 1) ∧ TreeOk O sol ∧
    sol.startingWs = { indentations := (O.lines[x.2.1]!).level, continuations := 0 }

/-- what `TreeOk` says about one child solution: there is an option, derived from the starting whitespace of the
    parent solution, such that the child solution is the `p`-th one of that option; and the same holds inside it -/
theorem TreeOk.child {O : Olf} {sol : FormattingSolution} (h : TreeOk O sol) {d : TokenDecision} (hd : d ∈ sol.decisions)
    {p : Nat} {x : Nat × FormattingSolution} (hx : d.childSolutions[p]? = some x) :
    ∃ option, OptionFrom sol.startingWs option ∧ ChildSolOk O option p x ∧ TreeOk O x.2 := by
  obtain ⟨⟨_, o, h1, h2⟩, h3⟩ := ((treeOk_iff_all O 0 sol).1 h).mem hd
  exact ⟨o, h1, h2 p x hx, (treeOk_iff_all O _ _).2 (h3 x (List.mem_of_getElem? hx))⟩

/-- the indentation of a child line, in numbers: either the children continue the parent's line (`ContinueAll`: the
    child solution starts with its own level and no continuation, and its first decision is "continue"), or the child
    solution starts with the parent solution's indentations plus its own level minus `k ≤ 1` levels, and with at least
    the parent solution's continuations -/
theorem child_starting_ws {O : Olf} {W : LineWhitespace} {option : ChildLineOption} {p : Nat}
    {x : Nat × FormattingSolution} (ho : OptionFrom W option) (hx : ChildSolOk O option p x) :
    (option = .continueAll ∧
        x.2.startingWs = { indentations := (O.lines[x.1]!).level, continuations := 0 }) ∨
      (∃ k, k ≤ 1 ∧ x.2.startingWs.indentations = W.indentations + (O.lines[x.1]!).level - k ∧
        W.continuations ≤ x.2.startingWs.continuations) := by
  rcases ho with rfl | ⟨h1, h2, h3⟩
  · left
    refine ⟨rfl, ?_⟩
    rw [hx.1]
    simp [childWs, ChildLineOption.startingWs, LineWhitespace.zero]
  · right
    refine ⟨option.startingWs.deindent, h3, ?_, ?_⟩
    · rw [hx.1]; simp [childWs, h1]
    · rw [hx.1]; exact h2

/-- `begin_style = always_wrap` at the point where the search decides it; about the solution the search returns:
    `begin_always_wrap` of Proofs/SearchBeginWrap.lean -/
theorem begin_always_wrap_partial (O : Olf) (solve : Solver) (hK : SolverKey O solve) (hT : SolverOk O solve)
    (cache : ChildLineCache) (line : Nat × LineA) (nli : Nat) (W : LineWhitespace) (decision : DecisionRef)
    (stack : SpecificContextStack) (node : FormattingNode) (tll pc : Nat) (hc : CacheOk O cache)
    (hbb : O.breakBeforeBegin = true) (lineChildren : LineChildren)
    (hlc : O.lineChildren.get? (line.1, line.2.tokens[nli]!) = some lineChildren)
    (hpt : O.getTokenType lineChildren.parentToken = some (.tKeyword .kElse) ∨
      O.getTokenType lineChildren.parentToken = some (.tKeyword .kThen) ∨
      O.getTokenType lineChildren.parentToken = some (.tKeyword .kDo) ∨
      O.getTokenType lineChildren.parentToken = some (.tOp .oColon))
    (hfirst : firstChildTokenType O lineChildren = some (.tKeyword .kBegin)) :
    ∀ sols ∈ (O.findOptimalChildLinesSolution solve cache line nli W decision stack node tll pc).1.toList,
      ChildListOk O (.breakAll { whitespace := W, deindent := 1 }) sols ∧
      ∀ x, sols[0]? = some x →
        x.2.startingWs = { indentations := W.indentations + (O.lines[x.1]!).level - 1,
                           continuations := W.continuations } ∧
        ((O.lines[x.1]!).tokens[0]?.isSome →
          (x.2.decisions.head?).map (·.decision) = some (rootDec O (O.lines[x.1]!) .brk)) := by
  have key : ∀ sols ∈ (O.findOptimalChildLinesSolution solve cache line nli W decision stack node tll pc).1.toList,
      ChildListOk O (.breakAll { whitespace := W, deindent := 1 }) sols := by
    refine (findOptimalChildLinesSolution_inv O solve (fun key sols => ChildListOk O key.childLineOption sols)
      (ChildListOk O (.breakAll { whitespace := W, deindent := 1 })) cache line nli W decision stack node tll pc
      (ChildListOk.nil O _) (fun lc _ option c r c' hcc h => ?_) (fun lc hlc' option _ hb sols hk => ?_) hc).2
    · obtain ⟨h1, h2⟩ := solveChildLines_placed O solve hK _ (fun _ => TreeOk O) hT option _ c tll r c' hcc h
      exact ⟨h1, fun sols hs => ⟨(h2 sols hs).1, (h2 sols hs).2.1⟩⟩
    · cases hlc.symm.trans hlc'
      rw [hb ⟨hbb, hpt, hfirst⟩] at hk
      exact hk
  intro sols hs
  refine ⟨key sols hs, fun x hx => ?_⟩
  obtain ⟨h1, h2⟩ := (key sols hs).1 0 x hx
  refine ⟨?_, ?_⟩
  · rw [h1]; rfl
  · intro hne
    rw [h2 hne]; rfl

end Pasfmt
