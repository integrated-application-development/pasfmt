/-
  The invariant of `Proofs/ParserParentsFlow.lean`, which every function of the model keeps (`allBuilt` and
  `Flows.good` in `Proofs/ParserFlows.lean`), for `parse` (`parse_lines`) and for every pass of `parse_file`
  (`passLines_ok`).  Hence, for every answer of `parseFileFull`, the parent clause of C14 (`final_parents`), and the
  end-of-file clause from the weaker hypothesis `eofLineInEveryPass` (`final_single_eof_line'`).
-/
import PasfmtModel.Proofs.ParserFlows

namespace Pasfmt.Parents

open PFull

/-! `Flows.good` read off function by function, for its own sake: below only the fact about `finish_logical_line` is used
    (`parse_lines`); `allBuilt` gives the others where they are needed. -/

section
variable (E : EofSpec) (V : List LineParent)

theorem good_endingIdx : Good E V endingIdx := Built.good E V
theorem good_cur : Good E V cur := Built.good E V
theorem good_nextTT : Good E V nextTT := Built.good E V
theorem good_curKw : Good E V curKw := Built.good E V
theorem good_lastCtxType : Good E V lastCtxType := Built.good E V
theorem good_curLine : Good E V curLine := Built.good E V
theorem good_isAtStartOfLine : Good E V isAtStartOfLine := Built.good E V
theorem good_curLineTokenTypes : Good E V curLineTokenTypes := Built.good E V
theorem good_isDirectiveBeforeNextToken : Good E V isDirectiveBeforeNextToken := Built.good E V
theorem good_isDirectiveAfterPrevToken : Good E V isDirectiveAfterPrevToken := Built.good E V
theorem good_consolidateCurrentKeyword : Good E V consolidateCurrentKeyword := Built.good E V
theorem good_consolidatePrevKeyword : Good E V consolidatePrevKeyword := Built.good E V
theorem good_setCurrentDeclKind (k : DeclKind) : Good E V (setCurrentDeclKind k) := Built.good E V
theorem good_consolidateCurrentCaretToType : Good E V consolidateCurrentCaretToType := Built.good E V
theorem good_consolidateClassOpIn : Good E V consolidateClassOpIn := Built.good E V
theorem good_skipToken : Good E V skipToken := Built.good E V
theorem good_finishLogicalLine : Good E V finishLogicalLine := Built.good E V
theorem good_makeUnfinishedLine : Good E V makeUnfinishedLine := Built.good E V
theorem good_skipPair (fuel : Nat) : Good E V (skipPair fuel) := Built.good E V
theorem good_takeUntil (pred : PS → Bool) : ∀ fuel, Good E V (takeUntil pred fuel) :=
  fun _ => Built.good E V
theorem good_parseExpression (fuel : Nat) : Good E V (parseExpression fuel) := Built.good E V
theorem good_parseParameterList (fuel : Nat) : Good E V (parseParameterList fuel) := Built.good E V
theorem good_opUntil (pred : PS → Bool) (op : UntilOp) :
    ∀ fuel, Good E V (opUntil pred op fuel) := fun _ => Built.good E V
theorem good_parseRoutineHeader (fuel : Nat) : Good E V (parseRoutineHeader fuel) := Built.good E V
theorem good_parsePropertyDeclaration (fuel : Nat) :
    Good E V (parsePropertyDeclaration fuel) := Built.good E V
theorem good_parseAsmInstructions (fuel : Nat) : Good E V (parseAsmInstructions fuel) := Built.good E V
theorem good_takeSeparatorsOnLastLine (fuel : Nat) (level : ParserContextLevel)
    (hl : lvlIn V level) : Good E V (takeSeparatorsOnLastLine fuel level) :=
  (Rule.out (P := none) (σ := none) hl).good E

end

/-- the final lines of `InternalDelphiLogicalLineParser::parse`: parent references are meaningful, and at most one
    position holds a line typed `Eof` (only the last `set_logical_line_type` of `parse` makes one) -/
theorem parse_lines (fuel : Nat) (s0 s : PS) (h0 : CInv (some (fun _ => False)) s0)
    (h : parse fuel s0 = some ((), s)) :
    LInv s.m.lines ∧ ∃ top : Option Nat, EofOnlyAt s.m.lines (fun j => some j = top) := by
  have ih := allBuilt fuel
  unfold parse at h
  obtain ⟨_, s1, h1, h⟩ := bind_eq_some h
  obtain ⟨_, s2, h2, h⟩ := bind_eq_some h
  obtain ⟨_, s3, h3, h⟩ := bind_eq_some h
  obtain ⟨_, s4, h4, h5⟩ := bind_eq_some h
  have nov : ∀ (s : PS), ∀ p ∈ ([] : List LineParent), PVs s p := by intro s p hp; cases hp
  obtain ⟨i1, _⟩ := Built.good _ [] s0 _ s1 h0 (nov _) h1
  obtain ⟨i2, _⟩ := good_finishLogicalLine _ [] s1 _ s2 i1 (nov _) h2
  obtain ⟨i3, _⟩ := good_nextToken _ [] s2 _ s3 i2 (nov _) h3
  -- `set_logical_line_type(Eof)`: at most the current line becomes an `Eof` line
  unfold setLogicalLineType at h4
  have i3' : CInv none s3 := ⟨i3.lines, i3.ctx, i3.arr, by intro S hS; cases hS⟩
  obtain ⟨i4, _⟩ := good_prim0 none [] (.setType .lEof) rfl (by intro h; cases h) s3 _ s4 i3' (nov _) h4
  have e4 := step_setEof _ _ _ _ _ (prim_spec _ s3 _ s4 h4).1 (i3.noEof _ rfl)
  have i4' : CInv (some (fun j => False ∨ some j = s3.m.cur.head?)) s4 :=
    ⟨i4.lines, i4.ctx, i4.arr, by intro S hS; cases hS; exact e4⟩
  obtain ⟨i5, _⟩ := good_finishLogicalLine _ [] s4 _ s i4' (nov _) h5
  refine ⟨i5.lines, s3.m.cur.head?, ?_⟩
  intro j l hj ht
  rcases i5.noEof _ rfl j l hj ht with hf | hh
  · exact hf.elim
  · exact hh

theorem cinv_new (E : EofSpec) (kinds0 : List RawKind) (kinds : Array RawKind) (nl : Array Bool) (pass : List Nat) :
    CInv E (PS.new kinds0 kinds nl pass) := by
  have hl : ∀ l ∈ (PS.new kinds0 kinds nl pass).m.lines,
      l = { parent := none, level := 0, tokens := [], ltype := .lUnknown } := by
    intro l hl
    simpa [PS.new, PS.m, Traced.init, MState.init] using hl
  refine ⟨?_, ?_, rfl, ?_⟩
  · intro l hl' p hp
    rw [hl l hl'] at hp; cases hp
  · intro c hc; simp [PS.new] at hc
  · intro S _ j l hj ht
    rw [hl l (List.mem_of_getElem? hj)] at ht; cases ht

def PassLinesOk (ls : List PLine) : Prop :=
  passParentsOk ls = true ∧ ∃ top : Option Nat, EofOnlyAt ls (fun j => some j = top)

theorem passLines_ok (toks : List (RawKind × Bool)) (o : ParseFullOut) (h : parseFileFull toks = some o) :
    ∀ ls ∈ o.passLines, PassLinesOk ls := by
  obtain ⟨kinds, acc, hr, _, _, _, _⟩ := parseFileFull_spec toks o h
  obtain ⟨ls, _, hq, hL, _⟩ := runPasses_inv _ _ _ (fun _ _ ls _ => ∀ x ∈ ls, PassLinesOk x)
    (by
      intro pass rest kinds ls trs s kinds2 hs _ _ _ _ hq x hx
      have hgood := parse_lines _ _ s (cinv_new _ _ _ _ _) hs
      rcases List.mem_cons.1 hx with rfl | h1
      · exact ⟨(passParentsOk_iff _).2 hgood.1, hgood.2⟩
      · exact hq x h1)
    _ _ _ _ _ _ _ (by intro x hx; cases hx) hr
  rw [hL]
  exact fun x hx => hq x (List.mem_reverse.1 hx)

/-- **`parentsOk` holds for every answer of the parser model**: in the lines of every pass, every parent reference
    points at a line of the pass that holds the parent token. -/
theorem parentsOk_holds (toks : List (RawKind × Bool)) (o : ParseFullOut) (h : parseFileFull toks = some o) :
    parentsOk o = true := by
  unfold parentsOk
  rw [List.all_eq_true]
  exact fun ls hls => (passLines_ok toks o h ls hls).1

/-- **Parent references of the final lines** (no hypothesis): the parent line exists, precedes the child line and
    holds the parent token. -/
theorem final_parents (toks : List (RawKind × Bool)) (o : ParseFullOut) (h : parseFileFull toks = some o) :
    AccOk o.lines :=
  final_parents_contain_token toks o h (parentsOk_holds toks o h)

theorem filter_unique {α : Type} (p : α → Bool) {ls : List α} {i : Nat} {a : α} (hi : ls[i]? = some a) (hp : p a = true)
    (hu : ∀ (j : Nat) (b : α), ls[j]? = some b → p b = true → j = i) : ls.filter p = [a] := by
  induction ls generalizing i with
  | nil => cases hi
  | cons x r ih =>
    cases i with
    | zero =>
      obtain rfl : x = a := Option.some.inj hi
      rw [List.filter_cons_of_pos hp, List.filter_eq_nil_iff.2 fun b hb hpb => ?_]
      obtain ⟨j, hj⟩ := List.getElem?_of_mem hb
      cases hu (j + 1) b hj hpb
    | succ k =>
      rw [List.filter_cons_of_neg fun hx => nomatch hu 0 x rfl hx]
      exact ih hi fun j b hj hpb => Nat.succ.inj (hu (j + 1) b hj hpb)

/-- the weaker, more natural hypothesis about the end-of-file line: the lines of every pass include `eofLine`
    (the pass ended by putting the end-of-file token alone on a line, at level 0, without a parent) -/
def eofLineInEveryPass (o : ParseFullOut) : Bool := o.passLines.all (fun ls => ls.contains (eofLine o.kinds.length))

theorem eofOk_iff (toks : List (RawKind × Bool)) (o : ParseFullOut) (h : parseFileFull toks = some o) :
    eofOk o = true ↔ eofLineInEveryPass o = true := by
  unfold eofOk eofLineInEveryPass
  rw [List.all_eq_true, List.all_eq_true]
  constructor
  · intro hg ls hls
    simpa using (passEofOk_spec _ ls (hg ls hls) (passLines_nodup toks o h ls hls)).1
  · intro hg ls hls
    have hmem : eofLine o.kinds.length ∈ ls := by simpa using hg ls hls
    obtain ⟨_, top, htop⟩ := passLines_ok toks o h ls hls
    obtain ⟨i, hi⟩ := List.getElem?_of_mem hmem
    have hti : some i = top := htop i _ hi rfl
    unfold passEofOk
    rw [filter_unique (fun l : PLine => l.ltype == .lEof) hi rfl]
    · simp
    · intro j b hj hb
      have := htop j b hj (by simpa using hb)
      rw [← hti] at this
      exact Option.some.inj this

/-- **Exactly one end-of-file line, holding only the end-of-file token**, from the weaker hypothesis -/
theorem final_single_eof_line' (toks : List (RawKind × Bool)) (o : ParseFullOut)
    (h : parseFileFull toks = some o) (hlast : (toks.map (·.1)).getLast? = some .rEof)
    (hg : eofLineInEveryPass o = true) :
    ∃ j, o.lines[j]? = some (eofLine toks.length) ∧
      ∀ (j' : Nat) (l : PLine), o.lines[j']? = some l → (l.ltype = .lEof ∨ (toks.length - 1) ∈ l.tokens) → j' = j :=
  final_single_eof_line toks o h hlast ((eofOk_iff toks o h).2 hg)

end Pasfmt.Parents
