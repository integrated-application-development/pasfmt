/-
  The sharpest form of the layout invariance of `TokenSpacing`: whether a gap is empty matters only BEHIND a token
  handled by `max_one_either_side` (a literal or an unknown token) and in front of the end-of-file token; every
  other gap may be empty in one layout and hold blanks or a line break in the other (`a:=b` and `a := b`).
  Each statement is one fact about a position (`spAt_congr` of Proofs/SpacingForm.lean) lifted over the list.
-/
import PasfmtModel.Proofs.SpacingForm

namespace Pasfmt

/-- no token is a line comment that shares its line with code -/
def noInlineLine (items : List (Kind × Nat)) : Prop := ∀ p ∈ items, p.1 ≠ .tComment .cInlineLine

theorem spacingRule_eof (prev prevReal next : Option Kind) (c : Nat) (n : Option Nat) :
    spacingRule .tEof prev prevReal next c n = (some (min c 1), n.map (min · 1)) := rfl

/-- two `(kind, spaces_before)` views with the same kinds whose spaces agree, as "none or some", wherever
    `TokenSpacing` can read them: at a token that can keep its own spaces (`keepsCur`) behind a token of the last arm
    (`po`: the token before is one), and at the end-of-file token -/
inductive LayoutEqW2 : Bool → List (Kind × Nat) → List (Kind × Nat) → Prop
  | nil {po} : LayoutEqW2 po [] []
  | cons {po k a b r1 r2} : (((po = true ∧ keepsCur k = true) ∨ k = .tEof) → min a 1 = min b 1) →
      LayoutEqW2 (isOtherKind k) r1 r2 → LayoutEqW2 po ((k, a) :: r1) ((k, b) :: r2)

/-! ### with line comments that share their line with code

The rule of such a comment writes nothing behind it, so the next token keeps the input's spaces unless its own rule
overwrites them.  Results then agree everywhere except at a token that can keep its spacing (`keepsCur`) directly
behind such a comment ("free" positions). -/

/-- two result lists agree except at free positions -/
def EqX : Option Kind → List (Kind × Nat) → List Nat → List Nat → Prop
  | _, [], [], [] => True
  | prev, (k, _) :: l, x :: r1, y :: r2 =>
    ((prev = some (.tComment .cInlineLine) ∧ keepsCur k = true) ∨ x = y) ∧ EqX (some k) l r1 r2
  | _, _, _, _ => False

theorem LayoutEqW2.head_kind {po : Bool} {l1 l2 : List (Kind × Nat)} (h : LayoutEqW2 po l1 l2) :
    l1.head?.map (·.1) = l2.head?.map (·.1) := by
  cases h <;> rfl

theorem spTail_layoutW3 (p pr : Option Kind) (k : Kind) (r1 r2 : List (Kind × Nat))
    (h : LayoutEqW2 (isOtherKind k) r1 r2) : EqX (some k) r1 (spTail p pr k r1) (spTail p pr k r2) := by
  induction r1 generalizing p pr k r2 with
  | nil => cases h; trivial
  | cons y r1 ih =>
    cases h with
    | @cons _ k' a b _ r2 hab hr =>
      simp only [spTail, ← hr.head_kind]
      exact ⟨(spAt_congr p pr k k' _ a b hab).imp (fun hf => ⟨congrArg some hf.1, hf.2⟩) id, ih _ _ _ _ hr⟩

theorem EqX.of_eq : ∀ (prev : Option Kind) (l : List (Kind × Nat)) (r : List Nat), r.length = l.length → EqX prev l r r
  | _, [], [], _ => trivial
  | _, [], _ :: _, h => by simp at h
  | _, _ :: _, [], h => by simp at h
  | prev, (k, a) :: l, x :: r, h => ⟨Or.inr rfl, EqX.of_eq (some k) l r (by simpa using h)⟩

theorem EqX.trans_eq {prev : Option Kind} {l : List (Kind × Nat)} {r1 r2 r3 : List Nat}
    (h : EqX prev l r1 r2) (e : r2 = r3) : EqX prev l r1 r3 := e ▸ h

theorem EqX.get (prev : Option Kind) (l : List (Kind × Nat)) (r1 r2 : List Nat) (h : EqX prev l r1 r2) :
    r1.length = l.length ∧ r2.length = l.length ∧
    ∀ (j : Nat) (x y : Nat) (p : Kind × Nat), r1[j]? = some x → r2[j]? = some y → l[j]? = some p →
      ((if j = 0 then prev else (l[j - 1]?).map (·.1)) = some (.tComment .cInlineLine) ∧ keepsCur p.1 = true) ∨
        x = y := by
  fun_induction EqX prev l r1 r2 with
  | case1 => exact ⟨rfl, rfl, fun j x y p h => by simp at h⟩
  | case2 prev k a l x0 r1 y0 r2 ih =>
    obtain ⟨h0, hr⟩ := h
    obtain ⟨l1, l2, hg⟩ := ih hr
    refine ⟨by simp [l1], by simp [l2], ?_⟩
    intro j x y p hx hy hp
    cases j with
    | zero =>
      simp at hx hy hp
      subst hx; subst hy; subst hp
      simpa using h0
    | succ j =>
      have := hg j x y p (by simpa using hx) (by simpa using hy) (by simpa using hp)
      cases j with
      | zero => simpa using this
      | succ j => simpa using this
  | case3 => exact h.elim

theorem spacingResult_layoutW3 (l1 l2 : List (Kind × Nat)) (h : LayoutEqW2 false l1 l2) :
    EqX none l1 (spacingResult l1) (spacingResult l2) := by
  cases h with
  | nil => trivial
  | cons hab hr => rw [spacingResult_eq, spacingResult_eq]; exact ⟨.inr rfl, spTail_layoutW3 _ _ _ _ _ hr⟩

theorem EqX.eq (prev : Option Kind) (l : List (Kind × Nat)) (r1 r2 : List Nat)
    (hp : prev ≠ some (.tComment .cInlineLine)) (hni : noInlineLine l) (h : EqX prev l r1 r2) : r1 = r2 := by
  fun_induction EqX prev l r1 r2 with
  | case1 => rfl
  | case2 prev k a l x r1 y r2 ih =>
    rw [h.1.resolve_left fun h => hp h.1,
      ih (fun e => hni (k, a) (by simp) (Option.some.inj e)) (fun p hp => hni p (by simp [hp])) h.2]
  | case3 => exact h.elim

theorem spacingResult_layoutW2 (l1 l2 : List (Kind × Nat)) (h : LayoutEqW2 false l1 l2) (hni : noInlineLine l1) :
    spacingResult l1 = spacingResult l2 :=
  EqX.eq none l1 _ _ (fun e => nomatch e) hni (spacingResult_layoutW3 l1 l2 h)

/-- through `min · 1`, the view `spacingItems` has of the gap in front of a token behind an "other" token tells an empty
    gap from a non-empty one and nothing else -/
theorem min_viewSp_eq (n s : Nat) : min (if n > 0 then max s 1 else s) 1 = if (n == 0 && s == 0) then 0 else 1 := by
  cases n with
  | succ n => simp; omega
  | zero => cases s <;> simp

theorem min_viewSp {n1 s1 n2 s2 : Nat} (hg : (n1 == 0 && s1 == 0) = (n2 == 0 && s2 == 0)) :
    min (if n1 > 0 then max s1 1 else s1) 1 = min (if n2 > 0 then max s2 1 else s2) 1 := by
  rw [min_viewSp_eq, min_viewSp_eq, hg]

/-- two layouts of one token sequence as `TokenSpacing` can tell them apart; `po` = the token before the head is of
    an "other" kind -/
inductive GapEqW : Bool → FT → FT → Prop
  | nil {po} : GapEqW po [] []
  | cons {po t1 t2 r1 r2} : t1.tok.kind = t2.tok.kind →
      ((po = true ∧ keepsCur t1.tok.kind = true) → gapEmpty t1 = gapEmpty t2) →
      (t1.tok.kind = .tEof → min t1.fmt.sp 1 = min t2.fmt.sp 1) → GapEqW (isOtherKind t1.tok.kind) r1 r2 →
      GapEqW po (t1 :: r1) (t2 :: r2)

theorem spacingItemsGo_layoutW2 (po : Bool) (ft1 ft2 : FT) (h : GapEqW po ft1 ft2) :
    LayoutEqW2 po (spacingItemsGo po ft1) (spacingItemsGo po ft2) := by
  induction h with
  | nil => exact LayoutEqW2.nil
  | @cons po t1 t2 r1 r2 hk hg he hr ih =>
    unfold spacingItemsGo
    simp only
    rw [← hk]
    refine LayoutEqW2.cons ?_ ih
    rintro (⟨rfl, hkc⟩ | hke)
    · by_cases hke : t1.tok.kind = .tEof
      · simp [hke, he hke]
      · have e1 : (t1.tok.kind == TokenType.tEof) = false := by simpa using hke
        simp only [Bool.true_and, e1, Bool.not_false, Bool.and_true, decide_eq_true_eq]
        exact min_viewSp (hg ⟨rfl, hkc⟩)
    · simp [hke, he hke]

theorem spacingResult_gapEqW (ft1 ft2 : FT) (h : GapEqW false ft1 ft2)
    (hni : noInlineLine (spacingItems ft1)) :
    spacingResult (spacingItems ft1) = spacingResult (spacingItems ft2) :=
  spacingResult_layoutW2 _ _ (spacingItemsGo_layoutW2 false ft1 ft2 h) hni

theorem gapEqWB_sound : ∀ (po : Bool) (ft1 ft2 : FT), gapEqWB po ft1 ft2 = true → GapEqW po ft1 ft2
  | _, [], [], _ => GapEqW.nil
  | _, [], _ :: _, h => by simp [gapEqWB] at h
  | _, _ :: _, [], h => by simp [gapEqWB] at h
  | po, t1 :: r1, t2 :: r2, h => by
    unfold gapEqWB at h
    simp only [Bool.and_eq_true, Bool.or_eq_true, Bool.not_eq_true', beq_iff_eq] at h
    obtain ⟨⟨⟨hk, hg⟩, he⟩, hr⟩ := h
    refine GapEqW.cons hk ?_ ?_ (gapEqWB_sound _ r1 r2 hr)
    · intro hpo
      rcases hg with hg | hg
      · rcases hg with hg | hg
        · rw [hpo.1] at hg; cases hg
        · rw [hpo.2] at hg; cases hg
      · exact hg
    · intro hke
      rcases he with he | he
      · rw [hke] at he; simp at he
      · exact he

/-! ### the coarser relations

The original spacing of a token matters only when the token before it is handled by `max_one_either_side` (a literal
or an unknown token), or when the token is the end-of-file token.  Together with the view `spacingItems` (a token on
another line counts as having one space before it) this gives: a gap that is "a space" and a gap that is "a line break
and any indentation" are the same thing to `TokenSpacing`. -/

theorem isOtherKind_eof : isOtherKind .tEof = true := rfl

/-- two layouts of one token sequence: same kinds, a gap is empty in one iff it is empty in the other
    (how many spaces, whether there is a line break, and how far the next line is indented are free);
    the end-of-file token keeps `min spaces 1` -/
inductive GapEq : FT → FT → Prop
  | nil : GapEq [] []
  | cons {t1 t2 r1 r2} : t1.tok.kind = t2.tok.kind → gapEmpty t1 = gapEmpty t2 →
      (t1.tok.kind = .tEof → min t1.fmt.sp 1 = min t2.fmt.sp 1) → GapEq r1 r2 → GapEq (t1 :: r1) (t2 :: r2)

theorem GapEq.toW {ft1 ft2 : FT} (h : GapEq ft1 ft2) (po : Bool) : GapEqW po ft1 ft2 := by
  induction h generalizing po with
  | nil => exact .nil
  | cons hk hg he _ ih => exact .cons hk (fun _ => hg) he (ih _)

/-- two token lists with the same kinds whose original spacing agrees up to `min · 1` -/
inductive LayoutEq : List (Kind × Nat) → List (Kind × Nat) → Prop
  | nil : LayoutEq [] []
  | cons {k a b r1 r2} : min a 1 = min b 1 → LayoutEq r1 r2 → LayoutEq ((k, a) :: r1) ((k, b) :: r2)

theorem LayoutEq.toW2 {l1 l2 : List (Kind × Nat)} (h : LayoutEq l1 l2) (po : Bool) : LayoutEqW2 po l1 l2 := by
  induction h generalizing po with
  | nil => exact .nil
  | cons hab _ ih => exact .cons (fun _ => hab) (ih _)

end Pasfmt
