/-
  Canonical counters after the wrapper stage with the search inside (for C08): every token written by a solution has
  at most two line breaks before it and no indentation without a line break; the stage never adds spaces; the last
  step removes the spaces at line starts.  Hence, when every token that is not kept verbatim is written, all of them
  have canonical counters (`canonFmtB`), whatever the search returned.
-/
import PasfmtModel.Proofs.WrapStageProps
import PasfmtModel.Model.LayoutCheck
import PasfmtModel.Proofs.SpacingForm
import PasfmtModel.Proofs.Run

namespace Pasfmt

/-- per position: a token that is not kept verbatim has at most one space before it and, if it is in `W`, the
    counters a solution leaves -/
def CanonOn (W : Nat → Prop) (ft : FT) : Prop :=
  ∀ j t, ft[j]? = some t → t.fmt.ignored = false → t.fmt.sp ≤ 1 ∧ (W j → canonWB t.fmt = true)

theorem applyDec_canonW (f : FmtData) (first : Bool) (ind cont : Nat) (d : Dec) :
    canonWB (applyDec f first ind cont d) = true := by
  cases d with
  | brk c =>
    unfold applyDec canonWB
    by_cases hf : first = true
    · simp only [hf, if_true]
      have h1 : min (max f.nl 1) 2 ≤ 2 := by omega
      have h2 : min (max f.nl 1) 2 ≠ 0 := by omega
      simp [h1, h2]
    · simp [hf]
  | cont => simp [applyDec, canonWB]

theorem applyDec_sp (f : FmtData) (first : Bool) (ind cont : Nat) (d : Dec) :
    (applyDec f first ind cont d).sp = f.sp := by rw [applyDec_eq]

/-- `CanonOn` at one position; `w`: the position is written -/
def CanonW (w : Prop) (t : FTok) : Prop := t.fmt.ignored = false → t.fmt.sp ≤ 1 ∧ (w → canonWB t.fmt = true)

theorem CanonW.dec {w : Prop} {t : FTok} (first : Bool) (ind cont : Nat) (d : Dec) (h : CanonW w t) :
    CanonW True { t with fmt := applyDec t.fmt first ind cont d } := fun hi =>
  ⟨by rw [show _ = (applyDec t.fmt first ind cont d).sp from rfl, applyDec_sp]
      exact (h (by rw [← applyDec_ignored t.fmt first ind cont d]; exact hi)).1,
    fun _ => applyDec_canonW _ _ _ _ _⟩

theorem canonW_dec (ft0 : FT) : DecLift fun w => Since (fun _ _ t => CanonW w t) ft0 :=
  DecLift.since (I := fun w _ _ t => CanonW w t) (fun first ind cont d h => h.dec first ind cont d) ft0

theorem CanonOn.pw {W : Nat → Prop} {ft : FT} : CanonOn W ft ↔ Pw (fun j _ t => CanonW (W j) t) ft ft :=
  ⟨fun h => ⟨rfl, fun j _ t _ ht => h j t ht⟩, fun h j t ht => h.2 j t t ht ht⟩

theorem applyChildren_canon (lines : List Line) (W : Nat → Prop) (ft ft1 : FT) (ks : List (Nat × Sol))
    (h : CanonOn W ft) (h1 : applyChildren lines ft ks = some ft1) :
    CanonOn (fun j => W j ∨ j ∈ childrenTokens lines ks) ft1 := fun j t ht =>
  have r := since_run (fun r => applyChildren_lift (canonW_dec ft) lines W ft ft ft1 ks r h1) (CanonOn.pw.1 h)
  r.2 j _ t (List.getElem?_eq_getElem (r.1 ▸ getElem?_lt_of_some ht)) ht

/-- once a token is written, every later step of the stage keeps its counters canonical -/
theorem canonW_steps (S : Settings) : StepRel S fun _ t t' => CanonW True t → CanonW True t' where
  refl _ _ h := h
  trans _ _ _ _ h1 h2 h := h2 (h1 h)
  dec _ t first ind cont d h := h.dec first ind cont d
  mls _ t h := by unfold CanonW; rw [mlsUpd_fmt]; exact h
  zero _ t h := by
    rw [zeroTok_eq]
    refine fun hi => ⟨?_, (h hi).2⟩
    dsimp only
    split
    · exact Nat.zero_le _
    · exact (h hi).1

/-- a written token has canonical counters once the spaces at line starts are removed -/
theorem zeroTok_canon {t : FTok} (h : CanonW True t) (hi : t.fmt.ignored = false) :
    canonFmtB (zeroTok t).fmt = true := by
  obtain ⟨hs, hc⟩ := h hi
  have hc := hc trivial
  unfold canonWB at hc
  unfold canonFmtB
  simp only [Bool.and_eq_true, decide_eq_true_eq, Bool.or_eq_true, bne_iff_ne, ne_eq, beq_iff_eq] at hc ⊢
  rw [zeroTok_eq]
  dsimp only
  split <;> omega

theorem zero_canon (ft : FT) (h : CanonOn (fun _ => True) ft) :
    ∀ t ∈ zeroLineStartSpaces ft, t.fmt.ignored = false → canonFmtB t.fmt = true := by
  intro t ht hi
  rw [zeroLineStartSpaces_eq] at ht
  obtain ⟨u, hu, rfl⟩ := List.mem_map.1 ht
  obtain ⟨j, hj⟩ := List.mem_iff_getElem?.1 hu
  rw [zeroTok_eq] at hi
  exact zeroTok_canon (h j u hj) hi

theorem preStageOkB_sound (lines : List Line) (ft : FT) (h : preStageOkB lines ft = true) :
    CanonOn (fun j => writtenBefore lines ft j = true) ft := by
  intro j t ht hi
  unfold preStageOkB at h
  rw [List.all_eq_true] at h
  have := h (t, j) (List.mem_zipIdx_iff_getElem?.2 ht)
  simp only [hi, Bool.false_or, Bool.and_eq_true, decide_eq_true_eq, Bool.or_eq_true, Bool.not_eq_true'] at this
  exact ⟨this.1, fun w => by simpa [w] using this.2⟩

/-- what `canonPremisesB` says of the run on `s` -/
theorem canonPremisesB_eq_true {cfg : Config} {alnum : Bytes → Bool} {s : Bytes} :
    canonPremisesB cfg alnum s = true ↔ ∃ p ftz sols, preStage alnum s = some p ∧ preStageOkB p.lines p.ft = true ∧
      wrapStageFull cfg p.lines p.ft = some (ftz, sols) ∧
      allWritten p.lines (writtenBefore p.lines p.ft) p.ft.length sols = true := by
  simp only [canonPremisesB_eq, Option.any_eq_true, Bool.and_eq_true, stageHolds_eq_true]
  exact ⟨fun ⟨p, hp, hpre, ftz, sols, hw, ha⟩ => ⟨p, ftz, sols, hp, hpre, hw, ha⟩,
    fun ⟨p, ftz, sols, hp, hpre, hw, ha⟩ => ⟨p, hp, hpre, ftz, sols, hw, ha⟩⟩

end Pasfmt

/-! ### the premise "at most one space" where it is a theorem

  The clause "at most one space before" of `preStageOkB` is a theorem at every position that is not free
  (`freeAtB`): `TokenSpacing` writes 0 or 1 everywhere else, and the later token rules keep or zero the spaces.
-/

namespace Pasfmt.CanonPremise

theorem spTail_free (p pr : Option Kind) (k : Kind) (rest : List (Kind × Nat)) (j v : Nat)
    (hv : (spTail p pr k rest)[j]? = some v) :
    v ≤ 1 ∨ ((k :: rest.map (·.1))[j]? = some (.tComment .cInlineLine) ∧
      (rest[j]?).map (fun p => keepsCur p.1) = some true) := by
  induction rest generalizing p pr k j with
  | nil => cases hv
  | cons y rest ih =>
    obtain ⟨k', a'⟩ := y
    cases j with
    | zero =>
      cases hv
      exact (spAt_le p pr k k' _ a').imp id fun h => ⟨congrArg some h.1, congrArg some h.2⟩
    | succ j => exact ih _ _ _ _ hv

theorem spacingResult_free (l : List (Kind × Nat)) (j v : Nat) (hv : (spacingResult l)[j]? = some v) :
    v ≤ 1 ∨ (j ≥ 1 ∧ (l[j - 1]?).map (·.1) = some (.tComment .cInlineLine) ∧
      (l[j]?).map (fun p => keepsCur p.1) = some true) := by
  cases l with
  | nil => cases hv
  | cons x rest =>
    rw [spacingResult_eq] at hv
    cases j with
    | zero => cases hv; exact .inl (Nat.zero_le _)
    | succ j =>
      refine (spTail_free _ _ _ _ j v hv).imp id fun h => ⟨Nat.succ_pos _, ?_, h.2⟩
      rw [← h.1, ← List.getElem?_map]; rfl

theorem spTok_sp (ft : FT) (j : Nat) (t : FTok) (ht : ft[j]? = some t) :
    (spTok ft j t).fmt.sp ≤ 1 ∨ freeAtB ft j = true := by
  obtain ⟨v, hv, e⟩ := spacingResult_getD ft j (getElem?_lt_of_some ht) t.fmt.sp
  show (spacingResult (spacingItems ft)).getD j t.fmt.sp ≤ 1 ∨ _
  rw [e]
  exact (spacingResult_free _ j v hv).imp id fun ⟨h0, h1, h2⟩ => freeAtB_of_items ft j h0 h1 h2

/-- "at most one space before, except at the positions `F`" -/
def SpOk (F : Nat → Prop) (ft : FT) : Prop := ∀ j t, ft[j]? = some t → t.fmt.sp ≤ 1 ∨ F j

theorem SpOk.eofNewline {F : Nat → Prop} {ft : FT} (h : SpOk F ft) (lines : List Line) :
    SpOk F (eofNewline lines ft) := by
  intro j t ht
  rw [eofNewline_getElem?] at ht
  obtain ⟨a, ha, rfl⟩ := Option.map_eq_some_iff.1 ht
  unfold eofTok
  split
  · exact Or.inl (Nat.zero_le 1)
  · exact h j a ha

/-- **before the wrapper stage every token at a position that is not free has at most one space before it** -/
theorem preWrap_sp (O : Oracles) (raw : List RawTok) (j : Nat) (t : FTok)
    (ht : (preWrap O raw).2.2[j]? = some t) :
    t.fmt.sp ≤ 1 ∨ freeAtB (preWrap O raw).2.2 j = true := by
  unfold preWrap at ht ⊢
  simp only at ht ⊢
  rw [freeAtB_congr _ _ (preRules_kinds O.alnum _ _) j]
  rw [preRules_getElem?] at ht
  obtain ⟨a, ha, rfl⟩ := Option.map_eq_some_iff.1 ht
  unfold eofTok
  split
  · exact Or.inl (Nat.zero_le 1)
  · rw [applyRule_fmt]; exact spTok_sp _ j a ha

theorem preStageOkB_of_prime (O : Oracles) (raw : List RawTok)
    (h : preStageOkB' (preWrap O raw).2.1 (preWrap O raw).2.2 = true) :
    preStageOkB (preWrap O raw).2.1 (preWrap O raw).2.2 = true := by
  unfold preStageOkB' at h
  unfold preStageOkB
  rw [List.all_eq_true] at h ⊢
  intro p hp
  have hp' := h p hp
  rcases preWrap_sp O raw p.2 p.1 (List.mem_zipIdx_iff_getElem?.1 hp) with h1 | h1 <;> simpa [h1] using hp'

end Pasfmt.CanonPremise
