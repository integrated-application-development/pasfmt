/-
  C10 — Indentation settings only re-render indentation.

  Proved: the rendering law for FIXED counters (`recon_tabs_to_spaces`, `indent_units`, `saturated_width`); the
  reduction of the whole property to "the search makes the same decisions under both settings"
  (`stage_of_search_simulation_partial`, `format_full_partial`); the leaf facts of that open statement
  (`penalty_width_free`, `too_long_false`, `token_line_length_le`, `requirement_width_free`); the unconditional
  instance `tab_width = 1` (`stage_tab_width_one`).
  OPEN, not proved and not declared: "search width free" - the decisions of the search do not depend on the widths of
  the indentation strings when no line reaches the width limit; the inventory of all length reads and the exact obstacle (the child-line cache
  key contains a line length) are in the header of Proofs/SearchWidthFree.lean.
-/
import PasfmtModel.Proofs.ReconProps
import PasfmtModel.Proofs.SearchWidthFree
import PasfmtModel.Proofs.Run

namespace Pasfmt.C10

/-- For fixed whitespace counters and `continuation_indents * tab_width ≤ 255`, replacing every tab
    of the `use_tabs = true` rendering by `tab_width` spaces gives exactly the `use_tabs = false`
    rendering (tokens kept verbatim must not contain tabs themselves: then every tab of the output
    is an indentation tab). -/
theorem recon_tabs_to_spaces (c : Config) (hsat : c.contIndents * c.tabWidth ≤ 255)
    (ft : FT) (h : ∀ t ∈ ft, noTabTok t = true) :
    expandTabs c.tabWidth (reconstruct ({ c with useTabs := true }).settings ft)
      = reconstruct ({ c with useTabs := false }).settings ft :=
  reconGo_tabs_to_spaces c hsat ft false h

/-- indentation of a broken line = (levels + continuation_indents × continuations) units, a unit
    being one tab or `tab_width` spaces (no saturation: `continuation_indents * tab_width ≤ 255`) -/
theorem indent_units (c : Config) (hsat : c.contIndents * c.tabWidth ≤ 255) (ind cont : Nat) :
    replicateBytes ind c.settings.indStr ++ replicateBytes cont c.settings.contStr =
      if c.useTabs then List.replicate (ind + c.contIndents * cont) 0x09
      else List.replicate ((ind + c.contIndents * cont) * c.tabWidth) 0x20 :=
  Pasfmt.indent_units c hsat ind cont

/-- the saturation `continuation_indents * tab_width > 255` (known finding F6) is exactly where the
    unit law fails: the continuation width is then 255 columns -/
theorem saturated_width (c : Config) (h : c.useTabs = false) (hs : c.contIndents * c.tabWidth > 255) :
    c.settings.contStr.length = 255 := by
  unfold Config.settings; simp [h, satMulU8]; omega

/-- The penalty of a decision is the same in two runs of the search that differ only in the widths of the
    indentation strings: always for a break, and for a continue when neither line length exceeds the width limit
    (the only length-dependent summand is the overflow penalty, which is then 0 in both runs). -/
theorem penalty_width_free {O₁ O₂ : Olf} (h : OlfTwin O₁ O₂) (rd : RawDecision) (l₁ l₂ li : Nat)
    (line : LineA) (stack : SpecificContextStack)
    (hl : rd = .cont → l₁ ≤ O₁.cfg.wrapColumn ∧ l₂ ≤ O₁.cfg.wrapColumn) :
    O₁.getDecisionPenalty rd l₁ li line stack = O₂.getDecisionPenalty rd l₂ li line stack := by
  cases rd with
  | brk =>
    unfold Olf.getDecisionPenalty Olf.getPrevTokenTypeForLineIndex
    simp only [h.getTokenType]
  | cont =>
    obtain ⟨h1, h2⟩ := hl rfl
    rw [getDecisionPenalty_cont_of_le O₁ _ _ _ _ h1, getDecisionPenalty_cont_of_le O₂ _ _ _ _ (h.wrap ▸ h2)]

/-- the "last line is too long" test of the search (the only other comparison of a length with the limit) is false
    when both lengths it reads are within the limit -/
theorem too_long_false (O : Olf) (lastTokenLength lastChildLength : Nat)
    (h1 : lastTokenLength ≤ O.cfg.wrapColumn) (h2 : lastChildLength ≤ O.cfg.wrapColumn) :
    decide (max lastTokenLength lastChildLength > O.maxLineLength) = false := by
  unfold Olf.maxLineLength
  simp only [decide_eq_false_iff_not]
  omega

/-- one step of the bound on line lengths: if everything the length of the next token is computed from is at most
    `B` (previous length, lengths in the previous token's child solutions, the width of the line's whitespace, the
    last line of a multi-line token), the new length is at most `B` plus the token's spaces and content -/
theorem token_line_length_le (O : Olf) (ws : LineWhitespace) (prev : DecisionRef) (d : Dec) (ti : Option Nat) (B : Nat)
    (hprev : prev.value.lastLineLength ≤ B)
    (hchild : ∀ s ∈ prev.value.childSolutions, ∀ x ∈ s.2.decisions, x.lastLineLength ≤ B)
    (hws : ∀ c, d = .brk c → (ws.add { indentations := 0, continuations := c }).len O.cfg ≤ B)
    (hws0 : ws.len O.cfg ≤ B)
    (hml : ∀ i t l, ti = some i → O.formattedTokens[i]? = some t → t.lastLine = some l → l ≤ B) :
    O.getTokenLineLength ws prev d ti ≤
      B + ((ti.bind fun i => O.tokenLengths[i]?).map fun t => t.spacesBefore + t.content).getD 0 := by
  unfold Olf.getTokenLineLength
  simp only
  split
  · rename_i l hl
    cases ti with
    | none => simp at hl
    | some i =>
      simp only [Option.bind_some] at hl
      cases ht : O.formattedTokens[i]? with
      | none => rw [ht] at hl; cases hl
      | some t =>
        rw [ht] at hl
        have := hml i t l rfl ht hl
        omega
  · split
    · rename_i tl htl
      rw [htl]
      simp only [Option.map_some, Option.getD_some]
      have : (getLastChildLineLen prev.value.childSolutions).getD prev.value.lastLineLength ≤ B := by
        cases hc : getLastChildLineLen prev.value.childSolutions with
        | none => simpa using hprev
        | some l =>
          obtain ⟨s, hs, x, hx, rfl⟩ := getLastChildLineLen_mem _ _ hc
          simpa using hchild s hs x hx
      omega
    · rename_i c tl htl
      rw [htl]
      simp only [Option.map_some, Option.getD_some]
      have := hws c rfl
      omega
    · omega

/-- the requirement of a decision (must break / must not break / indifferent / invalid) reads neither the widths
    of the indentation strings nor any line length -/
theorem requirement_width_free {O₁ O₂ : Olf} (h : OlfTwin O₁ O₂) (li : Nat) (line : LineA)
    (stack : SpecificContextStack) (node : FormattingNode) :
    O₁.getFormattingRequirement li line stack node = O₂.getFormattingRequirement li line stack node :=
  getFormattingRequirement_congr h.getTokenType li line stack node

/-- C10 for the wrapper stage and the reconstruction, reduced to the open statement about the search.  If the
    searches under `use_tabs = true` and `use_tabs = false` are related by a simulation `R` (related states give the
    same solution for every line and related states again, for all token states satisfying a property `V` that
    applying a solution preserves), then with `format_multiline_strings = false` and
    `continuation_indents * tab_width ≤ 255` the stage ends with the same tokens under both settings, and replacing
    every tab of the `use_tabs = true` output by `tab_width` spaces gives exactly the `use_tabs = false` output
    (no final token may contain a tab itself). -/
theorem stage_of_search_simulation_partial (c : Config) (hsat : c.contIndents * c.tabWidth ≤ 255)
    (hm : c.fmtMls = false) (R : SearchState → SearchState → Prop) (V : FT → Prop) (lines : List Line) (ft : FT)
    (hV : ∀ ft s i ft1, V ft → applySol lines ft s i = some ft1 → V ft1)
    (hR : ∀ st₁ st₂ ft i, R st₁ st₂ → V ft →
      (searchSolve st₁ ft i).1 = (searchSolve st₂ ft i).1 ∧ R (searchSolve st₁ ft i).2 (searchSolve st₂ ft i).2)
    (hinit : R (searchInit { c with useTabs := true } lines ft) (searchInit { c with useTabs := false } lines ft))
    (hv : V ft) (ft2 : FT) (sols : List (Nat × Nat × Sol))
    (hw : wrapStageFull { c with useTabs := true } lines ft = some (ft2, sols))
    (hnt : ∀ t ∈ ft2, noTabTok t = true) :
    wrapStageFull { c with useTabs := false } lines ft = some (ft2, sols) ∧
      expandTabs c.tabWidth (reconstruct ({ c with useTabs := true }).settings ft2)
        = reconstruct ({ c with useTabs := false }).settings ft2 := by
  refine ⟨?_, reconGo_tabs_to_spaces c hsat ft2 false hnt⟩
  rw [← hw]
  exact (wrapStageFull_sim { c with useTabs := true } { c with useTabs := false } hm hm R V lines ft hV hR hinit
    hv).symm

/-- C10 for the wrapper stage and the reconstruction when `tab_width = 1`, for every line width: the search sees
    the same configuration under both settings, so with `format_multiline_strings = false` the stage ends with the
    same tokens, and replacing every tab of the `use_tabs = true` output by one space gives the `use_tabs = false`
    output. -/
theorem stage_tab_width_one (c : Config) (h1 : c.tabWidth = 1) (hc : c.contIndents ≤ 255)
    (hm : c.fmtMls = false) (lines : List Line) (ft ft2 : FT) (sols : List (Nat × Nat × Sol))
    (hw : wrapStageFull { c with useTabs := true } lines ft = some (ft2, sols))
    (hnt : ∀ t ∈ ft2, noTabTok t = true) :
    wrapStageFull { c with useTabs := false } lines ft = some (ft2, sols) ∧
      expandTabs c.tabWidth (reconstruct ({ c with useTabs := true }).settings ft2)
        = reconstruct ({ c with useTabs := false }).settings ft2 := by
  have hi : searchInit { c with useTabs := true } lines ft = searchInit { c with useTabs := false } lines ft := by
    unfold searchInit; rw [searchCfg_tab_width_one c h1 hc]
  exact stage_of_search_simulation_partial c (by rw [h1]; omega) hm Eq (fun _ => True) lines ft
    (fun _ _ _ _ _ _ => trivial) (fun st₁ st₂ ft i h _ => by subst h; exact ⟨rfl, rfl⟩) hi trivial ft2 sols hw hnt

/-- C10 for the whole formatter, reduced to two facts about the wrapper stage on the tokens and lines the earlier
    stages produce: (1) the stage ends with the same tokens under `use_tabs = true` and `use_tabs = false` (what
    `stage_of_search_simulation_partial` / `stage_tab_width_one` give), (2) no token it ends with contains a tab.
    Then replacing every tab of the `use_tabs = true` output by `tab_width` spaces gives exactly the
    `use_tabs = false` output (`continuation_indents * tab_width ≤ 255`); in particular one run fails iff the other
    does. -/
theorem format_full_partial (c : Config) (hsat : c.contIndents * c.tabWidth ≤ 255) (alnum : Bytes → Bool)
    (s : Bytes)
    (hstage : ∀ raw, lex s = some raw → ∀ po, parseAndConsolidate raw = some po →
      ∀ p, p = preWrap { parser := fun _ => po, wrap := fun _ _ ft => ft, alnum := alnum } raw →
      wrapStageFull { c with useTabs := true } p.2.1 p.2.2 = wrapStageFull { c with useTabs := false } p.2.1 p.2.2 ∧
      ∀ ft2 sols, wrapStageFull { c with useTabs := true } p.2.1 p.2.2 = some (ft2, sols) →
        ∀ t ∈ ft2, noTabTok t = true) :
    (formatFull { c with useTabs := true } alnum s).map (expandTabs c.tabWidth) =
      formatFull { c with useTabs := false } alnum s := by
  rw [formatFull_eq, formatFull_eq]
  cases hp : preStage alnum s with
  | none => rfl
  | some p =>
    obtain ⟨raw, po, hl, hpo, rfl⟩ := preStage_eq_some.1 hp
    obtain ⟨h1, h2⟩ := hstage raw hl po hpo _ rfl
    simp only [Option.bind_some, Pre.run, Pre.of, preO, ← h1]
    cases hw : wrapStageFull { c with useTabs := true } _ _ with
    | none => rfl
    | some r => exact congrArg some (reconGo_tabs_to_spaces c hsat r.1 false (h2 r.1 r.2 hw))

end Pasfmt.C10
