/-
  C13 — Scanning is lossless and follows the Delphi lexical rules at any length.

  The property theorems; the general lemmas behind them live in `Proofs/`.  `lex` is the exact model of
  `DelphiLexer::lex` (`Model/Lexer.lean`), tied to the code by the `lex` correspondence stream.
-/
import PasfmtModel.Proofs.Simd
import PasfmtModel.Proofs.Keywords
import PasfmtModel.Proofs.LexTotal
import PasfmtModel.Proofs.LexBoundaries
import PasfmtModel.Proofs.LexLocal
import PasfmtModel.Proofs.LexSpecs
import PasfmtModel.Proofs.LexSpecs2
import PasfmtModel.Proofs.LexSpecs3

namespace Pasfmt.C13

/-- scanning is total: for every byte string (so for every UTF-8 text) a token list is returned; no
    sub-lexer runs out of fuel, no token is empty (the loop always makes progress) and no slice
    leaves the text, with either identifier routine.  (Slices on character boundaries: see
    `lex_char_boundaries`.) -/
theorem lex_total (simd : Bool) (s : Bytes) : ∃ toks, lexWith simd s = some toks := lexWith_total simd s

/-- all boundaries fall on character boundaries: for well-formed UTF-8 input the leading blanks and the
    content of every token are well-formed UTF-8 (every offset at which the Rust scanner slices the
    `&str` is a character boundary), with either identifier routine -/
theorem lex_char_boundaries (simd : Bool) (s : Bytes) (toks : List RawTok) (hv : ValidUtf8 s)
    (h : lexWith simd s = some toks) : ∀ t ∈ toks, ValidUtf8 t.ws ∧ ValidUtf8 t.content :=
  lexWith_char_boundaries simd s toks hv h

/-- leading blanks and contents of the tokens concatenate back to exactly the input -/
theorem lex_lossless (s : Bytes) (toks : List RawTok) (h : lex s = some toks) :
    toks.flatMap (fun t => t.ws ++ t.content) = s :=
  lex_lossless_with false s toks h

/-- exactly one end-of-file token, last, with empty content -/
theorem lex_single_eof_last (s : Bytes) (toks : List RawTok) (h : lex s = some toks) :
    ∃ pre e, toks = pre ++ [e] ∧ e.kind = .rEof ∧ e.content = [] ∧ ∀ t ∈ pre, t.kind ≠ .rEof := by
  obtain ⟨pre, e, hp, he, hall⟩ := lexWith_shape h
  exact ⟨pre, e, hp, he.kind_eq, he.content_nil, fun t ht => (hall t ht).kind_ne⟩

/-- the leading whitespace of every token consists of blanks only (bytes ≤ 0x20 and U+3000), and
    is absorbed by blank-stripping whatever follows it -/
theorem lex_ws_blank (s : Bytes) (toks : List RawTok) (h : lex s = some toks) :
    ∀ t ∈ toks, BlankOnly t.ws ∧ Gap t.ws :=
  fun t ht => ⟨(lex_ws_gap s toks h t ht).blankOnly, lex_ws_gap s toks h t ht⟩

/-- every token but the last has non-empty content starting at a non-blank character -/
theorem lex_nonempty_nonblank_start (s : Bytes) (toks : List RawTok) (h : lex s = some toks) :
    ∀ t ∈ toks, t.kind ≠ .rEof →
      ∃ b r, t.content = b :: r ∧ ¬ b ≤ 0x20 ∧ ¬ ([0xE3, 0x80, 0x80] <+: t.content) := by
  obtain ⟨pre, e, hp, he, hall⟩ := lexWith_shape h
  intro t ht hk
  rw [hp] at ht
  rcases List.mem_append.1 ht with h1 | h1
  · exact (hall t h1).nonblank
  · simp at h1; subst h1; exact absurd he.kind_eq hk

/-- the AVX2 identifier routine (lane-wise model with signed compares, 32-byte chunks, non-ASCII
    bail-out, `trailing_ones`, scalar tail) returns the same offset as the generic routine for
    every byte string and every chunk budget -/
theorem ident_simd_eq_scalar (fuel : Nat) (l : Bytes) : identLenSimd fuel l = identLen l :=
  identLenSimd_eq fuel l

/-- hence the whole token stream does not depend on the CPU-specific routine selected at run time -/
theorem lex_simd_eq_scalar (s : Bytes) : lexWith true s = lex s := lexWith_simd s

/-- keyword recognition (perfect hash + case-insensitive compare) is exactly "the table entry
    spelled like the lower-cased word, else identifier", for words of every length and letter case -/
theorem keyword_lookup_spec (w : Bytes) : wordKind w = keywordSpec w := wordKind_eq_spec w

/-- the perfect-hash table the Rust const evaluation builds exists (no collision, all in range) -/
theorem keyword_table_builds : (mkLookupTable keywords).isSome = true := by
  obtain ⟨t, ht, _⟩ := mkLookupTable_of_perfect keywords_perfect
  rw [ht]; rfl

/-- the translator found the gperf shape of `hash_keyword` and the table size expression unchanged: both constants
    are written by `tools/extract.py`, which sets them to `false` if the Rust text no longer has the expected shape -/
theorem hash_shape_unchanged : hashShapeOk = true ∧ lookupTableSizeIsAsso0 = true := by decide

-- Non-vacuity of the `ValidUtf8` hypothesis: the sample below (with `é`) is well-formed.
example : validUtf8 [66, 101, 103, 105, 110, 32, 123, 99, 125, 32, 195, 169, 32, 227, 128, 128, 101, 110, 100] = true := by
  decide +kernel

-- Non-vacuity: a concrete input with a comment, a directive, a keyword in mixed case, a
-- multi-line string and non-ASCII text is accepted by the model and yields 10 tokens.
example : (lex [66, 101, 103, 105, 110, 32, 123, 99, 125, 32, 120, 32, 58, 61, 32, 39, 39, 39, 10, 32, 97, 10, 32, 39, 39, 39, 59, 123, 36, 82, 43, 125, 32, 195, 169, 32, 101, 110, 100]).map List.length = some 10 := by
  rw [lex_eq_lexK]; decide +kernel

/-- **Token boundaries and kinds do not depend on the position in the text or on what follows.**
    What the scanner finds at the head of `p ++ s` (blanks, end, kind, next state) it finds at the
    head of `p ++ s'` for every other continuation `s'`, as soon as the token ends three bytes (one
    character of lookahead) before the end of `p`.  Since the scanner only ever looks at the text from
    the current offset on (`lexFuel` passes `inp.drop e`), what precedes a token matters only through
    the three-field state.  Holds for every token class and every length.  (The statement of
    `C02.scanner_is_local`; both are `lexOne_local`.) -/
theorem scan_is_position_independent (st : LexState) (p s s' : Bytes) (ws e : Nat) (k : RawKind) (st' : LexState)
    (ht : countTrailingWs (p ++ s) ≤ s.length)
    (h : lexOne false st (p ++ s) = some (some (ws, e, k, st'))) (he : e + 3 ≤ p.length) :
    lexOne false st (p ++ s') = some (some (ws, e, k, st')) :=
  lexOne_local st p s s' ws e k st' ht h he

/-! ### Declarative specifications of the sub-lexers

  Each statement is about the model's own sub-lexer function (`identLen`, `lineCommentEnd`,
  `blockComment`, `decNumberRest`, `countHex`, `countBinary`, `textLiteral`, `wordKind`) and holds
  for every byte string, of any length.  The specifications (`Proofs/LexSpecs.lean`) are phrased
  with "longest prefix in a language" (`LongestPrefixIn`), "first occurrence" (`FirstOcc`) and small
  grammars; the `*_token_spec` theorems at the end connect the sub-lexers to the tokens via the
  dispatch tables. -/

/-- **Identifiers are maximal munch.**  Identifier bytes are ASCII letters, digits, `_` and every
    byte `≥ 0x80` (all bytes of non-ASCII characters).  A length `n` is an *identifier prefix* of
    the text (its first `n` bytes are identifier bytes and U+3000 = `E3 80 80`, the ideographic
    space, starts at none of these `n` positions) exactly when `n ≤ identLen l`: the scanner returns
    the greatest such length.  It stops at the end of the text, at a byte that is not an identifier
    byte, or right before U+3000 — whatever the length of the identifier. -/
theorem ident_maximal_munch (l : Bytes) :
    (∀ n, IdentPrefix l n ↔ n ≤ identLen l) ∧
    (identLen l = l.length ∨ (∃ b, l[identLen l]? = some b ∧ isIdentByte b = false) ∨
      OccursAt u3000 l (identLen l)) :=
  ⟨identPrefix_iff l, identLen_stop l⟩

/-- the identifier byte class in plain terms -/
theorem ident_byte_class (b : UInt8) : isIdentByte b = true ↔
    (0x41 ≤ b ∧ b ≤ 0x5A) ∨ (0x61 ≤ b ∧ b ≤ 0x7A) ∨ (0x30 ≤ b ∧ b ≤ 0x39) ∨ b = 0x5F ∨ 0x80 ≤ b := by
  simp [isIdentByte, isIdentAscii, isAlnum, isAlpha, isUpper, isLower, isDigit, or_assoc]

/-- closed form of the identifier scan: the run of identifier bytes (`takeWhile`), cut at the first
    occurrence of U+3000 in the text -/
theorem ident_closed_form (l : Bytes) :
    identLen l = min (l.takeWhile isIdentByte).length ((findSub u3000 l).getD l.length) := by
  have hf : (findSub u3000 l).getD l.length = spanLen (fun t => !u3000.isPrefixOf t) l := by
    have := spanLen_le (fun t => !u3000.isPrefixOf t) l
    rw [findSub_eq_span _ (by simp [u3000])]
    split
    · rfl
    · simp only [Option.getD_none]; omega
  rw [← countWhile_eq_takeWhile, countWhile_eq_span, hf, ← spanLen_and, identLen_eq_span]
  rfl

-- `ab_1é` is scanned as one identifier (6 bytes) and stops before U+3000
example : identLen [97, 98, 95, 49, 195, 169, 227, 128, 128, 120] = 6 := by decide

/-- **A `//` comment extends exactly up to (not including) the first CR or LF, or to the end of the
    text**: its body is the longest prefix of the bytes after `//` without CR and LF, i.e.
    `takeWhile (≠ CR, ≠ LF)`; the scan stops at the end of the text or on a CR / LF byte. -/
theorem line_comment_spec (l : Bytes) :
    LongestPrefixIn NoLineBreak l (lineCommentEnd l) ∧
    l.take (lineCommentEnd l) = l.takeWhile (fun b => !(b == 0x0A || b == 0x0D)) ∧
    (lineCommentEnd l = l.length ∨ l[lineCommentEnd l]? = some 0x0A ∨ l[lineCommentEnd l]? = some 0x0D) :=
  ⟨lineCommentEnd_longest l, take_lineCommentEnd l, lineCommentEnd_stop l⟩

-- ` a` CR LF `b`: the comment body is ` a`
example : lineCommentEnd [32, 97, 13, 10, 98] = 2 := by decide

/-- **Block comments.**  For the text `l` after the opener (`{` or `(*`), the result
    `(token length, kind)` of the block-comment scanner is the unique pair allowed by
    `BlockCommentSpec`:
    * if the closer (`}` resp. `*)`) occurs in `l`, the token ends right after its *first* occurrence,
      and the kind is multi-line block if the token text contains a line feed (a lone CR does not
      count), otherwise individual block if the comment is the first token on its line
      (`nlBefore`), otherwise inline block;
    * if the closer does not occur, the token runs to the end of the text minus the trailing blanks
      (`tokLen - trim`) and is always classified multi-line block. -/
theorem block_comment_spec (trim : Nat) (kind : BlockCommentKind) (openLen tokLen : Nat) (nlBefore : Bool)
    (l : Bytes) (x : Nat × CommentKind) :
    BlockCommentSpec kind trim openLen tokLen nlBefore l x ↔ x = blockComment trim kind openLen tokLen nlBefore l :=
  ⟨fun h => BlockCommentSpec.unique h (blockComment_sat trim kind openLen tokLen nlBefore l),
   fun h => h ▸ blockComment_sat trim kind openLen tokLen nlBefore l⟩

/-- the search used by comments and directives returns the offset just after the first occurrence
    of the closer, and fails exactly when there is none -/
theorem block_comment_end_spec (k : BlockCommentKind) (l : Bytes) :
    (∀ e, findBlockCommentEnd k l = some e ↔ ∃ i, e = i + (closer k).length ∧ FirstOcc (closer k) l i) ∧
    (findBlockCommentEnd k l = none ↔ ∀ j, ¬ OccursAt (closer k) l j) :=
  ⟨findBlockCommentEnd_some_iff k l, findBlockCommentEnd_none_iff k l⟩

-- `{a}b} `: ends after the first `}`; inline.   `{a` LF `b}`: multi-line.   `{a` CR `b}` on its own line: individual.
example : blockComment 0 .brace 1 6 false [97, 125, 98, 125, 32] = (3, .cInlineBlock) := by decide
example : blockComment 0 .brace 1 5 false [97, 10, 98, 125] = (5, .cMultilineBlock) := by decide
example : blockComment 0 .brace 1 5 true [97, 13, 98, 125] = (5, .cIndividualBlock) := by decide
-- `(* a *  ` unterminated (9 bytes from the opener, 2 trailing blanks): 7 bytes, multi-line
example : blockComment 2 .parenStar 2 9 true [32, 97, 32, 42, 32, 32] = (7, .cMultilineBlock) := by decide

/-- **Decimal literals are maximal munch over the grammar**
    `digit (digit|_)* ( '.' digit (digit|_)* )? ( (e|E) (+|-)? (digit (digit|_)*)? )?`:
    what the scanner consumes after the first digit is the longest prefix of the remaining text in
    the language `DecTail` (the grammar without its first digit).  Consequences: the fraction is
    taken only if a digit follows the `.` (so `1..2` and `1.e3` stop after `1`, and `1._5` too); an
    `e`/`E` is consumed even if no digit follows (`1e`, `1e+` are whole tokens), but the exponent
    digits must not start with `_`. -/
theorem decimal_number_spec (r : Bytes) : LongestPrefixIn DecTail r (decNumberRest r) :=
  decNumberRest_longest r

/-- **Hexadecimal literals**: after `$`, the longest run of hex digits and underscores -/
theorem hex_number_spec (r : Bytes) :
    LongestPrefixIn (AllBytes isHexByte) r (countHex r) ∧ r.take (countHex r) = r.takeWhile isHexByte ∧
    ∀ b, isHexByte b = true ↔ (0x30 ≤ b ∧ b ≤ 0x39) ∨ (0x61 ≤ b ∧ b ≤ 0x66) ∨ (0x41 ≤ b ∧ b ≤ 0x46) ∨ b = 0x5F :=
  ⟨countWhile_longest isHexByte r, take_countWhile isHexByte r, isHexByte_iff⟩

/-- **Binary literals**: after `%`, the longest run of `0`, `1` and underscores -/
theorem binary_number_spec (r : Bytes) :
    LongestPrefixIn (AllBytes isBinaryByte) r (countBinary r) ∧
    r.take (countBinary r) = r.takeWhile isBinaryByte ∧
    ∀ b, isBinaryByte b = true ↔ b = 0x30 ∨ b = 0x31 ∨ b = 0x5F :=
  ⟨countWhile_longest isBinaryByte r, take_countWhile isBinaryByte r, isBinaryByte_iff⟩

-- after the first digit: `..2` → nothing (range operator);  `_0.5_e-3_x` → `_0.5_e-3_`;  `e+` → `e+`;
-- `._5` → nothing;  `E5.3` → `E5`
example : decNumberRest [46, 46, 50] = 0 := by decide
example : decNumberRest [95, 48, 46, 53, 95, 101, 45, 51, 95, 120] = 9 := by decide
example : decNumberRest [101, 43] = 2 := by decide
example : decNumberRest [46, 95, 53] = 0 := by decide
example : decNumberRest [69, 53, 46, 51] = 2 := by decide
example : countHex [70, 102, 95, 48, 71] = 4 ∧ countBinary [49, 95, 48, 50] = 3 := by decide

/-- **Text literals.**  The result `(length, kind)` of `text_literal` on a text that starts with `'`
    or `#` is the unique pair allowed by `TextLiteralSpec`:
    * an odd number (≥ 3) of quotes directly followed by CR/LF opens a multi-line literal; it ends
      right after the first later occurrence of a run of as many quotes (plain substring search: a
      longer run of quotes closes it too, after its first quotes); without one it is unterminated
      and takes the whole rest of the text (trailing blanks included);
    * otherwise the literal is a maximal sequence of items (`TextItems`): quoted segments `'…'`
      without quote/CR/LF inside (so `''` inside a string is the end of one segment and the start of
      the next), and character codes `#` + digits/underscores (the first may be `_`), `#$` + hex
      digits, `#%` + binary digits, the digit runs being maximal.  It ends, single-line, where the
      next byte is neither `'` nor `#`; it ends, unterminated, at the first malformed item: a quoted
      segment cut by CR, LF or the end of the text (kept up to there), a `#` with no code (the `#`
      is kept), `#$`/`#%` with no digit (two bytes kept). -/
theorem string_literal_spec (l : Bytes) (x : Nat × TextLiteralKind) :
    TextLiteralSpec l x ↔ x = textLiteral l :=
  ⟨textLiteral_only l x, fun h => h ▸ textLiteral_sat l⟩

/-- the single-line part alone: the model's loop (with the fuel it is given) computes the unique
    result allowed by the item grammar -/
theorem string_items_spec (l : Bytes) (x : Nat × TextLiteralKind) :
    TextItems l x ↔ x = textLiteralLoop (l.length + 1) l :=
  ⟨tl_only l x, fun h => h ▸ tl_sat l⟩

-- `'a''b'#13#$0A'c' x` → 16 bytes, single-line;  `'abc` LF … → 4 bytes, unterminated;
-- three quotes, LF, ` a`, LF, ` `, five quotes, `x` → multi-line, closed by the first three of the five quotes (11 bytes)
example : textLiteral [39, 97, 39, 39, 98, 39, 35, 49, 51, 35, 36, 48, 65, 39, 99, 39, 32, 120] = (16, .tSingleLine) := by
  decide
example : textLiteral [39, 97, 98, 99, 10, 100, 39] = (4, .tUnterminated) := by decide
example : textLiteral [39, 39, 39, 10, 32, 97, 10, 32, 39, 39, 39, 39, 39, 120] = (11, .tMultiLine) := by decide
example : textLiteral [35, 36, 32, 120] = (2, .tUnterminated) := by decide

/-- **Keywords are recognised in any letter case**: the kind of a word is the kind of its lower-cased
    and of its upper-cased spelling, and two words that differ only in ASCII letter case have the
    same kind (corollary of `keyword_lookup_spec`) -/
theorem keyword_case_insensitive (w : Bytes) :
    wordKind w = wordKind (asciiLower w) ∧ wordKind w = wordKind (asciiUpper w) ∧
    ∀ v, eqIgnoreCase w v = true → wordKind w = wordKind v :=
  ⟨wordKind_congr (asciiLower_idem w).symm, wordKind_congr (asciiLower_upper w).symm,
    fun _ h => wordKind_congr (beq_iff_eq.1 h)⟩

-- `BeGiN`
example : wordKind [66, 101, 71, 105, 78] = .rKeyword .kBegin := by rw [keyword_lookup_spec]; decide +kernel

/-! ### from the sub-lexers to the tokens

  `lexOne` is one step of the scanner (`whitespace_and_token`).  For a text whose first non-blank
  byte is `b`, the dispatch tables select the sub-lexer, so the token's end and kind are given by
  the functions specified above.  `stepState` is the scanner state after the token, `nlBeforeOf`
  says whether the token is the first on its line. -/

/-- a token starting with a letter (outside `asm` blocks) is the letter plus the identifier run
    after it; it is an identifier right after a `.`, otherwise what the keyword table says -/
theorem word_token_spec (simd : Bool) (st : LexState) (inp : Bytes) (b : UInt8) (r : Bytes)
    (hasm : st.inAsm = false) (hd : inp.drop (countLeadingWs inp) = b :: r) (hb : isAlpha b = true) :
    let k : RawKind := if st.prevReal == some (.rOp .oDot) then .rIdentifier
      else wordKind ((b :: r).take (1 + identLen r))
    lexOne simd st inp =
      some (some (countLeadingWs inp, countLeadingWs inp + (1 + identLen r), k,
        stepState st k (k == .rKeyword .kAsm))) :=
  lexOne_word simd st inp b r hasm hd hb

/-- a token starting with `_` is an identifier: `_` plus the identifier run after it -/
theorem underscore_token_spec (simd : Bool) (st : LexState) (inp : Bytes) (r : Bytes)
    (hd : inp.drop (countLeadingWs inp) = 0x5F :: r) :
    lexOne simd st inp =
      some (some (countLeadingWs inp, countLeadingWs inp + (1 + identLen r), .rIdentifier,
        stepState st .rIdentifier st.inAsm)) :=
  lexOne_of_runSub .identifier hd rfl (by simp only [runSub, idLen_eq])

/-- a token starting with a digit (outside `asm` blocks) is a decimal literal: the digit plus
    `decNumberRest` -/
theorem decimal_token_spec (simd : Bool) (st : LexState) (inp : Bytes) (b : UInt8) (r : Bytes)
    (hasm : st.inAsm = false) (hd : inp.drop (countLeadingWs inp) = b :: r) (hb : isDigit b = true) :
    lexOne simd st inp =
      some (some (countLeadingWs inp, countLeadingWs inp + (1 + decNumberRest r), .rNumberLiteral .nDecimal,
        stepState st (.rNumberLiteral .nDecimal) false)) :=
  lexOne_of_runSub .dec_number_literal hd (by rw [hasm]; exact dispatch_digit false hb) (by simp only [runSub, hasm])

/-- tokens starting with `$` / `%` are hex / binary literals (in every scanner state) -/
theorem hex_binary_token_spec (simd : Bool) (st : LexState) (inp : Bytes) (r : Bytes) :
    (inp.drop (countLeadingWs inp) = 0x24 :: r →
      lexOne simd st inp =
        some (some (countLeadingWs inp, countLeadingWs inp + (1 + countHex r), .rNumberLiteral .nHex,
          stepState st (.rNumberLiteral .nHex) st.inAsm))) ∧
    (inp.drop (countLeadingWs inp) = 0x25 :: r →
      lexOne simd st inp =
        some (some (countLeadingWs inp, countLeadingWs inp + (1 + countBinary r), .rNumberLiteral .nBinary,
          stepState st (.rNumberLiteral .nBinary) st.inAsm))) :=
  ⟨fun hd => lexOne_of_runSub .hex_number_literal hd rfl (by simp only [runSub]),
   fun hd => lexOne_of_runSub .binary_number_literal hd rfl (by simp only [runSub])⟩

/-- a token starting with `'` or `#` is a text literal with the length and kind of `textLiteral`
    (in every scanner state) -/
theorem text_token_spec (simd : Bool) (st : LexState) (inp : Bytes) (b : UInt8) (r : Bytes)
    (hd : inp.drop (countLeadingWs inp) = b :: r) (hb : b = 0x27 ∨ b = 0x23) :
    lexOne simd st inp =
      some (some (countLeadingWs inp, countLeadingWs inp + (textLiteral (b :: r)).1,
        .rTextLiteral (textLiteral (b :: r)).2, stepState st (.rTextLiteral (textLiteral (b :: r)).2) st.inAsm)) := by
  exact lexOne_of_runSub .text_literal hd (by rcases hb with rfl | rfl <;> rfl) (by simp only [runSub])

/-- a token starting with `//` is a line comment up to `lineCommentEnd`; individual if it is the
    first token on its line, otherwise inline (in every scanner state) -/
theorem line_comment_token_spec (simd : Bool) (st : LexState) (inp : Bytes) (r : Bytes)
    (hd : inp.drop (countLeadingWs inp) = 0x2F :: 0x2F :: r) :
    let k : RawKind := .rComment (if nlBeforeOf st inp then .cIndividualLine else .cInlineLine)
    lexOne simd st inp =
      some (some (countLeadingWs inp, countLeadingWs inp + (2 + lineCommentEnd r), k, stepState st k st.inAsm)) :=
  lexOne_of_runSub .slash hd rfl (by simp only [runSub])

/-- a token starting with `{` resp. `(*`, not followed by `$`, is a block comment with the length and
    kind of `blockComment`, where `trim` is the length of the blank run at the end of the whole
    remaining text and `tokLen` the number of bytes from the opener to the end of the text -/
theorem block_comment_token_spec (simd : Bool) (st : LexState) (inp : Bytes) (r : Bytes) (hnd : ∀ t, r ≠ 0x24 :: t) :
    (inp.drop (countLeadingWs inp) = 0x7B :: r →
      let res := blockComment (countTrailingWs inp) .brace 1 (r.length + 1) (nlBeforeOf st inp) r
      lexOne simd st inp =
        some (some (countLeadingWs inp, countLeadingWs inp + res.1, .rComment res.2,
          stepState st (.rComment res.2) st.inAsm))) ∧
    (inp.drop (countLeadingWs inp) = 0x28 :: 0x2A :: r →
      let res := blockComment (countTrailingWs inp) .parenStar 2 (r.length + 2) (nlBeforeOf st inp) r
      lexOne simd st inp =
        some (some (countLeadingWs inp, countLeadingWs inp + res.1, .rComment res.2,
          stepState st (.rComment res.2) st.inAsm))) := by
  refine ⟨fun hd => ?_, fun hd => ?_⟩
  · exact lexOne_of_runSub .l_brace hd rfl (by simp only [runSub])
  · exact lexOne_of_runSub .l_paren hd rfl (by simp only [runSub]; rfl)

/-! ### Compiler directives, ampersand tokens, assembler mode (`Proofs/LexSpecs2.lean`, `Proofs/LexSpecs3.lean`)

  As above, every statement is about the model's own function and holds for every byte string.
  Where the model (= the Rust code) departs from the naive lexical rule, the doc comment says so. -/

/-- **Directive names.**  The name of a directive is the maximal run of name bytes after `{$` / `(*$`;
    a name byte is an ASCII letter, a digit or `_` (so digits and `_` belong to the name: `{$if1}` and
    `{$if_}` are *not* `$if` directives; a non-ASCII byte ends the name). -/
theorem directive_name_spec (l : Bytes) :
    LongestPrefixIn (AllBytes isDirectiveNameByte) l (conditionalDirectiveType l).1 ∧
    l.take (conditionalDirectiveType l).1 = directiveName l ∧
    ∀ b, isDirectiveNameByte b = true ↔
      (0x41 ≤ b ∧ b ≤ 0x5A) ∨ (0x61 ≤ b ∧ b ≤ 0x7A) ∨ (0x30 ≤ b ∧ b ≤ 0x39) ∨ b = 0x5F :=
  ⟨countWhile_longest isDirectiveNameByte l, take_countWhile isDirectiveNameByte l, isDirectiveNameByte_iff⟩

/-- **Which directives are conditional directives, and of which kind.**  The kind is looked up in
    `conditionalDirectiveTable` (`if`, `ifdef`, `ifndef`, `ifopt`, `elseif`, `else`, `ifend`, `endif`)
    with the lower-cased name: it is `some k` exactly when the name is, in any ASCII letter case, the
    spelling of the table entry of `k`; every other name (`{$R+}`, `{$region}`, `{$define X}`, the
    empty name of `{$}` …) gives `none`, i.e. a plain compiler-directive token (`dirKind`). -/
theorem directive_kind_spec (l : Bytes) :
    (conditionalDirectiveType l).2 = directiveKindSpec (directiveName l) ∧
    (∀ name k, directiveKindSpec name = some k ↔
      ∃ w, (w, k) ∈ conditionalDirectiveTable ∧ eqIgnoreCase name w = true) ∧
    (∀ name, directiveKindSpec (asciiLower name) = directiveKindSpec name ∧
      directiveKindSpec (asciiUpper name) = directiveKindSpec name) ∧
    (∀ k, dirKind (some k) = .rConditionalDirective k) ∧ dirKind none = .rCompilerDirective :=
  ⟨conditionalDirectiveType_snd l, directiveKindSpec_some_iff, directiveKindSpec_case, fun _ => rfl, rfl⟩

-- `IfDef X} y` → name `IfDef` (5 bytes), kind ifdef;  `if1 X}` / `if_}` → no conditional directive
example : conditionalDirectiveType [73, 102, 68, 101, 102, 32, 88, 125, 32, 121] = (5, some .dIfdef) := by decide +kernel
example : conditionalDirectiveType [105, 102, 49, 32, 88, 125] = (3, none) := by decide +kernel
example : conditionalDirectiveType [105, 102, 95, 125] = (3, none) := by decide +kernel

/-- **Plain directives** (every name except `if` / `elseif`, which are recognised by
    `isExprName`): the token ends right after the *first* closer (`}` resp. `*)`) in the text after
    `{$` / `(*$` — nothing is nested, a `}` inside a string or a `//` comment closes the directive —
    and if there is none it runs to the end of the text minus the trailing blanks (`tokLen - trim`);
    the kind is the one of `directive_kind_spec`.  `l` = text after the opener, `openLen` = 2 / 3. -/
theorem plain_directive_spec (trim : Nat) (kind : BlockCommentKind) (openLen tokLen : Nat) (l : Bytes)
    (hx : isExprName (directiveName l) = false) (x : Nat × Option ConditionalDirectiveKind) :
    compilerDirective trim kind openLen tokLen l = some x ↔ PlainDirectiveSpec kind trim openLen tokLen l x := by
  constructor
  · exact fun h => ((compilerDirective_iff trim kind openLen tokLen l x).1 h).plain hx
  · intro h
    obtain ⟨y, hy⟩ := directiveSpec_total trim kind openLen tokLen l
    rw [(compilerDirective_iff trim kind openLen tokLen l y).2 hy, PlainDirectiveSpec.unique h (hy.plain hx)]

/-- the names with an expression body are exactly `if` and `elseif`, in any letter case -/
theorem expr_directive_names (name : Bytes) : isExprName name = true ↔
    eqIgnoreCase name [0x69, 0x66] = true ∨ eqIgnoreCase name [0x65, 0x6C, 0x73, 0x65, 0x69, 0x66] = true := by
  have hk : ∀ x, isExprDirective x = true ↔ x = some .dIf ∨ x = some .dElseif := by
    intro x
    cases x with
    | none => simp [isExprDirective]
    | some k => cases k <;> simp [isExprDirective]
  unfold isExprName
  rw [hk, directiveKindSpec_some_iff, directiveKindSpec_some_iff]
  simp [conditionalDirectiveTable]

-- `{$ifdef X {a} b}  `: ends after the first `}` (12 + 2 bytes);  `{$ifdef X {a  ` (2 trailing blanks): 14 bytes
example : compilerDirective 0 .brace 2 18 [105, 102, 100, 101, 102, 32, 88, 32, 123, 97, 125, 32, 98, 125, 32, 32] =
    some (13, some .dIfdef) := by decide +kernel
example : compilerDirective 2 .brace 2 16 [105, 102, 100, 101, 102, 32, 88, 32, 123, 97, 32, 32] =
    some (14, some .dIfdef) := by decide +kernel

/-- **The expression scanner of `{$if …}` / `{$elseif …}`** (`find_directive_expr_end`) computes
    exactly the relation `DirEnd … true` (given more fuel than bytes, which `compiler_directive`
    always supplies: `directiveFuel l = 2·len + 2`).  Reading of `DirEnd trim kind true l res`, `l` =
    the text after the directive name, `res` = offset just after the closer or `none`:
    the text is consumed from left to right;
    * at the closer of the directive's *own* bracket kind (`}` for `{$if`, `*)` for `(*$if`) it ends —
      the other kind's closer is an ordinary byte;
    * a nested directive `{$…}` or `(*$…*)` (either bracket kind, any name) is skipped up to its own
      end, found by the same rules: recursively with this relation for a nested `$if`/`$elseif` (any
      depth), at its first closer otherwise; an unterminated nested directive makes the whole
      directive unterminated;
    * a block comment `{…}` / `(*…*)` is skipped up to its first closer; if it is unterminated, the
      scan jumps to the start of the trailing blanks of the text (and then finds nothing);
    * a string that starts with `'` is skipped as the whole text literal `text_literal` finds there
      (further segments, `#` codes, multi-line literals); an *unterminated* string is skipped up to
      the end of its line, so a `}` after a stray quote on the same line does not close the directive;
      a `#` code outside a string is not special;
    * a `//` comment is skipped up to the end of the line (so `{$if X // }` does not end at that `}`);
    * any other byte is skipped;
    * at the end of the text the directive is unterminated (`none`).
    The relation is deterministic and total (consequence of the equivalence). -/
theorem directive_expr_end_spec (trim fuel : Nat) (kind : BlockCommentKind) (l : Bytes) (res : Option Nat)
    (hf : l.length < fuel) :
    findDirectiveExprEnd trim fuel kind l = some res ↔ DirEnd trim kind true l res :=
  dirEnd_iff trim fuel kind true l res hf

/-- the same for the end of any directive body (`expr = false`: first closer) -/
theorem directive_end_spec (trim fuel : Nat) (kind : BlockCommentKind) (expr : Bool) (l : Bytes) (res : Option Nat)
    (hf : l.length < fuel) :
    (if expr then findDirectiveExprEnd trim fuel kind l else some (findBlockCommentEnd kind l)) = some res ↔
      DirEnd trim kind expr l res :=
  dirEnd_iff trim fuel kind expr l res hf

/-- a terminated directive always ends right after a closer of its own bracket kind -/
theorem directive_ends_with_closer (trim : Nat) (kind : BlockCommentKind) (expr : Bool) (l : Bytes) (e : Nat)
    (h : DirEnd trim kind expr l (some e)) : ∃ i, e = i + (closer kind).length ∧ OccursAt (closer kind) l i :=
  dirEnd_ends_with_closer trim kind expr l _ h e rfl

/-- **The whole directive token**: `compiler_directive` returns exactly the pair allowed by
    `DirectiveSpec` (name, kind from the table, end from `DirEnd` on the text after the name, or the
    end of the text minus the trailing blanks when unterminated); such a pair always exists. -/
theorem directive_spec (trim : Nat) (kind : BlockCommentKind) (openLen tokLen : Nat) (l : Bytes) :
    (∀ x, compilerDirective trim kind openLen tokLen l = some x ↔ DirectiveSpec kind trim openLen tokLen l x) ∧
    ∃ x, DirectiveSpec kind trim openLen tokLen l x :=
  ⟨compilerDirective_iff trim kind openLen tokLen l, directiveSpec_total trim kind openLen tokLen l⟩

/-- a token starting with `{$` resp. `(*$` is the directive token of `DirectiveSpec` (in every scanner
    state; it never changes the assembler mode) -/
theorem directive_token_spec (simd : Bool) (st : LexState) (inp : Bytes) (r : Bytes)
    (x : Nat × Option ConditionalDirectiveKind) :
    (inp.drop (countLeadingWs inp) = 0x7B :: 0x24 :: r →
      DirectiveSpec .brace (countTrailingWs inp) 2 (r.length + 2) r x →
      lexOne simd st inp =
        some (some (countLeadingWs inp, countLeadingWs inp + x.1, dirKind x.2, stepState st (dirKind x.2) st.inAsm))) ∧
    (inp.drop (countLeadingWs inp) = 0x28 :: 0x2A :: 0x24 :: r →
      DirectiveSpec .parenStar (countTrailingWs inp) 3 (r.length + 3) r x →
      lexOne simd st inp =
        some (some (countLeadingWs inp, countLeadingWs inp + x.1, dirKind x.2, stepState st (dirKind x.2) st.inAsm))) := by
  refine ⟨fun hd hx => ?_, fun hd hx => ?_⟩
  · refine lexOne_of_runSub .l_brace hd rfl ?_
    simp only [runSub, List.length_cons]
    rw [(compilerDirective_iff _ _ _ _ _ x).2 hx]
    rfl
  · refine lexOne_of_runSub .l_paren hd rfl ?_
    simp only [runSub, List.length_cons]
    rw [(compilerDirective_iff _ _ _ _ _ x).2 hx]
    rfl

-- `{$if X {a} 'b}' // c}` LF ` {$ifdef D}{$if E {}}{$endif} } z`: the comment, the string, the line
-- comment and the three nested directives (one of them a nested `$if` with a comment) are skipped;
-- the directive is closed by the last `}` (53 bytes)
example : compilerDirective 0 .brace 2 55 [105, 102, 32, 88, 32, 123, 97, 125, 32, 39, 98, 125, 39, 32, 47, 47, 32,
    99, 125, 10, 32, 123, 36, 105, 102, 100, 101, 102, 32, 68, 125, 123, 36, 105, 102, 32, 69, 32, 123, 125, 125, 123,
    36, 101, 110, 100, 105, 102, 125, 32, 125, 32, 122] = some (53, some .dIf) := by decide +kernel
example : DirEnd 0 .brace true [32, 88, 32, 123, 97, 125, 32, 39, 98, 125, 39, 32, 47, 47, 32,
    99, 125, 10, 32, 123, 36, 105, 102, 100, 101, 102, 32, 68, 125, 123, 36, 105, 102, 32, 69, 32, 123, 125, 125, 123,
    36, 101, 110, 100, 105, 102, 125, 32, 125, 32, 122] (some 49) :=
  (directive_expr_end_spec 0 60 .brace _ _ (by decide)).1 (by decide +kernel)
-- `(*$IF a} (*)*) *) b`: `}` is an ordinary byte, `(*)*)` is a nested comment, then `*)` closes (17 bytes)
example : compilerDirective 0 .parenStar 3 19 [73, 70, 32, 97, 125, 32, 40, 42, 41, 42, 41, 32, 42, 41, 32, 98] =
    some (17, some .dIf) := by decide +kernel
-- ` X 'a} ` LF `} z`: the unterminated string hides the first `}`;  ` X {$ifdef D z`: unterminated nested directive
example : findDirectiveExprEnd 0 20 .brace [32, 88, 32, 39, 97, 125, 32, 10, 125, 32, 122] = some (some 9) := by
  decide +kernel
example : findDirectiveExprEnd 0 20 .brace [32, 88, 32, 123, 36, 105, 102, 100, 101, 102, 32, 68, 32, 122] = some none := by
  decide +kernel

/-- **Ampersand tokens.**  For a token that starts with `&` (`r` = the text after it) the result
    `(token length, kind)` is the unique pair allowed by `AmpersandSpec`: *all* directly following
    ampersands belong to the token (`&&&x` is one token), and then
    * `$` + hex digits/`_` → hex literal;  `%` + binary digits/`_` → binary literal;  a digit + the
      decimal tail (fraction, exponent) → decimal literal;
    * an ASCII letter or `_` + the identifier run → identifier — never a keyword (`&begin`, `&asm`,
      `&end` are identifiers);
    * a non-ASCII byte that does not start U+3000 + the continuation bytes after it + the identifier
      run → identifier;
    * anything else (end of text, blank, U+3000, operator, quote, `{`, …) → the ampersands alone form
      an "unknown" token. -/
theorem ampersand_spec (r : Bytes) (x : Nat × RawKind) : AmpersandSpec r x ↔ x = ampersandTok r :=
  ⟨ampersandTok_only r x, fun h => h ▸ ampersandTok_sat r⟩

theorem ampersand_follower_spec (l : Bytes) (x : Nat × RawKind) : AmpFollower l x ↔ x = ampFollow l :=
  ⟨ampFollow_only l x, fun h => h ▸ ampFollow_sat l⟩

/-- a token starting with `&` has the length and kind of `ampersandTok` (in every scanner state, with
    either identifier routine; the assembler mode is neither entered nor left) -/
theorem ampersand_token_spec (simd : Bool) (st : LexState) (inp : Bytes) (r : Bytes)
    (hd : inp.drop (countLeadingWs inp) = 0x26 :: r) :
    lexOne simd st inp =
      some (some (countLeadingWs inp, countLeadingWs inp + (ampersandTok r).1, (ampersandTok r).2,
        stepState st (ampersandTok r).2 st.inAsm)) :=
  lexOne_of_runSub .ampersand hd rfl (runSub_ampersand st 0x26 r _ _ simd)

-- `&&begin x` → identifier, 7 bytes;  `&1.5e3+` → decimal, 6;  `&$1Fg` → hex, 4;  `&& +` → unknown, 2;
-- `&é x` → identifier, 3;  `&` U+3000 → unknown, 1
example : ampersandTok [38, 98, 101, 103, 105, 110, 32, 120] = (7, .rIdentifier) := by decide +kernel
example : ampersandTok [49, 46, 53, 101, 51, 43] = (6, .rNumberLiteral .nDecimal) := by decide +kernel
example : ampersandTok [36, 49, 70, 103] = (4, .rNumberLiteral .nHex) := by decide +kernel
example : ampersandTok [38, 32, 43] = (2, .rUnknown) := by decide +kernel
example : ampersandTok [195, 169, 32, 120] = (3, .rIdentifier) := by decide +kernel
example : ampersandTok [227, 128, 128] = (1, .rUnknown) := by decide +kernel

/-- **Assembler mode** is a function of the previous mode and the kind of the token just scanned: it
    is entered exactly by a token of kind keyword `asm` and left exactly by a token of kind keyword
    `end`.  Outside assembler mode such an `asm` token is a word (ASCII letter + identifier run)
    spelled `asm` in any letter case that does not directly follow a `.` (so `x.asm` and `&asm` do not
    enter it).  Inside, an `end` token is a word spelled `end` in any letter case — the preceding
    token is *not* consulted (`.end` leaves assembler mode; `&end`, `@end` do not). -/
theorem asm_mode_spec (simd : Bool) (st : LexState) (inp : Bytes) (ws e : Nat) (k : RawKind) (st' : LexState)
    (h : lexOne simd st inp = some (some (ws, e, k, st'))) :
    st'.inAsm = (if st.inAsm then k != .rKeyword .kEnd else k == .rKeyword .kAsm) ∧
    (st.inAsm = false →
      (st'.inAsm = true ↔
        ∃ b r, inp.drop (countLeadingWs inp) = b :: r ∧ isAlpha b = true ∧ st.prevReal ≠ some (.rOp .oDot) ∧
          eqIgnoreCase ((b :: r).take (1 + identLen r)) asmWord = true)) ∧
    (st.inAsm = true →
      (st'.inAsm = false ↔
        ∃ b r, inp.drop (countLeadingWs inp) = b :: r ∧ isAlpha b = true ∧
          eqIgnoreCase ((b :: r).take (1 + identLen r)) endWord = true)) :=
  ⟨lexOne_mode simd st inp ws e k st' h,
   fun hasm => lexOne_enters_asm simd st inp ws e k st' hasm h,
   fun hasm => lexOne_leaves_asm simd st inp ws e k st' hasm h⟩

/-- the initial state is outside assembler mode -/
theorem asm_mode_initial : LexState.init.inAsm = false := rfl

/-- **Words in assembler mode**: a token that starts with an ASCII letter is the letter plus the
    identifier run; it is the keyword `end` or `asm` if spelled so (any letter case), otherwise an
    identifier — no other keyword exists in assembler mode (`mov`, `begin`, `and` are identifiers) -/
theorem asm_word_token_spec (simd : Bool) (st : LexState) (inp : Bytes) (b : UInt8) (r : Bytes)
    (hasm : st.inAsm = true) (hd : inp.drop (countLeadingWs inp) = b :: r) (hb : isAlpha b = true) :
    let w := (b :: r).take (1 + identLen r)
    lexOne simd st inp =
      some (some (countLeadingWs inp, countLeadingWs inp + (1 + identLen r), asmWordKind w,
        stepState st (asmWordKind w) (!eqIgnoreCase w endWord))) :=
  lexOne_asmWord simd st inp b r hasm hd hb

/-- **Assembler labels**: in assembler mode a token that starts with `@` is `@` plus the longest run
    of ASCII letters, digits, `_` and `@` (`@@1`, `@loop`); non-ASCII bytes do not belong to it
    (unlike identifiers); kind identifier -/
theorem asm_label_spec (simd : Bool) (st : LexState) (inp : Bytes) (r : Bytes)
    (hasm : st.inAsm = true) (hd : inp.drop (countLeadingWs inp) = 0x40 :: r) :
    lexOne simd st inp =
      some (some (countLeadingWs inp, countLeadingWs inp + (1 + countWhile isAsmLabelByte r), .rIdentifier,
        stepState st .rIdentifier true)) ∧
    LongestPrefixIn (AllBytes isAsmLabelByte) r (countWhile isAsmLabelByte r) ∧
    ∀ b, isAsmLabelByte b = true ↔
      (0x41 ≤ b ∧ b ≤ 0x5A) ∨ (0x61 ≤ b ∧ b ≤ 0x7A) ∨ (0x30 ≤ b ∧ b ≤ 0x39) ∨ b = 0x5F ∨ b = 0x40 := by
  refine ⟨?_, countWhile_longest isAsmLabelByte r, isAsmLabelByte_iff⟩
  exact lexOne_of_runSub .asm_label hd (by rw [hasm]; rfl) (by simp only [runSub, asmIdentCharSet_eq, hasm])

/-- **Assembler numbers**: after the first digit comes the longest run of hex digits and `_`
    (whatever the base; no fraction, no exponent: `1e5` is one decimal token, `1.5` stops after `1`);
    a directly following `o`/`O` resp. `h`/`H` is consumed and makes the literal octal resp.
    hexadecimal; otherwise the literal is binary if the last byte of the run is `b`/`B`, else
    decimal.  The result is the unique pair allowed by `AsmNumberSpec`. -/
theorem asm_number_spec (first : UInt8) (r : Bytes) (x : Nat × NumberLiteralKind) :
    AsmNumberSpec first r x ↔ x = asmNumberRest first r :=
  ⟨fun h => AsmNumberSpec.unique h (asmNumberRest_sat first r), fun h => h ▸ asmNumberRest_sat first r⟩

/-- in assembler mode a token that starts with a digit is such a number -/
theorem asm_number_token_spec (simd : Bool) (st : LexState) (inp : Bytes) (b : UInt8) (r : Bytes)
    (hasm : st.inAsm = true) (hd : inp.drop (countLeadingWs inp) = b :: r) (hb : isDigit b = true) :
    lexOne simd st inp =
      some (some (countLeadingWs inp, countLeadingWs inp + (1 + (asmNumberRest b r).1),
        .rNumberLiteral (asmNumberRest b r).2, stepState st (.rNumberLiteral (asmNumberRest b r).2) true)) :=
  lexOne_of_runSub .asm_number_literal hd (by rw [hasm]; exact dispatch_digit true hb) (by simp only [runSub, hasm])

/-- **Assembler text literals `"…"`**: the body is a sequence of escape pairs (`\` + any byte — also
    `"`, CR or LF, so an escaped line break does not end the literal) and of bytes other than `\`, `"`,
    CR, LF (`AsmStrBody`); the literal is closed by the first `"` outside an escape pair (kind asm);
    it is unterminated if CR/LF (not consumed) or the end of the text comes first, or if the text
    ends with a lone `\` (consumed).  The result is the unique pair allowed by `AsmTextSpec`. -/
theorem asm_text_literal_spec (r : Bytes) (x : Nat × TextLiteralKind) :
    AsmTextSpec r x ↔ x = asmTextLiteralRest r :=
  ⟨asmTextLiteralRest_only r x, fun h => h ▸ asmTextLiteralRest_sat r⟩

/-- in assembler mode a token that starts with `"` is such a literal (`'…'` and `#…` literals, `$…`
    numbers, comments and directives are scanned as outside assembler mode: `text_token_spec`,
    `hex_binary_token_spec`, … hold in every scanner state) -/
theorem asm_text_token_spec (simd : Bool) (st : LexState) (inp : Bytes) (r : Bytes)
    (hasm : st.inAsm = true) (hd : inp.drop (countLeadingWs inp) = 0x22 :: r) :
    lexOne simd st inp =
      some (some (countLeadingWs inp, countLeadingWs inp + (1 + (asmTextLiteralRest r).1),
        .rTextLiteral (asmTextLiteralRest r).2, stepState st (.rTextLiteral (asmTextLiteralRest r).2) true)) :=
  lexOne_of_runSub .asm_text_literal hd (by rw [hasm]; rfl) (by simp only [runSub, hasm])

-- `x.asm asm mov @@1: 0FFh 12 101b 17o 1e5 "a\"b" &end .end end`: `.asm` does not enter assembler
-- mode, `asm` does; labels, numbers and the `"…"` literal; `&end` does not leave it, `.end` does; the
-- last `end` is scanned outside assembler mode
example : (lex [120, 46, 97, 115, 109, 32, 97, 115, 109, 32, 109, 111, 118, 32, 64, 64, 49, 58, 32, 48, 70, 70, 104,
    32, 49, 50, 32, 49, 48, 49, 98, 32, 49, 55, 111, 32, 49, 101, 53, 32, 34, 97, 92, 34, 98, 34, 32, 38, 101, 110,
    100, 32, 46, 101, 110, 100, 32, 101, 110, 100]).map (·.map (fun t => (t.content.length, t.kind))) =
    some [(1, .rIdentifier), (1, .rOp .oDot), (3, .rIdentifier), (3, .rKeyword .kAsm), (3, .rIdentifier),
      (3, .rIdentifier), (1, .rOp .oColon), (4, .rNumberLiteral .nHex), (2, .rNumberLiteral .nDecimal),
      (4, .rNumberLiteral .nBinary), (3, .rNumberLiteral .nOctal), (3, .rNumberLiteral .nDecimal),
      (6, .rTextLiteral .tAsm), (4, .rIdentifier), (1, .rOp .oDot), (3, .rKeyword .kEnd), (3, .rKeyword .kEnd),
      (0, .rEof)] := by rw [lex_eq_lexK]; decide +kernel
-- after the first digit: `FFh ` → 3, hex;  `01b ` → 3, binary;  `7o+` → 2, octal;  `2_ ` → 2, decimal;  `.5` → 0, decimal
example : asmNumberRest 0x30 [70, 70, 104, 32] = (3, .nHex) ∧ asmNumberRest 0x31 [48, 49, 98, 32] = (3, .nBinary) ∧
    asmNumberRest 0x31 [55, 111, 43] = (2, .nOctal) ∧ asmNumberRest 0x31 [50, 95, 32] = (2, .nDecimal) ∧
    asmNumberRest 0x31 [46, 53] = (0, .nDecimal) := by decide
-- after the opening quote: `a\"b" x` → 5, closed;  `a\` LF `b" x` → 5, closed (escaped line feed);
-- `ab` LF `"` → 2, unterminated;  `ab\` → 3, unterminated
example : asmTextLiteralRest [97, 92, 34, 98, 34, 32, 120] = (5, .tAsm) ∧
    asmTextLiteralRest [97, 92, 10, 98, 34, 32, 120] = (5, .tAsm) ∧
    asmTextLiteralRest [97, 98, 10, 34] = (2, .tUnterminated) ∧
    asmTextLiteralRest [97, 98, 92] = (3, .tUnterminated) := by decide

end Pasfmt.C13
