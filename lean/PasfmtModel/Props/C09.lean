/-
  C09 — The configured line ending is used everywhere and input endings do not matter.
-/
import PasfmtModel.Proofs.ReconProps
import PasfmtModel.Proofs.MlsMore
import PasfmtModel.Proofs.CrlfFull
import PasfmtModel.Proofs.LayoutFull

namespace Pasfmt.C09

/-- With the same counters, the crlf rendering is exactly the lf rendering with every terminator
    substituted, for every token list whose verbatim-emitted parts contain no line break
    (the property's proviso: no line-spanning token kept verbatim). -/
theorem recon_crlf_subst (c : Config) (ft : FT) (h : ∀ t ∈ ft, noNlTok t = true) :
    reconstruct ({ c with crlf := true }).settings ft
      = crlfOf (reconstruct ({ c with crlf := false }).settings ft) := by
  have hb := fun t ht => byteFreeTok 0x0A t (h t ht)
  exact ((Concat.of_hom rfl crlfOf_append).recon_self (CrlfFull.lfCrlf_settings c).letters ft false
    (fun t ht => ⟨crlfOf_noNl _ (hb t ht).1, fun hig => crlfOf_noNl _ ((hb t ht).2 hig)⟩)).symm

/-- every break emitted in front of a non-ignored token is the configured newline string:
    the gap is `nl^k ++ indentation ++ spaces` and contains no other `\n` or `\r` -/
theorem emitted_breaks_are_nl (c : Config) (t : FTok) (mb : Bool) (h : t.fmt.ignored = false) :
    ∃ k rest, gapOf c.settings t mb = replicateBytes k c.settings.nlStr ++ rest ∧
      containsByte 0x0A rest = false ∧ containsByte 0x0D rest = false := by
  have hs := (settings_form c).noBreak
  exact ⟨_, _, gapOf_notIgnored _ t mb h,
    blanksOf_noByte _ 0x0A (by decide) (hs _ (Or.inl rfl)).1 (hs _ (Or.inl rfl)).2 t,
    blanksOf_noByte _ 0x0D (by decide) (hs _ (Or.inr rfl)).1 (hs _ (Or.inr rfl)).2 t⟩

/-- the line-break counter does not depend on whether the input's breaks are LF or CRLF -/
theorem fmtdata_crlf (ws : Bytes) (ig : Bool) : (FmtData.ofWs (crlfOf ws) ig).nl = (FmtData.ofWs ws ig).nl := by
  unfold FmtData.ofWs; simp only; rw [ofWs_nl_crlf]

/-- every line break inside a re-indented multi-line string is the configured line ending: the
    rewritten literal is its first line followed by segments, each introduced by `nlStr` and free of
    `\n` / `\r` itself (for the settings of every configuration) -/
theorem mls_breaks_are_configured (cfg : Config) (content : Bytes) (ind cont : Nat) (c' : Bytes)
    (h : mlsRewrite cfg.settings content ind cont = some c') :
    ∃ (first : Bytes) (segs : List Bytes),
      c' = first ++ (segs.map (cfg.settings.nlStr ++ ·)).flatten ∧ NoNl first ∧ ∀ s ∈ segs, NoNl s :=
  mlsRewrite_breaks cfg.settings (settings_noNl cfg).1 (settings_noNl cfg).2 content ind cont c' h

/-! ### second clause for the closed model of the whole formatter (`formatFull`)

  The two runs (`crlf := false` / `crlf := true`) are followed token by token (`Proofs/CrlfFull.lean`).  Everything
  before the wrapper stage does not take the configuration; the search reads it through `Config.searchCfg` (no line
  ending) and reads live tokens through `FTok.sview` (type, length of the last line).  The texts of one token in the
  two runs are identical (the text the stage started with) or the two renderings `first ++ (LF ++ seg)*` /
  `first ++ (CRLF ++ seg)*` of the same lines (`CrlfFull.Joined`), which the search cannot tell apart. -/

open CrlfFull

/-- **One literal, two terminators.**  For a literal that ends in a quote and any counters: either the re-indenter
    leaves it alone under both line endings, or the text after the crlf run's string pass is the text after the lf
    run's string pass with every `\n` replaced by `\r\n` ("after the pass" = the new text if the pass changed it, the
    old text otherwise).  In particular if both runs rewrite it, the crlf result is the substituted lf result. -/
theorem mls_rewrite_crlf (cfg : Config) (c : Bytes) (hq : c.getLast? = some 0x27) (ind cont : Nat) :
    (mlsRewrite ({ cfg with crlf := false }).settings c ind cont = none ∧
      mlsRewrite ({ cfg with crlf := true }).settings c ind cont = none) ∨
    (mlsRewrite ({ cfg with crlf := true }).settings c ind cont).getD c =
      crlfOf ((mlsRewrite ({ cfg with crlf := false }).settings c ind cont).getD c) := by
  rcases (mlsRewrite_pair (lfCrlf_settings cfg) c c (Or.inl rfl) hq hq ind cont).1 with h | h
  · exact Or.inl h
  · exact Or.inr h.crlfOf

/-- both runs rewrite: the crlf text is the lf text with each terminator substituted -/
theorem mls_rewrite_crlf_some (cfg : Config) (c a b : Bytes) (hq : c.getLast? = some 0x27) (ind cont : Nat)
    (ha : mlsRewrite ({ cfg with crlf := false }).settings c ind cont = some a)
    (hb : mlsRewrite ({ cfg with crlf := true }).settings c ind cont = some b) : b = crlfOf a := by
  rcases mls_rewrite_crlf cfg c hq ind cont with h | h
  · rw [ha] at h; cases h.1
  · rw [ha, hb] at h; exact h

/-- the two rewritten texts look the same to the line-wrapping search: same length of the last line as
    `str::lines()` sees it (it strips the `\r`) -/
theorem search_view_crlf (cfg : Config) (k : Kind) (c a b : Bytes) (hq : c.getLast? = some 0x27) (ind cont : Nat)
    (ha : mlsRewrite ({ cfg with crlf := false }).settings c ind cont = some a)
    (hb : mlsRewrite ({ cfg with crlf := true }).settings c ind cont = some b) :
    lastLineLen k a = lastLineLen k b := by
  rcases (mlsRewrite_pair (lfCrlf_settings cfg) c c (Or.inl rfl) hq hq ind cont).1 with h | h
  · rw [ha] at h; cases h.1
  · rw [ha, hb] at h; exact lastLineLen_joined k h

/-- the literal `''' LF sp x LF sp '''` with one indentation (two spaces): the lf run writes
    `''' LF sp sp x LF sp sp '''`, the crlf run the same with `\r\n` -/
example :
    let c : Bytes := [0x27,0x27,0x27,0x0A,0x20,0x78,0x0A,0x20,0x27,0x27,0x27]
    let a : Bytes := [0x27,0x27,0x27,0x0A,0x20,0x20,0x78,0x0A,0x20,0x20,0x27,0x27,0x27]
    mlsRewrite ({ Config.default with crlf := false }).settings c 1 0 = some a ∧
    mlsRewrite ({ Config.default with crlf := true }).settings c 1 0 = some (crlfOf a) := by decide

/-- **Counterexample to "both runs rewrite the same literals".**  A literal that is already in lf form at the right
    indentation is left alone by the lf run (`none`: nothing to change) and rewritten by the crlf run.  Its text
    after the pass is still the substituted one (`mls_rewrite_crlf`), but the crlf run marks its line as changed and
    wraps it a second time, the lf run does not: the runs differ in which lines go through the search again.  On the
    lf-formatted input `begin / a := / ''' / x / '''; / end.` (one item per line) the crlf run applies the solutions
    of lines 0, 1, 2 and then of line 1 again, the lf run only those of lines 0, 1, 2; the outputs still agree
    (`#guard` below), but proving that in general needs "a second search of an unchanged line finds the same solution",
    a theorem about the search and its cache.  Hence hypothesis (2) of `crlfStageOk`. -/
theorem mls_rewrite_disagree_example :
    let c : Bytes := [0x27,0x27,0x27,0x0A,0x20,0x20,0x78,0x0A,0x20,0x20,0x27,0x27,0x27]
    mlsRewrite ({ Config.default with crlf := false }).settings c 1 0 = none ∧
    mlsRewrite ({ Config.default with crlf := true }).settings c 1 0 = some (crlfOf c) := by decide

/-- **Why the literal has to end in a quote.**  `lines_custom` gives a text that ends in `\r\n` one (empty) line more
    than the same text ending in `\n`: for a "literal" ending in a line break the two runs would re-indent different
    lines.  The scanner's multi-line literals end in three quotes; hypothesis (1) of `crlfStageOk`. -/
theorem lines_custom_trailing_break_example :
    linesCustom [0x61, 0x0A] = [[0x61]] ∧ linesCustom [0x61, 0x0D, 0x0A] = [[0x61], []] := by decide

/-- **Why line-spanning verbatim tokens are excluded.**  A block comment `{ LF }` is emitted as it is under both line
    endings, so the crlf output is not the substituted lf output; hypothesis (3) of `crlfStageOk` (`safeTok`). -/
theorem verbatim_break_example :
    let t : FTok := { tok := { ws := [], content := [0x7B, 0x0A, 0x7D], kind := .tComment .cMultilineBlock },
                      fmt := { ignored := false, nl := 0, ind := 0, cont := 0, sp := 0 } }
    reconstruct ({ Config.default with crlf := true }).settings [t] = [0x7B, 0x0A, 0x7D] ∧
    crlfOf (reconstruct ({ Config.default with crlf := false }).settings [t]) = [0x7B, 0x0D, 0x0A, 0x7D] := by decide

/-- the same with the three side conditions spelled out instead of the Boolean check; the final state of the crlf run
    is related to that of the lf run token by token (`CrlfFull.RelC`: same type, same counters, ignored tokens
    identical, texts identical and unchanged by the stage or the two renderings of the same lines) -/
theorem C09_wrap_stage_crlf_config_rel (cfg : Config) (lines : List Line) (ft0 ftz : FT) (sols : List (Nat × Nat × Sol))
    (h : wrapStageFull { cfg with crlf := false } lines ft0 = some (ftz, sols))
    (hq : ∀ t ∈ ft0, mlsLive t = true → t.tok.content.getLast? = some 0x27)
    (hagree : cfg.fmtMls = true → ∀ ft1, phase0 { cfg with crlf := false } lines ft0 = some ft1 →
      ∀ t ∈ ft1, agreeTok ({ cfg with crlf := false }).settings ({ cfg with crlf := true }).settings t = true) :
    ∃ ftz', wrapStageFull { cfg with crlf := true } lines ft0 = some (ftz', sols) ∧
      RelC (fun _ => True) (origContent ft0) ftz ftz' := by
  have hS := lfCrlf_settings cfg
  obtain ⟨fta, sta, solsa, ha, hr⟩ := wrapStageFull_eq_some.1 h
  obtain ⟨fta', _, ha', _, _, _, ra⟩ := applyLinesS_lift (tr_dec _) (fun _ _ _ _ tr => tr.sview) 0 lines _ _ sta
    (fun _ => False) ft0 ft0 fta [] solsa (relC_self hq) ha
  rw [← searchInit_crlf] at ha'
  rcases hr with ⟨hm, rfl, rfl⟩ | ⟨hm, ftb, toReflow, ftc, stc, ftd, hb, hc, hd, rfl⟩
  · exact ⟨_, wrapStageFull_eq_some.2 ⟨fta', sta, solsa, ha', Or.inl ⟨hm, rfl, rfl⟩⟩, zero_relC _ _ _ ra⟩
  · -- the first string pass needs the agreement on "changed" at every token that still has its text
    have hph : phase0 { cfg with crlf := false } lines ft0 = some fta := by
      unfold phase0; rw [ha]; rfl
    obtain ⟨ftb', hb', _, rb⟩ := mlsPass1_lift (fun j t t' tr => tr_mls hS _ (origContent ft0 j) t t' tr) (fun _ hx => hx)
      lines _ fta fta' ftb [] toReflow (RelC.mono ra fun t ht _ => hagree hm fta hph t ht) hb
    obtain ⟨ftc', _, hc', _, _, _, rc⟩ := applyLinesS_lift (tr_dec _) (fun _ _ _ _ tr => tr.sview) 1 lines _ _ stc
      (fun _ => False) ftb ftb' ftc solsa sols (RelC.mono rb fun _ _ _ => trivial) hc
    obtain ⟨ftd', hd', _, rd⟩ := mlsPass2_lift (fun j t t' tr => (tr_mls hS T0 (origContent ft0 j) t t' tr).1) lines ftc ftc' ftd rc hd
    exact ⟨_, wrapStageFull_eq_some.2 ⟨fta', sta, solsa, ha', Or.inr ⟨hm, ftb', toReflow, ftc', stc, ftd', hb', hc', hd', rfl⟩⟩,
      zero_relC _ _ _ rd⟩

/-- **The wrapper stage with the search inside and the reconstructor, in the two runs.**  `lines`, `ft0`: the state the
    stage starts from.  If the lf run answers and the decidable side conditions `crlfStageOk cfg lines ft0` hold -
    (1) every non-ignored multi-line literal of `ft0` ends in a quote, (2) with string formatting on, for every token
    of the lf run's state at the start of the first string pass the two runs agree on whether the re-indenter
    changes it (`agreeTok`; excludes literals already in final lf or crlf form, see `mls_rewrite_disagree_example`),
    (3) every token of the lf run's final state is `safeTok`: an ignored token has no `\n` in whitespace or text, any
    other token has no `\n` in its text unless the stage changed the text (excludes multi-line comments, line breaks
    inside verbatim regions and multi-line literals the re-indenter rejects) - then the crlf run answers, applies the
    same solutions in the same order, and its output is the lf output with every `\n` replaced by `\r\n`. -/
theorem C09_wrap_stage_crlf_config (cfg : Config) (lines : List Line) (ft0 ftz : FT) (sols : List (Nat × Nat × Sol))
    (h : wrapStageFull { cfg with crlf := false } lines ft0 = some (ftz, sols))
    (hok : crlfStageOk cfg lines ft0 = true) :
    ∃ ftz', wrapStageFull { cfg with crlf := true } lines ft0 = some (ftz', sols) ∧
      reconstruct ({ cfg with crlf := true }).settings ftz' =
        crlfOf (reconstruct ({ cfg with crlf := false }).settings ftz) := by
  obtain ⟨hq, h23⟩ := crlfStageOk_iff.1 hok
  unfold crlfStageOk23 at h23
  rw [h] at h23
  simp only [Bool.and_eq_true, List.all_eq_true, Bool.or_eq_true, Bool.not_eq_true'] at h23
  obtain ⟨ftz', hz, rel⟩ := C09_wrap_stage_crlf_config_rel cfg lines ft0 ftz sols h hq fun hm ft1 hp t ht => by
    rcases h23.1 with h | h
    · rw [hm] at h; cases h
    · rw [hp] at h
      exact List.all_eq_true.1 h t ht
  exact ⟨ftz', hz, reconGo_relC (lfCrlf_settings cfg) T0 _ ftz ftz' rel
    (fun j t ht => h23.2 (t, j) (List.mem_zipIdx_iff_getElem?.2 ht)) _⟩

/-- **C09, second clause, for the closed model of the whole formatter.**  If `formatFull` with `crlf := false` answers
    `outL` and the side conditions `crlfOk cfg alnum s` hold (`crlfStageOk` at the state the wrapper stage starts
    from, which does not depend on the configuration; all three are computed from the lf run), then `formatFull` with
    `crlf := true` answers `outL` with every `\n` replaced by `\r\n`.  No contract, no oracle: scanner, parser,
    consolidators, rules, the search, the string passes and the reconstructor are the model's own. -/
theorem C09_format_full_crlf_config (cfg : Config) (alnum : Bytes → Bool) (s outL : Bytes)
    (hok : crlfOk cfg alnum s = true)
    (h : formatFull { cfg with crlf := false } alnum s = some outL) :
    formatFull { cfg with crlf := true } alnum s = some (crlfOf outL) := by
  obtain ⟨p, ftz, sols, hp, hw, rfl⟩ := formatFull_eq_some.1 h
  rw [crlfOk_eq, hp] at hok
  obtain ⟨ftz', hz, hr⟩ := C09_wrap_stage_crlf_config cfg _ _ ftz sols hw hok
  exact formatFull_eq_some.2 ⟨p, ftz', sols, hp, hz, hr⟩

attribute [local irreducible] wrapStageFull preWrap in
/-- the first side condition of `C09_format_full_crlf_config` is a theorem: at the state the wrapper stage starts from,
    every multi-line literal was scanned as one (parser and consolidators make no text literal, the token rules keep
    every kind: namespace `ParserLitConv` in `Proofs/ParserLiterals.lean`), has its scanned text, and so ends in a quote
    (`C12.scanned_mls_ends_quote`).  `crlfOk23` = `crlfOk` without that conjunct. -/
theorem C09_crlfOk_of_23 (cfg : Config) (alnum : Bytes → Bool) (s : Bytes) (h : crlfOk23 cfg alnum s = true) :
    crlfOk cfg alnum s = true := by
  rw [crlfOk23_eq, Option.all_eq_true] at h
  rw [crlfOk_eq, Option.all_eq_true]
  intro p hp
  obtain ⟨raw, po, hraw, hpo, rfl⟩ := preStage_eq_some.1 hp
  refine crlfStageOk_iff.2 ⟨fun t ht hl => preWrap_mls_ends_quote alnum s raw po hraw hpo t ht ?_, h _ hp⟩
  unfold mlsLive isMlsKind at hl
  split at hl <;> simp_all

/-- **C09, second clause, for the closed model of the whole formatter, with two side conditions.**  As
    `C09_format_full_crlf_config`, with `crlfOk23 cfg alnum s` for `crlfOk cfg alnum s`: only (2) if strings are
    re-indented, the two runs agree on which literals the first string pass changes, and (3) every token of the lf
    run's final state is safe to emit under the substitution - both computed from the lf run, at the state the wrapper
    stage starts from.  No contract, no oracle. -/
theorem C09_format_full_crlf_config23 (cfg : Config) (alnum : Bytes → Bool) (s outL : Bytes)
    (hok : crlfOk23 cfg alnum s = true)
    (h : formatFull { cfg with crlf := false } alnum s = some outL) :
    formatFull { cfg with crlf := true } alnum s = some (crlfOf outL) :=
  C09_format_full_crlf_config cfg alnum s outL (C09_crlfOk_of_23 cfg alnum s hok) h

/-! Tests (labelled as tests: evaluated by the compiler with `#guard`, not theorems - the kernel cannot run the search).
    `agree s`: the crlf output is the substituted lf output; `ok s`: the side conditions of
    `C09_format_full_crlf_config` hold. -/
section Tests
private def agree (s : String) : Bool :=
  (formatFull { Config.default with crlf := false } (fun _ => false) s.toUTF8.toList).map crlfOf ==
    formatFull { Config.default with crlf := true } (fun _ => false) s.toUTF8.toList
private def ok (s : String) : Bool := crlfOk Config.default (fun _ => false) s.toUTF8.toList

-- no line-spanning token
#guard ok "begin a := 1; end." && agree "begin a := 1; end."
-- a literal that both runs re-indent (lf, crlf and mixed interior breaks)
#guard ok "begin\n a := '''\n   x\n   y\n   ''';\nend." && agree "begin\n a := '''\n   x\n   y\n   ''';\nend."
#guard ok "begin\n a := '''\r\n   x\n   y\r\n   ''';\nend." && agree "begin\n a := '''\r\n   x\n   y\r\n   ''';\nend."
-- already in final lf form: side condition (2) fails (`mls_rewrite_disagree_example`), the outputs still agree
#guard !ok "begin\n  a :=\n      '''\n      x\n      y\n      ''';\nend.\n" &&
  agree "begin\n  a :=\n      '''\n      x\n      y\n      ''';\nend.\n"
-- a literal the re-indenter rejects (a line indented less than the closing quotes), a block comment over two lines,
-- a verbatim region over several lines: side condition (3) fails and the outputs do differ
#guard !ok "begin\n  a :=\n      '''\n   x\n      ''';\nend.\n" && !agree "begin\n  a :=\n      '''\n   x\n      ''';\nend.\n"
#guard !ok "begin\n  a := 1; { x\n y }\nend.\n" && !agree "begin\n  a := 1; { x\n y }\nend.\n"
#guard !ok "begin\n  // pasfmt off\n  a   :=  1;\n  // pasfmt on\nend.\n" &&
  !agree "begin\n  // pasfmt off\n  a   :=  1;\n  // pasfmt on\nend.\n"
end Tests

/-- **Third clause, for the closed model of the whole formatter, decided per pair**: the same text with LF and with
    CRLF line breaks are two layouts of the same tokens (the counters `FormattedTokens` derives from the whitespace
    ignore CR: `fmtdata_crlf`), so whenever the premise of the layout theorem holds for the pair
    (`layoutPremisesB cfg alnum sLf sCrlf`: in particular no token contains a line break - the scanner would give it
    another text - and no verbatim token has one before it), both are formatted to the same bytes.  This is
    `C06.C06_format_full_checked` at the pair; the `input_endings` stream evaluates the premise on every LF/CRLF pair
    (`info_c06`) and compares both model outputs with the real formatter's. -/
theorem C09_input_endings_full_checked (cfg : Config) (alnum : Bytes → Bool) (sLf sCrlf : Bytes)
    (h : layoutPremisesB cfg alnum sLf sCrlf = true) :
    ∃ out, formatFull cfg alnum sLf = some out ∧ formatFull cfg alnum sCrlf = some out :=
  formatFull_layout_checked cfg alnum sLf sCrlf h

end Pasfmt.C09
