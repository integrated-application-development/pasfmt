/-
  C04 — Formatting always terminates without aborting, on any input.

  Every function of the model is total (structural recursion or explicit fuel), so for the exactly
  modelled stages termination of the code follows from the correspondence; "never aborts" is
  modelled by `Option`: `none` = the Rust code panics (slice out of range, unsigned underflow,
  `unwrap` on `None`).  For the real parser and the real search the run-time check is a monitor
  (watchdog, `catch_unwind`, deterministic work counters), named as such; what is proved of their
  models (`Model/ParserFull.lean`, `Model/Search.lean`) is said below.

  The wrapper stage of the closed model (`wrapStageFull`, search included) is proved never to abort on well-formed
  lines (`LinesOk`: token indices in range, parents are earlier lines): `wrapper_stage_never_aborts` below.

  The whole closed model `formatFull` answers exactly when its parser stage answers
  (`formatFull_answers_iff_parser_answers`, `formatFull_none_iff`): the scanner always answers, the lines the parser
  model hands on are well formed (`parse_lines_ok`), voiding keeps them so (`voidLines_ok`), the token rules keep
  one entry per token (`preWrap_length`), hence the wrapper stage answers.  What stays open is the parser model
  itself: that `parseFileMasked` never returns `none` (panic sites of the real parser, fuel) is not proved.
-/
import PasfmtModel.Proofs.Machine
import PasfmtModel.Proofs.Tree
import PasfmtModel.Model.Cursor
import PasfmtModel.Proofs.LexTotal
import PasfmtModel.Proofs.Keywords
import PasfmtModel.Proofs.LexBoundaries
import PasfmtModel.Proofs.StageTotalSearch
import PasfmtModel.Proofs.PipelineTotal

namespace Pasfmt.C04

theorem passesGo_length (f n : Nat) (t : DTree) : (passesGo f n t).length ≤ n := by
  fun_induction passesGo f n t with
  | case1 | case2 => simp
  | case3 _ _ _ _ _ _ ih => simp only [List.length_cons]; exact Nat.succ_le_succ ih

/-- the number of conditional-directive passes is linear in the number of tokens: sequences and
    nestings of conditional blocks do not multiply the work (the model's passes are compared with
    the real `PassIter` on every case, so an exponential `PassIter` would break the correspondence) -/
theorem passes_linear (kinds : List RawKind) : (passes kinds).length ≤ kinds.length + 2 := by
  unfold passes; exact passesGo_length _ _ _

/-- the scanner terminates with a token list on every input: the directive scanner's fuel suffices,
    every token consumes at least one byte (an unterminated comment is never empty because the
    trailing blanks it drops never reach its first byte) and stays inside the text -/
theorem lex_never_fails (simd : Bool) (s : Bytes) : ∃ toks, lexWith simd s = some toks := lexWith_total simd s

/-- no scanner slice is off a character boundary (a `&str` slice elsewhere panics): on well-formed
    UTF-8 every token's blanks and content are well-formed UTF-8 -/
theorem lex_slices_on_char_boundaries (simd : Bool) (s : Bytes) (toks : List RawTok) (hv : ValidUtf8 s)
    (h : lexWith simd s = some toks) : ∀ t ∈ toks, ValidUtf8 t.ws ∧ ValidUtf8 t.content :=
  lexWith_char_boundaries simd s toks hv h

/-- the byte lengths of blanks and contents of all tokens add up to the length of the text, so there are
    never more non-empty tokens than bytes -/
theorem lex_token_count (s : Bytes) (toks : List RawTok) (h : lex s = some toks) :
    (toks.map (fun t => t.ws.length + t.content.length)).sum = s.length := by
  rw [← lex_lossless_with false s toks h, flatText_length]

/-- a step of the line builder that succeeds keeps all stored line and token references in range, so
    pushing tokens, skipping and finishing never index out of range later (`none` = one of the explicit
    failure cases: `popLine`/`popLast` on a one-element stack, `finish` on a missing line) -/
theorem machine_refs_stay_valid (kinds : List RawKind) (pass : List Nat) (s s' : MState) (op : POp)
    (hv : RefsValid s) (hstep : s.step kinds pass op = some s') : RefsValid s' :=
  step_refs kinds pass s s' op hv hstep

/-! ### the wrapper stage (closed model) never aborts -/

/-- the walk from a line to its top-level ancestor (`while let Some(parent) = line.get_parent()`) ends without an
    index out of range and without running forever, when every parent is an earlier line -/
theorem top_parent_walk_ends (lines : List Line) (n : Nat) (h : LinesOk lines n) (i : Nat) (hi : i < lines.length) :
    topParent lines (lines.length + 1) i ≠ none := by
  obtain ⟨p, hp, _⟩ := topParent_total_aux lines n h (lines.length + 1) i (by omega) hi
  rw [hp]; simp

/-- the string pass over one line never meets a token index without formatting data when all the line's token
    indices are in range; it keeps the number of tokens -/
theorem mls_line_never_aborts (S : Settings) (toks : List Nat) (ft : FT) (h : ∀ t ∈ toks, t < ft.length) :
    ∃ ft1 ch, mlsLine S toks ft = some (ft1, ch) ∧ ft1.length = ft.length := mlsLine_total S toks ft h

/-- the first string pass (with the walks to the top-level parents) answers on well-formed lines -/
theorem mls_pass1_never_aborts (S : Settings) (lines : List Line) (ft : FT) (h : LinesOk lines ft.length) :
    ∃ ft1 out, mlsPass1 S lines lines.zipIdx ft [] = some (ft1, out) ∧ ft1.length = ft.length :=
  mlsPass1_total S lines ft.length h lines.zipIdx ft [] (fun _ hx => hx) rfl

/-- the second string pass answers on well-formed lines -/
theorem mls_pass2_never_aborts (S : Settings) (lines : List Line) (ft : FT) (h : LinesOk lines ft.length) :
    ∃ ft1, mlsPass2 S lines ft = some ft1 ∧ ft1.length = ft.length :=
  mlsPass2_total S ft.length lines ft h.all_tokens rfl

/-- applying a solution whose shape fits the lines (`SolFits`: the line exists, at most as many decisions as the line
    has tokens, token indices in range, child solutions fit their lines) never panics: no decision without a token,
    no missing child line, no token without formatting data; the number of tokens is kept -/
theorem apply_solution_never_aborts (lines : List Line) (ft : FT) (s : Sol) (i : Nat)
    (h : SolFits lines ft.length s i) : ∃ ft1, applySol lines ft s i = some ft1 ∧ ft1.length = ft.length :=
  applySol_total lines ft.length ft s i h rfl

/-- on well-formed lines, the solution the search returns for a line fits the lines: the line exists, the solution has
    at most as many decisions as the line has tokens, and every child solution, at every depth, is the solution of an
    existing line and fits it -/
theorem search_returns_fitting_solutions (cfg : Config) (lines : List Line) (ft : FT) (hL : LinesOk lines ft.length)
    (i : Nat) (s : Sol) (st' : SearchState) (h : searchSolve (searchInit cfg lines ft) ft i = (some s, st')) :
    SolFits lines ft.length s i := by
  obtain ⟨sol, hsol, rfl⟩ := searchSolve_eq_some.1 (congrArg Prod.fst h)
  exact (formatLine_fits lines ft.length hL _ _ i ⟨cacheBy_empty _, cacheBy_empty _⟩).2 sol hsol
    (searchInit_olfLines cfg lines ft)

/-- the wrapper stage answers whenever every solution the search returns fits the lines (the part that does not look
    inside the search; `P` is any invariant of the search state) -/
theorem wrapper_stage_never_aborts_of_fits (cfg : Config) (lines : List Line) (ft : FT) (P : SearchState → Prop)
    (hL : LinesOk lines ft.length) (h0 : P (searchInit cfg lines ft)) (hS : SearchFits lines ft.length P) :
    ∃ r, wrapStageFull cfg lines ft = some r :=
  wrapStageFull_total_of (P := fun st f => P st ∧ f.length = ft.length) (Q := fun i s => SolFits lines ft.length s i)
    { solve := fun i hp => ⟨⟨(hS _ _ i hp.1 hp.2).1, hp.2⟩, (hS _ _ i hp.1 hp.2).2⟩
      kinds := fun hp r => ⟨hp.1, r.1.symm.trans hp.2⟩ }
    (fun _ _ h => h) rfl hL ⟨h0, rfl⟩

/-- **The wrapper stage never aborts** (closed model, search included): for every configuration, on lines that are
    well formed for the tokens (every token index of every line is a token with formatting data; the parent of a
    line is an earlier line) the stage returns a result.  `none` stands for the panics of the real stage: a decision
    without a token, a child line that does not exist, a token index without formatting data (applying a solution and
    the two string passes), a parent index out of range or a parent cycle (the walk to the top-level parent). -/
theorem wrapper_stage_never_aborts (cfg : Config) (lines : List Line) (ft : FT) (hL : LinesOk lines ft.length) :
    ∃ r, wrapStageFull cfg lines ft = some r := wrapStageFull_total cfg lines ft hL

/-- the well-formedness of the lines is a check that can be run (`decide`): here two lines over three tokens, the
    second hanging off token 1 of the first -/
example : LinesOk [⟨none, 0, [0, 1], .lEof⟩, ⟨some ⟨0, 1⟩, 1, [2], .lEof⟩] 3 := by decide

/-! ### the whole closed model: only the parser stage can fail to answer -/

/-- **Whenever the parser model answers, the lines it hands on (after the three consolidators) are well formed for the
    scanned tokens**: every token index of every line is the index of a scanned token, and the parent of a line is an
    earlier line. -/
theorem parse_lines_ok (raw : List RawTok) (po : ParserOut) (h : parseAndConsolidate raw = some po) :
    LinesOk po.lines raw.length := Pasfmt.parse_lines_ok raw po h

/-- **Voiding keeps the lines well formed**: the void step empties the token list of a line whose tokens are all
    ignored; it keeps the number of lines and every parent. -/
theorem voidLines_ok (marks : List Bool) (lines : List Line) (n : Nat) (h : LinesOk lines n) :
    LinesOk (voidLines marks lines) n := Pasfmt.voidLines_ok marks lines n h

/-- **The state handed to the wrapper stage has one entry of formatting data per scanned token**, whatever the parser
    component returns. -/
theorem preWrap_length (O : Oracles) (raw : List RawTok) : (preWrap O raw).2.2.length = raw.length :=
  Pasfmt.preWrap_length O raw

/-- **The closed model of the whole formatter answers exactly when its parser stage answers**: for every
    configuration, every `alnum` and every input, `formatFull` returns an output if and only if the parser model
    (with the three consolidators) returns lines for the scanned tokens.  The scanner always answers; ignore marks,
    voiding, token rules and the reconstructor are total functions; the wrapper stage (search included) answers
    because the parser's lines are well formed.  So the only `none` of `formatFull` is the parser model's `none`
    (a panic site of the real parser, or the model's fuel running out; never observed on any generated input). -/
theorem formatFull_answers_iff_parser_answers (cfg : Config) (alnum : Bytes → Bool) (s : Bytes) :
    (∃ out, formatFull cfg alnum s = some out) ↔
      ∃ raw po, lex s = some raw ∧ parseAndConsolidate raw = some po :=
  Pasfmt.formatFull_answers_iff_parser_answers cfg alnum s

/-- **The closed model gives no answer exactly when the parser model gives none on the scanned tokens** (the scanner
    itself always returns tokens). -/
theorem formatFull_none_iff (cfg : Config) (alnum : Bytes → Bool) (s : Bytes) :
    formatFull cfg alnum s = none ↔ ∃ raw, lex s = some raw ∧ parseAndConsolidate raw = none :=
  Pasfmt.formatFull_none_iff cfg alnum s

/-- non-vacuity of the right-hand side: on `a:=b;` the scanner and the parser model answer (checked by evaluation of
    these two stages only), hence, for every configuration, so does the whole closed model -/
example (cfg : Config) (alnum : Bytes → Bool) : ∃ out, formatFull cfg alnum "a:=b;".toUTF8.toList = some out := by
  rw [formatFull_answers_iff_parser_answers]
  have h : ((lex "a:=b;".toUTF8.toList).bind parseAndConsolidate).isSome = true := by
    rw [lex_eq_lexK]; decide +kernel
  cases hl : lex "a:=b;".toUTF8.toList with
  | none => rw [hl] at h; cases h
  | some raw =>
    rw [hl] at h
    cases hp : parseAndConsolidate raw with
    | none => simp [hp] at h
    | some po => exact ⟨raw, po, rfl, hp⟩

end Pasfmt.C04
