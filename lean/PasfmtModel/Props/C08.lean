/-
  C08 — Output whitespace is canonical.
  The shape of every gap `reconstruct` emits when the final counters are canonical (`canonFmt`, the driver's
  `canonFmtB`); that the closed model reaches such counters under decidable premises, whatever the search returns;
  and the five clauses of the property on the bytes of the output, for every state satisfying `CanonState`
  (`Proofs/ReconBytes.lean`).
-/
import PasfmtModel.Proofs.ReconProps
import PasfmtModel.Proofs.RulesSim
import PasfmtModel.Proofs.WrapStageProps
import PasfmtModel.Proofs.CanonStage
import PasfmtModel.Proofs.SpacingLayout
import PasfmtModel.Proofs.ReconBytes
import PasfmtModel.Proofs.Run

namespace Pasfmt.C08

/-- the canonical shape of the counters of a non-ignored token -/
def canonFmt (f : FmtData) : Bool :=
  decide (f.nl ≤ 2) && (f.nl == 0 || f.sp == 0) && (f.nl != 0 || (f.ind == 0 && f.cont == 0 && decide (f.sp ≤ 1)))

/-- what is emitted in front of a non-ignored token with canonical counters (no safety net):
    nothing or one space on the same line, or one/two line breaks followed by whole indentation
    units and nothing else -/
theorem gap_shape (S : Settings) (t : FTok) (mb : Bool) (hi : t.fmt.ignored = false)
    (hc : canonFmt t.fmt = true) (hsafe : (mb && t.fmt.nl == 0 && !(t.tok.kind == .tEof)) = false) :
    (t.fmt.nl = 0 ∧ (gapOf S t mb = [] ∨ gapOf S t mb = [0x20])) ∨
    ((t.fmt.nl = 1 ∨ t.fmt.nl = 2) ∧
      gapOf S t mb = replicateBytes t.fmt.nl S.nlStr ++ (replicateBytes t.fmt.ind S.indStr ++ replicateBytes t.fmt.cont S.contStr)) := by
  have hc := (canonFmtB_iff t.fmt).1 hc
  have he : effNl mb t = t.fmt.nl := by unfold effNl; rw [hsafe]; rfl
  rw [gapOf_notIgnored S t mb hi, he]
  unfold blanksOf
  by_cases hn : t.fmt.nl = 0
  · left
    rw [hn, show t.fmt.ind = 0 by omega, show t.fmt.cont = 0 by omega]
    have : t.fmt.sp = 0 ∨ t.fmt.sp = 1 := by omega
    rcases this with h | h <;> simp [h, replicateBytes]
  · right
    rw [show t.fmt.sp = 0 by omega]
    exact ⟨by omega, by simp⟩

/-- hence, with `continuation_indents * tab_width ≤ 255`, the indentation of every broken line is a
    whole number of units: tabs only under `use_tabs`, otherwise a multiple of `tab_width` spaces -/
theorem indent_whole_units (c : Config) (hsat : c.contIndents * c.tabWidth ≤ 255) (ind cont : Nat) :
    ∃ k, replicateBytes ind c.settings.indStr ++ replicateBytes cont c.settings.contStr =
      if c.useTabs then List.replicate k 0x09 else List.replicate (k * c.tabWidth) 0x20 :=
  ⟨ind + c.contIndents * cont, Pasfmt.indent_units c hsat ind cont⟩

/-- the end-of-file rule gives the last token exactly one line break and nothing else -/
theorem eof_one_newline (lines : List Line) (ft : FT) (t : FTok)
    (hl : lines.any (fun l => l.ltype == .lEof) = true)
    (ht : ft.getLast? = some t) (hk : t.tok.kind = .tEof) :
    ∃ t', (eofNewline lines ft).getLast? = some t' ∧ t'.tok = t.tok ∧
      t'.fmt.nl = 1 ∧ t'.fmt.sp = 0 ∧ t'.fmt.ind = 0 ∧ t'.fmt.cont = 0 := by
  unfold eofNewline
  simp only [hl, if_true]
  rw [List.getLast?_eq_some_iff] at ht
  obtain ⟨pre, hpre⟩ := ht
  subst hpre
  refine ⟨{ t with fmt := { t.fmt with nl := 1, sp := 0, ind := 0, cont := 0 } }, ?_, rfl, rfl, rfl, rfl, rfl⟩
  rw [List.zipIdx_append, List.map_append, List.getLast?_append]
  simp [List.zipIdx_cons, hk]

/-- every value `TokenSpacing` writes is 0, 1 or `min(original, 1)` -/
theorem spacingRule_le_one (k : Kind) (prev prevReal next : Option Kind) (cur : Nat) (nextSp : Option Nat) :
    OptLe1 (spacingRule k prev prevReal next cur nextSp).1 ∧
    OptLe1 (spacingRule k prev prevReal next cur nextSp).2 :=
  Pasfmt.spacingRule_le_one k prev prevReal next cur nextSp

/-- **After `TokenSpacing` no token is preceded by more than one space** (whatever the original
    spacing; token lists without inline line comments — the token after one starts a new line) -/
theorem spacing_at_most_one (l : List (Kind × Nat)) (hni : noInlineLine l) : ∀ v ∈ spacingResult l, v ≤ 1 := by
  intro v hv
  obtain ⟨j, hj⟩ := List.mem_iff_getElem?.1 hv
  rcases CanonPremise.spacingResult_free l j v hj with h | ⟨_, h1, _⟩
  · exact h
  · cases hp : l[j - 1]? with
    | none => rw [hp] at h1; cases h1
    | some p => rw [hp] at h1; exact absurd (Option.some.inj h1) (hni p (List.mem_of_getElem? hp))

/-- **No token starts a line with spaces, for every search of the line wrapper**: the exact model of the wrapper
    stage (`Model/WrapStage.lean`) ends by removing the spaces before every token that has a line break before it,
    after the last re-wrap - so a line's indentation is made of
    whole indentation units only (`indent_whole_units`), whatever solutions the search returned. -/
theorem no_spaces_at_line_start (solve : Nat → Nat → Option Sol) (cfg : Config) (lines : List Line)
    (ft ft' : FT) (h : wrapStage solve cfg lines ft = some ft') : ∀ t ∈ ft', t.fmt.nl > 0 → t.fmt.sp = 0 := by
  obtain ⟨ft4, rfl⟩ := wrapStage_zero h
  exact zero_no_spaces ft4

/-- the same for the stage with the exact model of the search inside (the wrapper stage of the closed model
    `formatFull`, compared with the real stage on every case of the `wsearch` stream) -/
theorem no_spaces_at_line_start_full (cfg : Config) (lines : List Line) (ft ft' : FT) (sols : List (Nat × Nat × Sol))
    (h : wrapStageFull cfg lines ft = some (ft', sols)) : ∀ t ∈ ft', t.fmt.nl > 0 → t.fmt.sp = 0 := by
  obtain ⟨ft4, rfl⟩ := wrapStageFull_zero h
  exact zero_no_spaces ft4

/-- `canonFmt` is the driver's `canonFmtB` -/
theorem canonFmt_eq (f : FmtData) : canonFmt f = canonFmtB f := rfl

/-- **Canonical counters after the wrapper stage with the search inside, whatever the search returns**: if before
    the stage every token that is not kept verbatim has at most one space before it and the tokens already final (the
    end-of-file token) have canonical counters, and every other such token lies in a line for which a first-phase
    solution was applied (`allWritten`), then after the stage every token that is not kept verbatim has canonical
    counters: at most two line breaks, no spaces at a line start, no indentation without a line break, at most one
    space otherwise.  With `gap_shape` and `indent_whole_units` this is the shape of every gap the reconstructor emits. -/
theorem canonical_counters_after_stage (cfg : Config) (lines : List Line) (W0 : Nat → Bool) (ft ftz : FT)
    (sols : List (Nat × Nat × Sol))
    (h : CanonOn (fun j => W0 j = true) ft)
    (h1 : wrapStageFull cfg lines ft = some (ftz, sols))
    (hall : allWritten lines W0 ft.length sols = true) :
    ∀ t ∈ ftz, t.fmt.ignored = false → canonFmt t.fmt = true := by
  -- after the first pass every token is written
  obtain ⟨fta, sta, solsa, _, ha, _, r, hr⟩ := wrapStageFull_all_written (canonW_dec ft) (fun _ _ _ _ r => by rw [r.1])
    (CanonOn.pw.1 h).since h1 hall
  have rT : CanonOn (fun _ => True) fta := fun j t ht => let ⟨_, _, _, _, _, c⟩ := r.get ht; c
  have hQ := canonW_steps cfg.settings
  rcases hr with ⟨_, rfl, _⟩ | ⟨_, ftb, toReflow, ftc, stc, ftd, hb, hc, hd, rfl⟩
  · exact zero_canon _ rT
  · have rd := ((mlsPass1_steps hQ hb).trans hQ.trans (applyLinesS_steps hQ.toDecRel hc)).trans hQ.trans (mlsPass2_steps hQ hd)
    refine zero_canon _ fun j t ht => ?_
    have hj : j < fta.length := rd.1 ▸ getElem?_lt_of_some ht
    obtain ⟨b, hb, hr⟩ := rd.get (List.getElem?_eq_getElem hj)
    rw [ht] at hb; cases hb
    exact hr (rT j _ (List.getElem?_eq_getElem hj))

/-! ## The clauses of the property on the bytes of the output

  Everything below is about the bytes of `reconstruct S ft`, for **every** token list `ft` that satisfies the
  decidable predicate `CanonState S ft` (`Proofs/ReconBytes.lean`).  `CanonState S ft` says:
  * `S` is of the kind `Config.settings` produces: `S.nlStr` is LF or CR LF, `S.indStr` and `S.contStr` consist of
    spaces and tabs (`settingsOk_config`: true of every `cfg.settings`);
  * no token of `ft` is kept verbatim (`ignored`), and every token has canonical counters (`canonFmt`);
  * the first token has no line break and no space before it;
  * no token text contains LF (no multi-line token); no text starts or ends with a blank, a blank being exactly the
    byte 0x20 or the byte 0x09 (the comment rule trims trailing ASCII whitespace; other blanks, finding F5, are
    not blanks here); only the last text (the end-of-file token) may be empty, and then it has no spaces and no
    indentation before it.
  The safety-net line break after a line comment is handled: clauses 1, 2, 3 and 5 hold with it, clause 4 asks that
  it does not fire (`noSafetyNetGo false ft`), because a line started by it begins with the token's own space.

  "The lines of the output" are defined declaratively: `IsLines nl out Ls` says `out = L₀ ++ nl ++ L₁ ++ … ++ nl ++ Lₙ`
  for the non-empty list `Ls = [L₀, …, Lₙ]` and no `Lᵢ` contains LF.  For `nl` = LF or CR LF there is at most one
  such list (`isLines_unique`), and `output_lines` says the output has one. -/

def exTok (c : Bytes) (k : Kind) (nl ind cont sp : Nat) : FTok :=
  { tok := { ws := [], content := c, kind := k },
    fmt := { ignored := false, nl := nl, ind := ind, cont := cont, sp := sp } }

def exCfg : Config :=
  { wrapColumn := 120, beginAlwaysWrap := false, fmtMls := true, useTabs := false, tabWidth := 2, contIndents := 2,
    crlf := false }

/-- a small state used in the examples: the texts `b`, `x`, `;`, `e` and the empty end-of-file text, rendered
    `b⏎␣␣x;⏎⏎e⏎` with two spaces per indentation level -/
def exFt : FT :=
  [exTok [0x62] .tIdentifier 0 0 0 0, exTok [0x78] .tIdentifier 1 1 0 0, exTok [0x3B] .tIdentifier 0 0 0 0,
   exTok [0x65] .tIdentifier 2 0 0 0, exTok [] .tEof 1 0 0 0]

example : CanonState exCfg.settings exFt := by decide
example : reconstruct exCfg.settings exFt = [0x62, 0x0A, 0x20, 0x20, 0x78, 0x3B, 0x0A, 0x0A, 0x65, 0x0A] := by decide
example : outLines exCfg.settings exFt = [[0x62], [0x20, 0x20, 0x78, 0x3B], [], [0x65], []] := by decide
/-- a space before the text of the end-of-file token is excluded (it would be a trailing blank) -/
example : ¬ CanonState exCfg.settings [exTok [0x62] .tIdentifier 0 0 0 0, exTok [] .tEof 0 0 0 1] := by decide
/-- a text ending in a tab is excluded -/
example : ¬ CanonState exCfg.settings [exTok [0x62, 0x09] .tIdentifier 0 0 0 0, exTok [] .tEof 1 0 0 0] := by decide

/-- the same texts with tabs and CR LF: `b␍⏎⇥x;␍⏎␍⏎e␍⏎` -/
def exCfgTabs : Config := { exCfg with useTabs := true, crlf := true }
example : CanonState exCfgTabs.settings exFt := by decide
example : outLines exCfgTabs.settings exFt = [[0x62], [0x09, 0x78, 0x3B], [], [0x65], []] := by decide
example : reconstruct exCfgTabs.settings exFt =
    [0x62, 0x0D, 0x0A, 0x09, 0x78, 0x3B, 0x0D, 0x0A, 0x0D, 0x0A, 0x65, 0x0D, 0x0A] := by decide

/-- a state in which the safety net fires: the line comment `//` followed by `x` with one space and no line break is
    rendered `//⏎␣x⏎`; `CanonState` holds (clauses 1, 2, 3, 5 apply), `noSafetyNetGo` does not (clause 4 does not) -/
def exFtNet : FT :=
  [exTok [0x2F, 0x2F] (.tComment .cIndividualLine) 0 0 0 0, exTok [0x78] .tIdentifier 0 0 0 1, exTok [] .tEof 1 0 0 0]
example : CanonState exCfg.settings exFtNet := by decide
example : noSafetyNetGo false exFtNet = false := by decide
example : outLines exCfg.settings exFtNet = [[0x2F, 0x2F], [0x20, 0x78], []] := by decide

/-- **The output has lines, and only one list of lines.**  For every state satisfying `CanonState` (no token kept
    verbatim, no multi-line token, …) the output is `L₀ ++ nl ++ L₁ ++ … ++ nl ++ Lₙ` with `[L₀, …, Lₙ] = outLines S ft`
    (computed from the tokens), no `Lᵢ` contains LF, and every other list with these two properties is the same
    list.  The clauses below quantify over "every `Ls` with `IsLines …`": that is this list. -/
theorem output_lines (S : Settings) (ft : FT) (h : CanonState S ft) :
    IsLines S.nlStr (reconstruct S ft) (outLines S ft) ∧
    ∀ Ls, IsLines S.nlStr (reconstruct S ft) Ls → Ls = outLines S ft :=
  ⟨seg_lines S false ft (canonState_seg S ft h), lines_eq_segLines S false ft (canonState_seg S ft h)⟩

/-- **Clause 1: no output line ends in a blank.**  No line of the output ends in a space (0x20) or a tab (0x09).
    The hypotheses exclude tokens kept verbatim, multi-line tokens, and token texts that themselves end in a space or
    a tab (the comment rule trims these; a comment ending in an exotic blank, finding F5, is not a counterexample
    because only 0x20 and 0x09 count as blanks here) and spaces or indentation before an empty text.  Of the
    counters nothing is used: the clause holds whatever `nl`, `ind`, `cont`, `sp` are, and with the safety-net
    line break. -/
theorem no_trailing_blank (S : Settings) (ft : FT) (h : CanonState S ft) (Ls : List Bytes)
    (hL : IsLines S.nlStr (reconstruct S ft) Ls) : ∀ L ∈ Ls, endsBlank L = false :=
  seg_no_trailing_blank S false ft (canonState_seg S ft h) Ls hL

example : ∀ L ∈ outLines exCfg.settings exFt, endsBlank L = false :=
  no_trailing_blank _ _ (by decide) _ (output_lines _ _ (by decide)).1

/-- **Clause 2: tokens on one line are separated by at most one space and never by a tab.**  For any two
    neighbouring tokens `t`, `u` of the state, the output is `A ++ text t ++ G ++ text u ++ rest`, where `A ++ text t`
    is the output for the tokens up to `t`, and the bytes `G` between the two texts are: nothing, or exactly one
    space (0x20), or they start with a line terminator (`u` starts a new line).  The hypotheses exclude a `u` kept
    verbatim or with non-canonical counters (more than one space without a line break); `gap_between` is the same
    statement for an arbitrary token list in which only `u` is asked to be such. -/
theorem at_most_one_space (S : Settings) (ft : FT) (h : CanonState S ft) (pre post : FT) (t u : FTok)
    (hft : ft = pre ++ t :: u :: post) :
    ∃ A G, reconstruct S (pre ++ [t]) = A ++ t.tok.content ∧
      reconstruct S ft =
        A ++ t.tok.content ++ G ++ u.tok.content ++ reconGo S (isSingleLineComment u.tok.kind) post ∧
      (G = [] ∨ G = [0x20] ∨ ∃ W, G = S.nlStr ++ W) := by
  have hu : TokCanon u := (canonState_parts S ft h).toks u (by rw [hft]; simp)
  rw [hft]
  exact gap_between S pre post t u hu.notIgnored hu.canon

/-- between `x` and `;` there is nothing, before `x` the gap starts with the terminator -/
example : ∃ A G, reconstruct exCfg.settings exFt =
      A ++ [0x78] ++ G ++ [0x3B] ++ reconGo exCfg.settings false [exTok [0x65] .tIdentifier 2 0 0 0, exTok [] .tEof 1 0 0 0] ∧
      (G = [] ∨ G = [0x20] ∨ ∃ W, G = exCfg.settings.nlStr ++ W) := by
  obtain ⟨A, G, _, h2, h3⟩ := at_most_one_space exCfg.settings exFt (by decide)
    [exTok [0x62] .tIdentifier 0 0 0 0] [exTok [0x65] .tIdentifier 2 0 0 0, exTok [] .tEof 1 0 0 0]
    (exTok [0x78] .tIdentifier 1 1 0 0) (exTok [0x3B] .tIdentifier 0 0 0 0) rfl
  exact ⟨A, G, h2, h3⟩

/-- **Clause 3: never two consecutive blank lines, no blank line at the start.**  The output does not contain three
    consecutive line terminators (two consecutive blank lines are exactly that), and it does not start with a line
    terminator.  The hypotheses exclude tokens kept verbatim, multi-line tokens, more than two line breaks before a
    token (`canonFmt`), a line break before the first token, and empty texts other than the last (an empty text
    between two line breaks would join two blank lines). -/
theorem no_double_blank_line (S : Settings) (ft : FT) (h : CanonState S ft) :
    ¬ (S.nlStr ++ S.nlStr ++ S.nlStr) <:+: reconstruct S ft ∧ ¬ S.nlStr <+: reconstruct S ft := by
  refine ⟨seg_no_double_blank_line S false ft (canonState_seg S ft h), ?_⟩
  have hp := canonState_parts S ft h
  obtain ⟨_, hout, hfree⟩ := (output_lines S ft h).1
  rw [hout]
  exact not_prefix_nl S.nlStr (settingsOk_nl S hp.settings) _ _ hfree (linesGo_first S ft hp.nonEmpty hp.first)

example : ¬ ([0x0A, 0x0A, 0x0A] : Bytes) <:+: [0x62, 0x0A, 0x20, 0x20, 0x78, 0x3B, 0x0A, 0x0A, 0x65, 0x0A] := by
  have h := (no_double_blank_line exCfg.settings exFt (by decide)).1
  have e : reconstruct exCfg.settings exFt = [0x62, 0x0A, 0x20, 0x20, 0x78, 0x3B, 0x0A, 0x0A, 0x65, 0x0A] := by decide
  rw [e] at h; exact h

/-- **Clause 4: every line's indentation is a whole number of indentation units.**  Every line of the output is
    empty, or it is `k` indentation units - `k` tabs under `use_tabs`, otherwise `k * tab_width` spaces - followed by
    a byte that is neither a space nor a tab.  Besides `CanonState` the hypotheses exclude the saturation
    `continuation_indents * tab_width > 255` (finding F6) and states in which the safety-net line break after a line
    comment fires (the line it starts begins with the token's own single space). -/
theorem line_indentation_whole_units (c : Config) (hsat : c.contIndents * c.tabWidth ≤ 255) (ft : FT)
    (h : CanonState c.settings ft) (hsn : noSafetyNetGo false ft = true) (Ls : List Bytes)
    (hL : IsLines c.settings.nlStr (reconstruct c.settings ft) Ls) : ∀ L ∈ Ls, LineIndentOk c L := by
  have htail := seg_line_indentation c hsat false ft (canonState_seg _ ft h) hsn Ls hL
  rw [(output_lines _ ft h).2 Ls hL] at htail ⊢
  have hp := canonState_parts _ ft h
  intro L hL
  rcases List.mem_cons.1 hL with hL | hL
  · rw [hL]; exact linesGo_first_indent c ft hp.toks hp.nonEmpty hp.first
  · exact htail L hL

example : ∀ L ∈ outLines exCfg.settings exFt, LineIndentOk exCfg L :=
  line_indentation_whole_units exCfg (by decide) exFt (by decide) (by decide) _ (output_lines _ _ (by decide)).1

/-- the line `␣␣x;` of the example is one unit of two spaces followed by `x` -/
example : LineIndentOk exCfg [0x20, 0x20, 0x78, 0x3B] := Or.inr ⟨1, 0x78, [0x3B], by decide, by decide⟩

/-- **Clause 5: the output ends with exactly one line terminator.**  If the last token has an empty text (the
    end-of-file token) and exactly one line break before it (what the end-of-file rule writes, `eof_one_newline`),
    the output is `X ++ nl` and `X` does not end with a terminator.  The hypotheses exclude a token before it whose
    text ends in a line break (no text contains LF) or is empty, and spaces or indentation before the last text. -/
theorem ends_with_one_terminator (S : Settings) (ft : FT) (h : CanonState S ft) (pre : FT) (e : FTok)
    (hft : ft = pre ++ [e]) (hc : e.tok.content = []) (hnl : e.fmt.nl = 1) :
    ∃ X, reconstruct S ft = X ++ S.nlStr ∧ ¬ S.nlStr <:+ X := by
  -- `e` is not the first token (that one has no line break before it), so a token `q` stands before it
  rcases List.eq_nil_or_concat pre with hpre | ⟨pre', q, hpre⟩
  · have hf := canonState_first S ft h
    rw [hft, hpre, List.nil_append, firstOkB_cons] at hf
    omega
  · rw [List.concat_eq_append] at hpre
    subst hft hpre
    exact ⟨_, seg_ends_with_one_terminator S false pre' q e (canonState_seg S _ h) hc hnl⟩

example : ∃ X, reconstruct exCfg.settings exFt = X ++ [0x0A] ∧ ¬ ([0x0A] : Bytes) <:+ X :=
  ends_with_one_terminator exCfg.settings exFt (by decide) (exFt.take 4) (exTok [] .tEof 1 0 0 0) (by decide) rfl rfl

/-- **Outside verbatim regions.**  The same clauses for a run `seg` of tokens standing anywhere in a token list
    `pre ++ seg ++ post` (for instance between two regions kept verbatim; `pre` and `post` are arbitrary): the bytes
    emitted for the run are a contiguous piece of the output; no line of this piece ends in a space or a tab; the piece
    does not contain three consecutive terminators; and (no saturation, no safety net inside the run) every line of the
    piece but its first - which continues the line open where the run starts - is empty or whole indentation units
    followed by a non-blank byte.  `SegState` is `CanonState` without the condition on the first token. -/
theorem segment_clauses (c : Config) (pre seg post : FT) (h : SegState c.settings seg) :
    ∃ piece, reconstruct c.settings (pre ++ seg ++ post) =
        reconGo c.settings false pre ++ piece ++ reconGo c.settings (mbAfter (mbAfter false pre) seg) post ∧
      piece = reconGo c.settings (mbAfter false pre) seg ∧
      ¬ (c.settings.nlStr ++ c.settings.nlStr ++ c.settings.nlStr) <:+: piece ∧
      ∃ Ls, IsLines c.settings.nlStr piece Ls ∧ (∀ L ∈ Ls, endsBlank L = false) ∧
        (c.contIndents * c.tabWidth ≤ 255 → noSafetyNetGo (mbAfter false pre) seg = true →
          ∀ L ∈ Ls.tail, LineIndentOk c L) :=
  ⟨_, reconstruct_segment c.settings pre seg post, rfl, seg_no_double_blank_line _ _ seg h,
    _, seg_lines _ _ seg h, seg_no_trailing_blank _ _ seg h _ (seg_lines _ _ seg h),
    fun hsat hsn => seg_line_indentation c hsat _ seg h hsn _ (seg_lines _ _ seg h)⟩

/-- a run `x ;` after a token kept verbatim (whose original whitespace `⏎␣` is emitted as it was): the piece
    emitted for the run is `⏎␣␣x;`, its lines are the empty rest of the open line and `␣␣x;` -/
example : ∃ Ls, IsLines exCfg.settings.nlStr
      (reconGo exCfg.settings false [exTok [0x78] .tIdentifier 1 1 0 0, exTok [0x3B] .tIdentifier 0 0 0 0]) Ls ∧
      (∀ L ∈ Ls, endsBlank L = false) ∧ ∀ L ∈ Ls.tail, LineIndentOk exCfg L := by
  obtain ⟨_, _, rfl, _, Ls, h1, h2, h3⟩ := segment_clauses exCfg
    [{ tok := { ws := [0x0A, 0x20], content := [0x7B, 0x7D], kind := .tComment .cInlineBlock },
       fmt := { ignored := true, nl := 1, ind := 0, cont := 0, sp := 1 } }]
    [exTok [0x78] .tIdentifier 1 1 0 0, exTok [0x3B] .tIdentifier 0 0 0 0] [exTok [] .tEof 1 0 0 0] (by decide)
  exact ⟨Ls, h1, h2, h3 (by decide) (by decide)⟩

/-! ### composition with the closed model -/

/-- all byte-level clauses for one state -/
structure BytesCanonical (c : Config) (ft : FT) : Prop where
  /-- the output is made of the lines `outLines` -/
  lines : IsLines c.settings.nlStr (reconstruct c.settings ft) (outLines c.settings ft)
  /-- clause 1 -/
  noTrailingBlank : ∀ L ∈ outLines c.settings ft, endsBlank L = false
  /-- clause 2 -/
  atMostOneSpace : ∀ (pre post : FT) (t u : FTok), ft = pre ++ t :: u :: post →
    ∃ A G, reconstruct c.settings (pre ++ [t]) = A ++ t.tok.content ∧
      reconstruct c.settings ft =
        A ++ t.tok.content ++ G ++ u.tok.content ++ reconGo c.settings (isSingleLineComment u.tok.kind) post ∧
      (G = [] ∨ G = [0x20] ∨ ∃ W, G = c.settings.nlStr ++ W)
  /-- clause 3 -/
  noDoubleBlankLine :
    ¬ (c.settings.nlStr ++ c.settings.nlStr ++ c.settings.nlStr) <:+: reconstruct c.settings ft ∧
    ¬ c.settings.nlStr <+: reconstruct c.settings ft
  /-- clause 4 -/
  indentation : c.contIndents * c.tabWidth ≤ 255 → noSafetyNetGo false ft = true →
    ∀ L ∈ outLines c.settings ft, LineIndentOk c L
  /-- clause 5 -/
  oneTerminator : ∀ (pre : FT) (e : FTok), ft = pre ++ [e] → e.tok.content = [] → e.fmt.nl = 1 →
    ∃ X, reconstruct c.settings ft = X ++ c.settings.nlStr ∧ ¬ c.settings.nlStr <:+ X

/-- all clauses at once, for every state satisfying `CanonState` -/
theorem bytes_canonical (c : Config) (ft : FT) (h : CanonState c.settings ft) : BytesCanonical c ft :=
  { lines := (output_lines _ ft h).1
    noTrailingBlank := no_trailing_blank _ ft h _ (output_lines _ ft h).1
    atMostOneSpace := fun pre post t u hft => at_most_one_space _ ft h pre post t u hft
    noDoubleBlankLine := no_double_blank_line _ ft h
    indentation := fun hsat hsn => line_indentation_whole_units c hsat ft h hsn _ (output_lines _ ft h).1
    oneTerminator := fun pre e hft hc hnl => ends_with_one_terminator _ ft h pre e hft hc hnl }

example : BytesCanonical exCfg exFt := bytes_canonical _ _ (by decide)
example : BytesCanonical exCfgTabs exFt := bytes_canonical _ _ (by decide)

/-- **C08 on the bytes, for the closed model of the whole formatter, decided per input.**  When `canonPremisesB`
    answers `true` on the input (see `C08_format_full_checked`: it fails exactly where the wrapper reports "no
    solution", finding F34), the model has a final token state `ftz` (`finalStateFull`, executable), the output is
    its reconstruction, every token of `ftz` not kept verbatim has canonical counters, and if moreover the decidable
    content check `contentStateB ftz` answers `true`, then `ftz` satisfies `CanonState` and all byte-level clauses
    hold for the output (`BytesCanonical`).  Inputs with verbatim regions or multi-line tokens are not covered by
    this statement; for them `segment_clauses` speaks about every run of tokens outside those. -/
theorem C08_bytes_full_checked (cfg : Config) (alnum : Bytes → Bool) (s : Bytes)
    (h : canonPremisesB cfg alnum s = true) :
    ∃ ftz, finalStateFull cfg alnum s = some ftz ∧
      formatFull cfg alnum s = some (reconstruct cfg.settings ftz) ∧
      (∀ t ∈ ftz, t.fmt.ignored = false → canonFmt t.fmt = true) ∧
      (contentStateB ftz = true → CanonState cfg.settings ftz ∧ BytesCanonical cfg ftz) := by
  obtain ⟨p, ftz, sols, hp, hpre, hstage, hw⟩ := canonPremisesB_eq_true.1 h
  have hcanon := canonical_counters_after_stage cfg _ _ _ ftz sols (preStageOkB_sound _ _ hpre) hstage hw
  refine ⟨ftz, by rw [finalStateFull_eq, hp]; exact Pre.run_eq_some.2 ⟨ftz, sols, hstage, rfl⟩,
    formatFull_eq_some.2 ⟨p, ftz, sols, hp, hstage, rfl⟩, hcanon, fun hc => ?_⟩
  have hcs := canonState_of_content cfg ftz hcanon hc
  exact ⟨hcs, bytes_canonical cfg ftz hcs⟩

/-- **C08 for the closed model of the whole formatter, decided per input.**  `canonPremisesB cfg alnum s`
    (Model/LayoutCheck.lean, executable) says: in the run on `s`, before the wrapper stage every token not kept
    verbatim has at most one space before it (a theorem when no line comment shares its line with code:
    `spacing_at_most_one`), and every such token is the end-of-file token written by the end-of-file rule or lies in a
    line for which the wrapper found a solution in its first phase.  Whenever it answers `true`, the output is the
    reconstruction of a state whose non-verbatim tokens all have canonical counters - hence (by `gap_shape`) between
    two tokens there is nothing, one space, or one or two line breaks followed by whole indentation units.  It fails
    exactly where the wrapper reports "no solution" for a line (known finding F34).  The driver tallies the reduced
    premise `canonPremisesB'` (`C08_premises_reduced`) on every case of the `full` stream (`info_c08`). -/
theorem C08_format_full_checked (cfg : Config) (alnum : Bytes → Bool) (s : Bytes)
    (h : canonPremisesB cfg alnum s = true) :
    ∃ ftz, formatFull cfg alnum s = some (reconstruct cfg.settings ftz) ∧
      ∀ t ∈ ftz, t.fmt.ignored = false → canonFmt t.fmt = true :=
  let ⟨ftz, _, hf, hc, _⟩ := C08_bytes_full_checked cfg alnum s h
  ⟨ftz, hf, hc⟩

/-- **before the wrapper stage at most one space stands before every token that is not free, for every input**:
    in the state `preWrap` hands to the wrapper stage, a token has at most one space before it or its position is free
    (`freeAtB`: it follows a line comment sharing its line with code, and its own spacing rule keeps the input's
    spaces).  `TokenSpacing` writes 0 or 1 everywhere else; the later rules keep the spaces or write 0. -/
theorem C08_pre_stage_spaces (O : Oracles) (raw : List RawTok) (j : Nat) (t : FTok)
    (ht : (preWrap O raw).2.2[j]? = some t) :
    t.fmt.sp ≤ 1 ∨ freeAtB (preWrap O raw).2.2 j = true :=
  CanonPremise.preWrap_sp O raw j t ht

attribute [local irreducible] wrapStageFull preWrap in
/-- the reduced premises (`canonPremisesB'`: "at most one space before" asked at the free positions only) imply the
    premises of `C08_format_full_checked` -/
theorem C08_premises_reduced (cfg : Config) (alnum : Bytes → Bool) (s : Bytes)
    (h : canonPremisesB' cfg alnum s = true) : canonPremisesB cfg alnum s = true := by
  rw [canonPremisesB'_eq, Option.any_eq_true] at h
  obtain ⟨p, hp, h⟩ := h
  obtain ⟨raw, po, _, _, rfl⟩ := preStage_eq_some.1 hp
  rw [canonPremisesB_eq, Option.any_eq_true]
  rw [Bool.and_eq_true] at h
  exact ⟨_, hp, Bool.and_eq_true _ _ ▸ ⟨CanonPremise.preStageOkB_of_prime _ raw h.1, h.2⟩⟩

/-- **C08 for the closed model of the whole formatter, with the premise "at most one space before" proved** except at
    the free positions: `C08_format_full_checked` from `canonPremisesB'` (Model/LayoutCheck.lean, executable) -/
theorem C08_format_full_checked2 (cfg : Config) (alnum : Bytes → Bool) (s : Bytes)
    (h : canonPremisesB' cfg alnum s = true) :
    ∃ ftz, formatFull cfg alnum s = some (reconstruct cfg.settings ftz) ∧
      ∀ t ∈ ftz, t.fmt.ignored = false → canonFmt t.fmt = true :=
  C08_format_full_checked cfg alnum s (C08_premises_reduced cfg alnum s h)

end Pasfmt.C08
