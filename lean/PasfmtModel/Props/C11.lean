/-
  C11 — wrap_column is a limit, not a style switch.
  Proved for the *idealised optimiser*: the first minimum of `base + overflow(W)` over any finite
  candidate list with a `W`-independent order.  The search is modelled (`Model/Search.lean`), but that
  `find_optimal_solution` (best-first search with pruning and an iteration limit that read
  `max_line_length`) is such an optimiser is not proved, and the theorems here do not use its model; the
  width-pair oracle checks the implementation on every well-formed case (level "other", partial: the
  search heuristics are named as the gap).
-/
import PasfmtModel.Generated.Inventory

namespace Pasfmt.C11

/-- first element of the list that minimises `f` (ties: the earlier one) -/
def argminGo {C : Type} (f : C → Nat) (best : C) : List C → C
  | [] => best
  | c :: r => if f c < f best then argminGo f c r else argminGo f best r

def argmin {C : Type} (f : C → Nat) : List C → Option C
  | [] => none
  | c :: r => some (argminGo f c r)

/-- `m` is the first minimiser of `f` in `l` -/
def IsFirstMin {C : Type} (f : C → Nat) (l : List C) (m : C) : Prop :=
  ∃ pre post, l = pre ++ m :: post ∧ (∀ c ∈ pre, f m < f c) ∧ (∀ c ∈ post, f m ≤ f c)

theorem argminGo_spec {C : Type} (f : C → Nat) (pre : List C) (best : C) (mid r : List C)
    (hpre : ∀ c ∈ pre, f best < f c) (hmid : ∀ c ∈ mid, f best ≤ f c) :
    IsFirstMin f (pre ++ best :: mid ++ r) (argminGo f best r) := by
  induction r generalizing pre best mid with
  | nil => exact ⟨pre, mid, by simp [argminGo], by simpa [argminGo] using hpre, by simpa [argminGo] using hmid⟩
  | cons a t ih =>
    unfold argminGo
    split
    · rename_i hlt
      -- a becomes the running best: everything seen so far is strictly larger
      have := ih (pre ++ best :: mid) a []
        (by
          intro c hc
          rcases List.mem_append.1 hc with h | h
          · exact Nat.lt_trans hlt (hpre c h)
          · rcases List.mem_cons.1 h with rfl | h'
            · exact hlt
            · exact Nat.lt_of_lt_of_le hlt (hmid c h'))
        (by intro c hc; simp at hc)
      simpa [List.append_assoc] using this
    · rename_i hge
      have := ih pre best (mid ++ [a]) hpre
        (by
          intro c hc
          rcases List.mem_append.1 hc with h | h
          · exact hmid c h
          · simp at h; subst h; omega)
      simpa [List.append_assoc] using this

/-- `argmin` returns the first minimiser -/
theorem argmin_spec {C : Type} (f : C → Nat) (l : List C) (m : C) (h : argmin f l = some m) : IsFirstMin f l m := by
  cases l with
  | nil => simp [argmin] at h
  | cons c r =>
    simp only [argmin, Option.some.injEq] at h
    rw [← h]
    have := argminGo_spec f [] c [] r (by intro x hx; simp at hx) (by intro x hx; simp at hx)
    simpa using this

theorem IsFirstMin.le {C : Type} {f : C → Nat} {l : List C} {m : C} (h : IsFirstMin f l m) :
    m ∈ l ∧ ∀ c ∈ l, f m ≤ f c := by
  obtain ⟨pre, post, e, hpre, hpost⟩ := h
  subst e
  refine ⟨by simp, fun c hc => ?_⟩
  rcases List.mem_append.1 hc with h | h
  · exact Nat.le_of_lt (hpre c h)
  · rcases List.mem_cons.1 h with rfl | h'
    · exact Nat.le_refl _
    · exact hpost c h'

theorem argminGo_le {C : Type} (f : C → Nat) (best : C) (l : List C) :
    f (argminGo f best l) ≤ f best ∧ ∀ c ∈ l, f (argminGo f best l) ≤ f c := by
  have h := (argminGo_spec f [] best [] l (by simp) (by simp)).le.2
  exact ⟨h best (by simp), fun c hc => h c (by simp [hc])⟩

/-- any two first minimisers have the same cost -/
theorem firstMin_unique {C : Type} (f : C → Nat) (l : List C) (m1 m2 : C)
    (h1 : IsFirstMin f l m1) (h2 : IsFirstMin f l m2) : f m1 = f m2 :=
  Nat.le_antisymm (h1.le.2 m2 h2.le.1) (h2.le.2 m1 h1.le.1)

/-- **Shrinking the limit.** Let `costWide ≤ costNarrow` pointwise (a narrower limit can only add
    overflow penalty).  If the optimum for the wide limit costs the same under the narrow limit
    (it already fits), it is also the optimum for the narrow limit — with the same tie-breaking. -/
theorem argmin_shrink {C : Type} (costWide costNarrow : C → Nat) (l : List C) (m : C)
    (hle : ∀ c, costWide c ≤ costNarrow c)
    (hm : IsFirstMin costWide l m) (hfit : costNarrow m = costWide m) :
    IsFirstMin costNarrow l m := by
  obtain ⟨pre, post, e, hpre, hpost⟩ := hm
  refine ⟨pre, post, e, ?_, ?_⟩
  · intro c hc; have := hpre c hc; have := hle c; omega
  · intro c hc; have := hpost c hc; have := hle c; omega

/-- The penalty shape of `get_decision_penalty`: `base + Σ (2^20 + 3·excess)` over tokens ending
    beyond the limit.  It is antitone in the limit and is `base` exactly when everything fits. -/
def overflowPenalty (limit : Nat) (ends : List Nat) : Nat :=
  (ends.map fun e => if e > limit then 1048576 + 3 * (e - limit) else 0).sum

theorem overflow_antitone (w1 w2 : Nat) (h : w1 ≤ w2) (ends : List Nat) :
    overflowPenalty w2 ends ≤ overflowPenalty w1 ends := by
  unfold overflowPenalty
  induction ends with
  | nil => simp
  | cons e r ih =>
    simp only [List.map_cons, List.sum_cons]
    have : (if e > w2 then 1048576 + 3 * (e - w2) else 0) ≤ (if e > w1 then 1048576 + 3 * (e - w1) else 0) := by
      split <;> split <;> omega
    omega

theorem overflow_zero_iff_fits (w : Nat) (ends : List Nat) :
    overflowPenalty w ends = 0 ↔ ∀ e ∈ ends, e ≤ w := by
  unfold overflowPenalty
  rw [List.sum_eq_zero_iff_forall_eq_nat]
  simp only [List.mem_map, forall_exists_index, and_imp, forall_apply_eq_imp_iff₂]
  exact forall₂_congr fun e _ => by split <;> omega

/-- if every line fits at some limit it fits at any larger one (on renderings) -/
theorem lines_fit_mono (w1 w2 : Nat) (h : w1 ≤ w2) (ends : List Nat) (hf : ∀ e ∈ ends, e ≤ w1) :
    ∀ e ∈ ends, e ≤ w2 := fun e he => Nat.le_trans (hf e he) h

/-- **The width limit is read only as a limit.**  The translator lists every place of the wrapper's
    source (`optimising_line_formatter/*.rs`) that reads `max_line_length`, with the number of reads:
    the "last line is too long" test of `find_optimal_solution` (comparison and its trace message) and
    the overflow penalty of `get_decision_penalty` (comparison and excess).  Both enter the search only
    through "does the line exceed the limit, and by how much" — the shape the theorems above assume.
    A new read anywhere else (a threshold such as `max_line_length / 2`, a style chosen by width)
    changes this list and breaks this obligation: it has to be reviewed against `argmin_shrink`. -/
theorem width_is_read_only_as_a_limit :
    widthReads = ["mod.rs:find_optimal_solution#2", "mod.rs:get_decision_penalty#2"] := rfl

end Pasfmt.C11
