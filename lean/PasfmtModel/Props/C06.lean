/-
  C06 — Output does not depend on the input's line wrapping or spacing.
  Proved: what the exact stages keep of the original layout, and for the closed model `formatFull` that two layouts
  of the same tokens are formatted to the same bytes under decidable premises, which the driver evaluates on every
  pair of the relayout stream (`C06_format_full`, `C06_format_full_checked'`).  No contract on parser or wrapper is
  assumed; where the premises fail (a line without a wrapping solution, F34) nothing is claimed.
-/
import PasfmtModel.Proofs.SpacingLayout
import PasfmtModel.Model.Pipeline
import PasfmtModel.Generated.Inventory
import PasfmtModel.Proofs.LayoutFull
import PasfmtModel.Proofs.SearchMustBreak

namespace Pasfmt.C06

/-- original whitespace is reduced to (number of `\n`, width of the trailing blank run) and nothing else -/
theorem fmtdata_layout (ws1 ws2 : Bytes) (ig : Bool)
    (hnl : countByte 0x0A ws1 = countByte 0x0A ws2)
    (hsp : trimStartLen (trimEndCr (lastLine ws1)) = trimStartLen (trimEndCr (lastLine ws2))) :
    FmtData.ofWs ws1 ig = FmtData.ofWs ws2 ig := by
  unfold FmtData.ofWs; rw [hnl, hsp]

/-- after `TokenSpacing` the spacing of every token is independent of the amount of original
    horizontal whitespace (it depends on it only through "empty or not"), as long as no inline line
    comment is involved (the token after one starts a new line and is zeroed by the wrapper) -/
theorem spacing_layout_invariant (l1 l2 : List (Kind × Nat)) (h : LayoutEq l1 l2) (hni : noInlineLine l1) :
    spacingResult l1 = spacingResult l2 := spacingResult_layoutW2 l1 l2 (h.toW2 false) hni

/-- the blank-line grouping kept at the first token of a logical line (`clamp(1,2)`) depends only on
    whether the original gap held a blank line, and is stable under re-formatting -/
theorem blank_group_clamp (x y : Nat) (h : (2 ≤ x) ↔ (2 ≤ y)) : max 1 (min x 2) = max 1 (min y 2) := by
  omega

theorem blank_group_stable (x : Nat) : max 1 (min (max 1 (min x 2)) 2) = max 1 (min x 2) := by omega

/-- the model's pipeline reads the original whitespace of non-ignored tokens only through
    `FmtData.ofWs`: two token lists with equal kinds, contents and counters give the same state
    before the wrapper, whatever their whitespace bytes are (ignored tokens keep their bytes) -/
theorem new_reads_only_fmtdata (t1 t2 : Tok) (f : Bool) (hc : t1.content = t2.content) (hk : t1.kind = t2.kind)
    (hf : FmtData.ofWs t1.ws f = FmtData.ofWs t2.ws f) :
    ({ tok := t1, fmt := FmtData.ofWs t1.ws f } : FTok).fmt = ({ tok := t2, fmt := FmtData.ofWs t2.ws f } : FTok).fmt ∧
    t1.content = t2.content ∧ t1.kind = t2.kind := ⟨hf, hc, hk⟩

/-- **A space or a line break.**  Two layouts of one token sequence in which every gap is empty in both
    or non-empty in both (how many spaces, whether the gap holds a line break, how far the next line
    is indented are all free) get the same spacing from `TokenSpacing`. -/
theorem spacing_space_or_break (ft1 ft2 : FT) (h : GapEq ft1 ft2) (hni : noInlineLine (spacingItems ft1)) :
    spacingResult (spacingItems ft1) = spacingResult (spacingItems ft2) :=
  spacingResult_gapEqW ft1 ft2 (h.toW false) hni

/-- the premises are met by the two layouts `1 experimental` and `1<newline>experimental` (the identifier at
    column 0), and both get one space -/
example :
    let num : Tok := { ws := [], content := [0x31], kind := .tNumberLiteral .nDecimal }
    let idA : Tok := { ws := [0x20], content := [0x65], kind := .tIdentifier }
    let idB : Tok := { ws := [0x0A], content := [0x65], kind := .tIdentifier }
    let a : FT := [{ tok := num, fmt := FmtData.ofWs num.ws false }, { tok := idA, fmt := FmtData.ofWs idA.ws false }]
    let b : FT := [{ tok := num, fmt := FmtData.ofWs num.ws false }, { tok := idB, fmt := FmtData.ofWs idB.ws false }]
    GapEq a b ∧ noInlineLine (spacingItems a) ∧ spacingResult (spacingItems b) = [0, 1] := by
  refine ⟨?_, ?_, ?_⟩
  · exact GapEq.cons rfl rfl (by intro h; cases h) (GapEq.cons rfl (by decide) (by intro h; cases h) GapEq.nil)
  · intro p hp
    simp [spacingItems, spacingItemsGo] at hp
    rcases hp with rfl | rfl <;> simp
  · decide

/-- **Translator obligation: where the input's layout is read.**  Every read of a token's original whitespace
    (`get_leading_whitespace`), of its line-break count (`newlines_before`) and of the newline string in the
    parser and in every rule under `core/src/rules/` (consolidators, ignorers, spacing, wrapper), regenerated from
    the Rust source on every run.  Today: the asm-instruction splitter (line breaks inside asm blocks, excluded by
    the property), the multi-line string re-indenter (terminator to write), the end-of-file rule (a write), the
    wrapper's blank-line clamp and its write of the chosen breaks, and `max_one_either_side` ("on another line"
    counts as one space).  The inventory is kept per file (a read moved into a helper of the same file is a refactoring: control R03).  A
    read in a file that has none today - e.g. a consolidator, a context of the wrapper or another rule that looks at
    whether a gap holds a line break - breaks this obligation even before any input is run; a new read inside one of
    the files listed is the business of the `pfull`, `wsearch`, `full` and `full2` correspondences. -/
theorem layout_is_read_only_at_known_sites :
    layoutReads = ["get_leading_whitespace@core/src/defaults/parser.rs",
      "get_newline_str@core/src/rules/optimising_line_formatter/multiline_strings.rs",
      "newlines_before@core/src/rules/eof_newline.rs",
      "newlines_before@core/src/rules/optimising_line_formatter/mod.rs",
      "newlines_before@core/src/rules/token_spacing.rs"] := rfl

/-- **The parse does not depend on where the lines break outside assembler code** — for the exact model of the
    parser (control flow included) and the three consolidators: the line-break flags are read by
    `parse_asm_instructions` only, which runs after an `asm` keyword, so two scans with the same token types that agree
    on the flags after the first `asm` keyword give the same logical lines and the same final token types.  (By
    construction of `parseFileMasked`; that the mask changes nothing is checked by the `pfull` and `full`
    correspondences on every case.) -/
theorem parse_layout_independent (raw1 raw2 : List RawTok)
    (hflags : maskFlags false (raw1.map fun t => (t.kind, wsHasBreak t.ws)) =
      maskFlags false (raw2.map fun t => (t.kind, wsHasBreak t.ws))) :
    parseAndConsolidate raw2 = parseAndConsolidate raw1 :=
  parseAndConsolidate_layout raw1 raw2 hflags

/-- in particular: a file without an `asm` keyword parses the same in every layout -/
theorem parse_layout_independent_no_asm (raw1 raw2 : List RawTok)
    (hk : raw1.map (·.kind) = raw2.map (·.kind)) (hno : ∀ t ∈ raw1, t.kind ≠ .rKeyword .kAsm) :
    parseAndConsolidate raw2 = parseAndConsolidate raw1 := by
  apply parseAndConsolidate_layout
  -- without an `asm` keyword every flag is masked
  have key : ∀ a : List RawTok, (∀ t ∈ a, t.kind ≠ .rKeyword .kAsm) →
      maskFlags false (a.map fun t => (t.kind, wsHasBreak t.ws)) = (a.map (·.kind)).map (·, false) := by
    intro a hn
    induction a with
    | nil => rfl
    | cons x r ih =>
      have hb : (x.kind == RawTokenType.rKeyword .kAsm) = false := by simpa using hn x (by simp)
      simp only [List.map_cons, maskFlags, Bool.false_and, Bool.false_or, hb]
      rw [ih (fun t ht => hn t (by simp [ht]))]
  rw [key raw1 hno, hk, key raw2]
  intro t ht
  have hm : t.kind ∈ raw1.map (·.kind) := hk ▸ List.mem_map_of_mem ht
  obtain ⟨u, hu, e⟩ := List.mem_map.1 hm
  rw [← e]; exact hno u hu

/-- **The search of the line wrapper reads a token through its type and the length of its last line only, and the
    configuration through the width limit, the `begin` style and the two indentation widths only** — by construction
    of `searchSolve`/`searchInit` (`FTok.sview`, `Config.searchCfg`; tied to the code by the `wsearch` correspondence):
    two token states with the same views get the same solution for every line. -/
theorem search_reads_views_only (st : SearchState) (ft ft' : FT) (i : Nat) (h : ft.map FTok.sview = ft'.map FTok.sview) :
    searchSolve st ft i = searchSolve st ft' i := by
  unfold searchSolve; rw [h]

/-- **C06 for the closed model of the whole formatter** (`formatFull`: scanner, parser with its control flow,
    consolidators, ignore marks, token rules, wrapper stage with the search inside, reconstructor).  Let `s1` be
    formatted.  If `s2` scans to the same token types and texts in another layout — a blank line in front of a token in
    both or in neither, identical bytes in front of tokens kept verbatim, `GapEqW` for the gaps (`SameLayout`), and the
    same line-break flags after the first `asm` keyword (`hflags`) — then `s2` is formatted to the same bytes, provided
    that in the run on `s1`
    * every token is kept verbatim, or is the end-of-file token written by the end-of-file rule, or lies in a line for
      which the wrapper found a solution in its first phase (`hall`; it fails exactly where the wrapper reports "no
      solution" for a line, which keeps that line's original layout: known finding F34), and
    * every token that follows a line comment sharing its line with code, and whose own spacing rule could keep the
      input's spaces, starts a line in the result (`hfb`: `TokenSpacing` gives such a token no spacing, the wrapper must
      break before it; the premise says it did).
    Both are decidable and evaluated by the driver on every pair of the relayout stream.  No contract on parser or
    wrapper is assumed. -/
theorem C06_format_full (cfg : Config) (alnum : Bytes → Bool) (s1 s2 : Bytes) (raw1 raw2 : List RawTok)
    (po : ParserOut) (ftz : FT) (sols : List (Nat × Nat × Sol))
    (hl1 : lex s1 = some raw1) (hl2 : lex s2 = some raw2)
    (hpo : parseAndConsolidate raw1 = some po)
    (hflags : maskFlags false (raw1.map fun t => (t.kind, wsHasBreak t.ws)) =
      maskFlags false (raw2.map fun t => (t.kind, wsHasBreak t.ws)))
    (hsame : SameLayout po.kinds (preWrap (preO alnum po) raw1).1 raw1 raw2)
    (hw : wrapStageFull cfg (preWrap (preO alnum po) raw1).2.1 (preWrap (preO alnum po) raw1).2.2 = some (ftz, sols))
    (hall : allWritten (preWrap (preO alnum po) raw1).2.1
      (writtenBefore (preWrap (preO alnum po) raw1).2.1 (preWrap (preO alnum po) raw1).2.2)
      (preWrap (preO alnum po) raw1).2.2.length sols = true)
    (hfb : freeBrokenB (preWrap (preO alnum po) raw1).2.2 ftz = true) :
    ∃ out, formatFull cfg alnum s1 = some out ∧ formatFull cfg alnum s2 = some out :=
  formatFull_layout cfg alnum s1 s2 raw1 raw2 po ftz sols hl1 hl2 hpo hflags hsame hw hall hfb

/-- the wrapper stage alone, with the search inside: two states that agree up to the layout of the input (`RelW`)
    receive the same solutions, and once every token is written they are equal up to the leading whitespace of tokens
    that are not kept verbatim — which the reconstructor never emits -/
theorem wrapper_stage_layout_independent (cfg : Config) (lines : List Line) (F : Nat → Prop) (W0 : Nat → Bool)
    (ft ft' ftz : FT) (sols : List (Nat × Nat × Sol)) (h : RelW F (fun j => W0 j = true) ft ft') (hF : FreeOk F ft)
    (h1 : wrapStageFull cfg lines ft = some (ftz, sols)) (hall : allWritten lines W0 ft.length sols = true)
    (hfree : ∀ j t, ftz[j]? = some t → F j → t.fmt.nl > 0) :
    ∃ ftz', wrapStageFull cfg lines ft' = some (ftz', sols) ∧
      reconstruct cfg.settings ftz = reconstruct cfg.settings ftz' := by
  obtain ⟨ftz', hw, hr⟩ := wrapStageFull_layout cfg lines F W0 ft ft' ftz sols h hF h1 hall hfree
  exact ⟨ftz', hw, reconGo_relT _ _ _ _ hr⟩

/-- **C06 for the closed model, decided per pair.**  `layoutPremisesB cfg alnum s1 s2` (Model/LayoutCheck.lean) is the
    conjunction of the premises of `C06_format_full` as one executable Boolean — same token types and texts,
    `sameLayoutB` for the gaps, equal line-break flags after the first `asm` keyword, every token written in the first
    wrapping phase, every free token behind a trailing line comment broken.  Whenever it answers `true`, the two inputs are
    formatted to the same bytes.  The driver evaluates the equivalent `layoutPremisesB'` (`layoutPremises_iff`) on every pair of the
    relayout stream (`full2`, field `info_c06`: how often the premises hold, and which one fails first otherwise) next to the comparison of both model
    outputs with the real formatter's. -/
theorem C06_format_full_checked (cfg : Config) (alnum : Bytes → Bool) (s1 s2 : Bytes)
    (h : layoutPremisesB cfg alnum s1 s2 = true) :
    ∃ out, formatFull cfg alnum s1 = some out ∧ formatFull cfg alnum s2 = some out :=
  formatFull_layout_checked cfg alnum s1 s2 h

/-- **The search breaks where it must.**  Every solution `find_optimal_solution` returns for line `li` - at every depth
    of the recursion over child lines, whatever the cache holds as long as its entries have the property - satisfies
    `TreeMB O li`: wherever `get_formatting_invariant` answers `MustBreak` for a token of the line (e.g. the token
    follows a line comment), the decision for that token is a break; and the same holds for the solutions of the child
    lines hanging off its decisions, each for its own line (`treeMB_iff` spells the predicate out). -/
theorem search_breaks_where_it_must (O : Olf) (fuel : Nat) (cache : ChildLineCache) (ws : LineWhitespace) (li : Nat)
    (fd : FirstDecision) (hc : CacheMB O cache) :
    CacheMB O (O.findOptimalSolution fuel cache ws li fd).2 ∧
    ∀ sol, (O.findOptimalSolution fuel cache ws li fd).1 = .ok sol →
      ∀ i d, sol.decisions[i]? = some d →
        (O.getFormattingInvariant i (O.lines[li]!) = some .mustBreak → d.decision.toRaw = .brk) ∧
        ∀ x ∈ d.childSolutions, TreeMB O x.1 x.2 := by
  obtain ⟨h1, h2⟩ := findOptimalSolution_mb O fuel cache ws li fd hc
  exact ⟨h1, fun sol hs i d hd => (treeMB_iff O li sol).1 (h2 sol hs) i d hd⟩

/-- **The wrapper stage breaks behind a trailing line comment.**  In the result of the wrapper stage (search included),
    every token that follows a line comment sharing its line with code, whose own spacing rule could keep the input's
    spaces, and that is written by a solution the stage applies (in either phase, at any depth of child lines, at any
    position of its line) starts a line. -/
theorem wrapper_breaks_after_line_comment (cfg : Config) (lines : List Line) (ft ftz : FT)
    (sols : List (Nat × Nat × Sol)) (h : wrapStageFull cfg lines ft = some (ftz, sols)) (j : Nat)
    (hfree : freeAtB ft j = true) (hw : ∃ x ∈ sols, j ∈ solTokens lines x.2.2 x.2.1) :
    ∃ t, ftz[j]? = some t ∧ t.fmt.nl > 0 := by
  obtain ⟨f, hf, hpos⟩ := wrapStageFull_free_broken cfg lines ft ftz sols h j hfree hw
  obtain ⟨t, ht, rfl⟩ := Option.map_eq_some_iff.1 hf
  exact ⟨t, ht, hpos⟩

/-- the premise `freeBrokenB` of `C06_format_full` follows from `allWritten` and `freeBeforeBrokenB`, the restriction of
    `freeBrokenB` to the tokens no solution of the search writes (verbatim tokens, the end-of-file token written by the
    end-of-file rule) -/
theorem free_tokens_broken (cfg : Config) (lines : List Line) (ft ftz : FT) (sols : List (Nat × Nat × Sol))
    (h : wrapStageFull cfg lines ft = some (ftz, sols))
    (hall : allWritten lines (writtenBefore lines ft) ft.length sols = true)
    (hnb : freeBeforeBrokenB lines ft ftz = true) : freeBrokenB ft ftz = true :=
  freeBrokenB_of_stage' cfg lines ft ftz sols h hall hnb

/-- **C06 for the closed model, decided per pair, without a premise about what the search decided.**
    `layoutPremisesB'` is `layoutPremisesB` with `freeBeforeBrokenB` in place of `freeBrokenB` ("every free token
    behind a trailing line comment starts a line in the result"): its restriction to the tokens that no solution of the
    search writes (tokens kept verbatim and the end-of-file token written by the end-of-file rule; vacuous when no such
    token is free, `freeNotBeforeB`).  That the wrapper breaks before every free token it writes is proved from the search
    (`search_breaks_where_it_must`, `wrapper_breaks_after_line_comment`).  The two premise sets are equivalent
    (`layoutPremises_iff`), so the driver's verdicts carry over. -/
theorem C06_format_full_checked' (cfg : Config) (alnum : Bytes → Bool) (s1 s2 : Bytes)
    (h : layoutPremisesB' cfg alnum s1 s2 = true) :
    ∃ out, formatFull cfg alnum s1 = some out ∧ formatFull cfg alnum s2 = some out :=
  C06_format_full_checked cfg alnum s1 s2 (layoutPremisesB_of' cfg alnum s1 s2 h)

/-- the premise sets of `C06_format_full_checked` and `C06_format_full_checked'` hold for the same pairs -/
theorem layoutPremises_iff (cfg : Config) (alnum : Bytes → Bool) (s1 s2 : Bytes) :
    layoutPremisesB' cfg alnum s1 s2 = true ↔ layoutPremisesB cfg alnum s1 s2 = true :=
  ⟨layoutPremisesB_of' cfg alnum s1 s2, layoutPremisesB'_of cfg alnum s1 s2⟩

end Pasfmt.C06
