/-
  C02 — Well-formed code re-scans to the same tokens after formatting.
  Proved here: the unconditional safety net (a line break always follows a single-line comment),
  that each content rule is exactly the documented normalisation, that the scanner is *local*
  (`scanner_is_local`: a token is decided by its own bytes and at most three bytes of lookahead) and,
  from that, `C02_relex` / `C02_format`: when every emitted token is scanned back in its three-byte
  window — the decidable contract `relexB`, evaluated by the driver on every well-formed case (field
  `rx`) — scanning the whole output yields exactly the emitted token vector.  That the formatter's
  spacing decisions always satisfy the contract is grammar knowledge and stays with the contract.
-/
import PasfmtModel.Proofs.ReconProps
import PasfmtModel.Proofs.RulesSim
import PasfmtModel.Proofs.LexLocal
import PasfmtModel.Proofs.Keywords
import PasfmtModel.Proofs.PreStage

namespace Pasfmt.C02

/-- Whatever the whitespace counters are (also for ignored tokens), what is emitted in front of the
    token that follows a single-line comment contains a line break, unless that token is the
    end-of-file token: no code is ever absorbed into a line comment. -/
theorem line_comment_then_break (S : Settings) (hnl : containsByte 0x0A S.nlStr = true) (t : FTok)
    (hk : (t.tok.kind == .tEof) = false) : containsByte 0x0A (gapOf S t true) = true := by
  rw [gapOf_eq, containsByte_append]
  cases hn : noNetHere true t with
  | false => simp [hnl]
  | true =>
    -- the net stays away only from a token whose own gap holds a line break
    unfold noNetHere at hn
    unfold gapBody
    cases hi : t.fmt.ignored <;> simp [hi, hk] at hn ⊢
    · obtain ⟨k, hk'⟩ := Nat.exists_eq_succ_of_ne_zero hn
      rw [hk', replicateBytes_succ', containsByte_append, containsByte_append, hnl]
      simp
    · exact Or.inr hn

/-- and this is what the reconstructor does after every single-line comment -/
theorem recon_after_line_comment (S : Settings) (c t : FTok) (rest : FT) (mb : Bool)
    (hc : isSingleLineComment c.tok.kind = true) :
    reconGo S mb (c :: t :: rest) =
      gapOf S c mb ++ c.tok.content ++ (gapOf S t true ++ t.tok.content ++ reconGo S (isSingleLineComment t.tok.kind) rest) := by
  rw [reconGo, reconGo, hc]

/-- documented normalisation 1: keywords are lower-cased, nothing else of the text changes -/
theorem keyword_normalisation (t : FTok) :
    (lowercaseTok t).tok.content = t.tok.content ∨
    (isKeywordKind t.tok.kind = true ∧ (lowercaseTok t).tok.content = asciiLower t.tok.content) := by
  rw [lowercaseTok_eq]
  rcases applyRule_cases _ t with e | ⟨_, c, hc, e⟩ <;> rw [e]
  · exact Or.inl rfl
  · obtain ⟨hk, _, hc⟩ := lowerText_some hc
    exact Or.inr ⟨isKeywordKind_iff.2 hk, hc⟩

/-- documented normalisation 2: a directive differs from the original only in ASCII letter case -/
theorem directive_normalisation (c c' : Bytes) (h : formatCompilerDirective c = some c') :
    asciiLower c' = asciiLower c ∧ c'.length = c.length := by
  have hcase : asciiLower c' = asciiLower c := formatCompilerDirective_caseEq h
  refine ⟨hcase, ?_⟩
  have := congrArg List.length hcase
  simpa [asciiLower] using this

/-- documented normalisation 3: a line comment changes only in blanks (a space after the slashes,
    trailing ASCII whitespace) -/
theorem line_comment_normalisation (U : Bytes → Bool) (c c' : Bytes) (h : formatLineComment U c = some c')
    (hnd : nd c = true) : stripBlank c' = stripBlank c :=
  (simx_formatLineComment U c c' h hnd).2

/-- **The scanner is local.**  The token at the head of `p ++ s` — leading blanks, end, kind and the
    scanner state after it — is found unchanged at the head of `p ++ s'` for every `s'`, provided
    the token ends at least three bytes (one character, U+3000) before the end of `p` and the blank
    tail of the text lies inside `s`: nothing beyond three bytes of lookahead is ever consulted, for
    any token class (identifiers, numbers, text literals incl. multi-line, comments, compiler
    directives with nested expressions, assembler tokens), any state, any length.  (The statement of
    `C13.scan_is_position_independent`; both are `lexOne_local`.) -/
theorem scanner_is_local (st : LexState) (p s s' : Bytes) (ws e : Nat) (k : RawKind) (st' : LexState)
    (ht : countTrailingWs (p ++ s) ≤ s.length)
    (h : lexOne false st (p ++ s) = some (some (ws, e, k, st'))) (he : e + 3 ≤ p.length) :
    lexOne false st (p ++ s') = some (some (ws, e, k, st')) :=
  lexOne_local st p s s' ws e k st' ht h he

/-- the hypothesis is met, e.g., by `x := 1;` cut after `x := ` — and the token is found again before
    any other continuation -/
example : lexOne false LexState.init ("x := ".toUTF8.toList ++ "1;".toUTF8.toList) =
    some (some (0, 1, .rIdentifier, { isFirst := false, inAsm := false, prevReal := some .rIdentifier })) ∧
    1 + 3 ≤ "x := ".toUTF8.toList.length ∧ countTrailingWs ("x := ".toUTF8.toList ++ "1;".toUTF8.toList) ≤ 2 := by
  rw [← lexOneK_eq]; decide +kernel

/-- **C02, re-scan.**  If every token of the final token vector is scanned back from its window
    (`relexFT` succeeds, finding kinds `ks`), then scanning the whole reconstructed output yields
    exactly these tokens: the emitted gaps as leading blanks, the emitted contents, the kinds `ks`,
    and one end-of-file token.  No token is glued to its neighbour, split, or absorbed. -/
theorem C02_relex (S : Settings) (ft : FT) (ks : List RawKind)
    (h : relexFT S LexState.init false ft = some ks) :
    lex (reconstruct S ft) = some (relexToks S false ft ks) := by
  unfold lex lexWith reconstruct
  exact relexFT_sound S ft LexState.init false ks _ h (by omega)

/-- **C02 for the pipeline.**  With the contract `relexB` (what the driver evaluates: the windowed
    re-scan succeeds and finds the input's kinds up to the first-on-line status of comments), the
    output of `formatTokens` scans to the formatter's final token vector, one token per input token. -/
theorem C02_format (cfg : Config) (O : Oracles) (raw : List RawTok)
    (h : relexB cfg.settings raw (O.wrap cfg (preWrap O raw).2.1 (preWrap O raw).2.2) = true) :
    ∃ ks, lex (formatTokens cfg O raw) =
        some (relexToks cfg.settings false (O.wrap cfg (preWrap O raw).2.1 (preWrap O raw).2.2) ks) ∧
      ks.length + 1 = raw.length ∧
      (raw.zip ks).all (fun p => sameKindModPos p.1.kind p.2) = true := by
  unfold relexB at h
  split at h
  · rename_i ks hks
    simp only [Bool.and_eq_true, beq_iff_eq] at h
    refine ⟨ks, ?_, h.1, h.2⟩
    rw [formatTokens_eq]
    exact C02_relex cfg.settings _ ks hks
  · simp at h

end Pasfmt.C02
