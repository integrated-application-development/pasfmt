/-
  C03 — Formatting is idempotent on well-formed code.
  Proved: the content normalisations and the counter rules that do not depend on the wrapper are
  fixpoints, and idempotence of the closed model on inputs that pass a decidable layout premise
  (`C03_format_full_checked`).  Not proved: that a reflow after string re-indentation equals a fresh wrap (false on
  the current tree for child lines: known finding F10); the rest is left to the format-twice oracle (partial).
-/
import PasfmtModel.Proofs.ReconProps
import PasfmtModel.Proofs.RulesIdem
import PasfmtModel.Proofs.SpacingForm
import PasfmtModel.Proofs.GapReadBack
import PasfmtModel.Proofs.MlsMore
import PasfmtModel.Proofs.LayoutFull

namespace Pasfmt.C03

/-- keyword lower-casing is a fixpoint -/
theorem lowercase_idem (t : FTok) : lowercaseTok (lowercaseTok t) = lowercaseTok t := by
  rw [lowercaseTok_eq t, lowercaseTok_eq]
  refine applyRule_idem lowerText (fun k c c' h => ?_) t
  unfold lowerText at h ⊢
  split
  · rw [if_pos ‹_›] at h; exact lowerRule_idem h
  · rfl

/-- blank-line grouping survives re-formatting: `clamp(clamp(x,1,2),1,2) = clamp(x,1,2)` -/
theorem blank_group_stable (x : Nat) : max 1 (min (max 1 (min x 2)) 2) = max 1 (min x 2) := by omega

/-- trimming trailing ASCII whitespace twice is trimming once (the step of the line-comment rule's idempotence that
    concerns the trimmed end) -/
theorem trimAsciiEnd_idem (y : Bytes) : trimAsciiEnd (trimAsciiEnd y) = trimAsciiEnd y :=
  trimAsciiEnd_idem' y

/-- the line-comment rule applied to its own result does not change it again, for every comment text
    and every behaviour of the Unicode-alphanumeric test -/
theorem line_comment_rule_idem (U : Bytes → Bool) (c c' : Bytes) (h : formatLineComment U c = some c') :
    formatLineComment U c' = none := formatLineComment_idem U c c' h

/-- the compiler-directive rule applied to its own result does not change it again -/
theorem directive_rule_idem (c c' : Bytes) (h : formatCompilerDirective c = some c') :
    formatCompilerDirective c' = none := formatCompilerDirective_idem c c' h

/-- the comment formatter as a whole is a fixpoint after one application (ignored tokens included) -/
theorem comment_formatter_idem (U : Bytes → Bool) (ft : FT) :
    commentFormatter U (commentFormatter U ft) = commentFormatter U ft := commentFormatter_idem U ft

/-- `TokenSpacing` is a fixpoint on its own result: on tokens that carry the spacing it computed it
    computes the same spacing again, for every sequence of kinds and every original spacing -/
theorem token_spacing_idem (l : List (Kind × Nat)) :
    spacingResult (respace l (spacingResult l)) = spacingResult l := by
  cases l with
  | nil => rfl
  | cons x rest =>
    rw [spacingResult_eq]
    simp only [respace]
    rw [spacingResult_eq, spTail_idem]

/-- the whitespace emitted for a non-ignored token with counters `(n, i, c, s)` is read back by
    `FormattingData::from` as `n` line breaks and a blank run exactly as wide as indentation +
    continuation + spaces (saturating at `u16::MAX`), for every configuration -/
theorem emitted_gap_read_back (cfg : Config) (n i c s : Nat) :
    FmtData.ofWs (replicateBytes n cfg.settings.nlStr ++ (replicateBytes i cfg.settings.indStr ++
        replicateBytes c cfg.settings.contStr ++ List.replicate s 0x20)) false =
      { ignored := false, nl := u16sat n, ind := 0, cont := 0,
        sp := u16sat (replicateBytes i cfg.settings.indStr ++ replicateBytes c cfg.settings.contStr ++
          List.replicate s 0x20).length } := ofWs_gap _ (settings_form cfg) n i c s

/-- the whitespace the reconstructor emits for counters `(nl, 0, 0, sp)` is read back by
    `FormattingData::from` as exactly `nl` line breaks (lf and crlf) -/
theorem fmtdata_of_emitted_newlines (n : Nat) (crlf : Bool) (hn : n ≤ 65535) :
    (FmtData.ofWs (replicateBytes n (if crlf then [0x0D, 0x0A] else [0x0A])) false).nl = n := by
  have h := congrArg FmtData.nl (emitted_gap_read_back { Config.default with crlf := crlf } n 0 0 0)
  have e : ({ Config.default with crlf := crlf } : Config).settings.nlStr = if crlf then [0x0D, 0x0A] else [0x0A] := by
    cases crlf <;> rfl
  rw [e] at h
  simpa [replicateBytes, u16sat, u16Max, Nat.min_eq_left hn] using h

/-- **the multi-line string re-indenter is a fixpoint after one application**: if it turned a literal that ends in a
    quote (every multi-line literal token does) into `c'`, then applied to `c'` with the same counters and settings it
    reports "no change" - it recomputes the same text - so the token text stays `c'`.  `MlsMore.SettingsOk S` (line
    ending LF or CR LF, indentation strings of blanks other than CR/LF) holds for the settings of every configuration
    (`MlsMore.settings_ok`).  Each hypothesis is needed: `C12.mls_no_quote_counterexample`,
    `C12.mls_settings_counterexamples`. -/
theorem mls_rewrite_idem (S : Settings) (hS : MlsMore.SettingsOk S) (content : Bytes) (ind cont : Nat) (c' : Bytes)
    (hq : content.getLast? = some 0x27) (h : mlsRewrite S content ind cont = some c') :
    mlsRewrite S c' ind cont = none :=
  MlsMore.mls_idem S hS content ind cont c' hq h

/-- the same for the string-formatting pass on one token of any kind, under every configuration: a token `t'` that
    carries the text the pass computed for `t` (same kind, same ignored flag) keeps its text when the pass runs again
    with the same counters.  Excluded: multi-line literal tokens whose text does not end in a quote (there are none). -/
theorem mls_token_idem (cfg : Config) (fm : Bool) (t t' : FTok) (ind cont : Nat)
    (hq : isMlsKind t.tok.kind = true → t.tok.content.getLast? = some 0x27)
    (hk : t'.tok.kind = t.tok.kind) (hi : t'.fmt.ignored = t.fmt.ignored)
    (hc : t'.tok.content = mlsTok cfg.settings fm t ind cont) : mlsTok cfg.settings fm t' ind cont = t'.tok.content := by
  unfold mlsTok at hc ⊢
  rw [hk, hi]
  split
  · rename_i hcond
    rw [if_pos hcond] at hc
    have hkind : isMlsKind t.tok.kind = true := by
      simp only [Bool.and_eq_true] at hcond; exact hcond.2
    cases hr : mlsRewrite cfg.settings t.tok.content ind cont with
    | none =>
      rw [hr] at hc
      simp only [Option.getD_none] at hc
      rw [hc, hr]; rfl
    | some c' =>
      rw [hr] at hc
      simp only [Option.getD_some] at hc
      rw [hc, MlsMore.mls_idem _ (MlsMore.settings_ok cfg) _ ind cont c' (hq hkind) hr]; rfl
  · rfl

-- Tests: "'''\n    abc\n    '''" under the default configuration with counters (1, 1):
-- first application re-indents, second application reports no change
example : mlsRewrite Config.default.settings [39,39,39,10, 32,32,32,32,97,98,99,10, 32,32,32,32,39,39,39] 1 1
    = some [39,39,39,10, 32,32,32,32,32,32,97,98,99,10, 32,32,32,32,32,32,39,39,39] := by decide +kernel
example : mlsRewrite Config.default.settings
    [39,39,39,10, 32,32,32,32,32,32,97,98,99,10, 32,32,32,32,32,32,39,39,39] 1 1 = none := by decide +kernel

/-- **Idempotence of the closed model of the whole formatter, decided per input.**  If `s` is formatted to `out` and
    `out` is another layout of the tokens of `s` in the sense of the layout theorem (`layoutPremisesB cfg alnum s out`,
    decidable: same token types and texts - so `s` already has its keywords lower-cased, its comments and directives
    normalised and its multi-line literals in place -, same blank-line grouping, `GapEqW`, every token written by a
    first-phase solution), then formatting `out` again returns `out`.
    A corollary of `C06.C06_format_full_checked`; the driver tallies the premise on every case of the `full` stream
    (`info_c03`).  For inputs whose token texts are not yet normalised, idempotence is decided by the format-twice
    oracle and the `full`/`wsearch` correspondences. -/
theorem C03_format_full_checked (cfg : Config) (alnum : Bytes → Bool) (s out : Bytes)
    (h : formatFull cfg alnum s = some out) (hp : layoutPremisesB cfg alnum s out = true) :
    formatFull cfg alnum out = some out := by
  obtain ⟨o, h1, h2⟩ := formatFull_layout_checked cfg alnum s out hp
  rw [h] at h1
  cases h1
  exact h2

end Pasfmt.C03
