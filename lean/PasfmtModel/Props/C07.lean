/-
  C07 — Regions with formatting disabled and asm bodies are kept byte for byte.
  First the reconstructor and the parametrised `format`: a run of marked tokens comes out as scanned (`C07_format`,
  under a side condition on the safety net), given that every rule and the wrapper stage keep ignored tokens.  Then
  which tokens are marked: the toggle comments, the two ignorers, the void step.
-/
import PasfmtModel.Proofs.ReconProps
import PasfmtModel.Proofs.PipelineC07
import PasfmtModel.Model.Contracts
import PasfmtModel.Proofs.WrapStageProps
import PasfmtModel.Proofs.ToggleSpec

namespace Pasfmt.C07

/-- Reconstruction: every run of ignored tokens is emitted exactly as scanned (each token's
    original leading whitespace and text), contiguously, for **every** assignment of whitespace
    counters of any token, provided the safety-net line break is not inserted inside the run. -/
theorem verbatim_emitted (S : Settings) (pre run post : FT)
    (hi : ∀ t ∈ run, t.fmt.ignored = true) (hs : safeRun (mbAfter false pre) run = true) :
    reconstruct S (pre ++ run ++ post) =
      reconGo S false pre ++ verbatimText run ++ reconGo S (mbAfter (mbAfter false pre) run) post :=
  reconstruct_verbatim_run S pre run post hi hs

/-- No safety net inside a run whose single-line comments are each followed by a token whose
    whitespace contains `\n` (or by the end-of-file token): decidable, evaluated per case; the
    remaining case (comment ended by a lone `\r`) is known finding F4. -/
theorem safeRun_of_breaks (mb : Bool) (run : FT)
    (h0 : mb = false ∨ ∀ t, run.head? = some t → containsByte 0x0A t.tok.ws = true ∨ t.tok.kind = .tEof)
    (h : ∀ a b, [a, b] <:+: run → isSingleLineComment a.tok.kind = true →
        containsByte 0x0A b.tok.ws = true ∨ b.tok.kind = .tEof) :
    safeRun mb run = true := by
  induction run generalizing mb with
  | nil => rfl
  | cons t r ih =>
    rw [safeRun, Bool.and_eq_true, noSafetyNet_iff]
    refine ⟨h0.imp_right (· t rfl), ih _ ?_ fun a b hab => h a b (List.infix_cons hab)⟩
    -- the pair `[t, b]` at the head of the run
    cases hc : isSingleLineComment t.tok.kind with
    | false => exact .inl rfl
    | true =>
      refine .inr fun b hb => h t b ?_ hc
      obtain ⟨r', rfl⟩ : ∃ r', r = b :: r' := by cases r <;> simp_all
      exact (List.prefix_append [t, b] r').isInfix

/-- no rule can change the text or the original whitespace of an ignored token: the only
    content-writing function of the model refuses ignored tokens -/
theorem ignored_content_frozen (t : FTok) (c : Bytes) (h : t.fmt.ignored = true) :
    (t.setContent c).tok = t.tok := by rw [setContent_ignored t c h]

theorem lowercase_keeps_ignored (t : FTok) (h : t.fmt.ignored = true) : lowercaseTok t = t := by
  rw [lowercaseTok_eq]; exact applyRule_ignored _ t h

theorem commentFormat_keeps_ignored (U : Bytes → Bool) (t : FTok) (h : t.fmt.ignored = true) :
    commentFormatTok U t = t := by
  rw [commentFormatTok_eq]; exact applyRule_ignored _ t h

/-- the executable per-case check (part of the `wc` field) implies the wrapper hypothesis of `C07_format` -/
theorem wrapIgnoredB_sound (ft ft' : FT) (h : wrapIgnoredB ft ft' = true) :
    All2 (fun (t t' : FTok) => t'.fmt.ignored = t.fmt.ignored ∧
      (t.fmt.ignored = true → t'.tok.ws = t.tok.ws ∧ t'.tok.content = t.tok.content)) ft ft' := by
  refine all2B_sound (fun t t' h => ?_) h
  simp only [Bool.and_eq_true, Bool.or_eq_true, beq_iff_eq, Bool.not_eq_true'] at h
  refine ⟨h.1, fun hig => ?_⟩
  rcases h.2 with e | e
  · rw [hig] at e; simp at e
  · exact e

/-- **C07 for the whole pipeline**: for every input, every configuration, every parser behaviour and
    every wrapper behaviour that keeps ignored tokens, a run `[a, b)` of tokens that are all marked by
    the ignorers (between `pasfmt off` and `pasfmt on`, or an asm instruction line) is found in the
    output, contiguously, with exactly its scanned whitespace and text — provided the safety-net
    line break does not fire inside the run (`safeRun`, decidable; `safeRun_of_breaks`; the
    exception is known finding F4). -/
theorem C07_format (cfg : Config) (O : Oracles) (hK : WrapKeepsIgnored O) (s : Bytes) (raw : List RawTok)
    (hl : lex s = some raw) (a b : Nat) (hab : a ≤ b) (hb : b ≤ raw.length)
    (hmark : ∀ i, a ≤ i → i < b → (preWrap O raw).1.getD i false = true)
    (hsafe : safeRun (mbAfter false ((O.wrap cfg (preWrap O raw).2.1 (preWrap O raw).2.2).take a))
      (((O.wrap cfg (preWrap O raw).2.1 (preWrap O raw).2.2).take b).drop a) = true) :
    ∃ (out before after : Bytes), format cfg O s = some out ∧
      out = before ++ ((raw.take b).drop a).flatMap (fun r => r.ws ++ r.content) ++ after := by
  obtain ⟨before, after, h⟩ := formatTokens_verbatim cfg O hK raw a b hab hmark hsafe
  exact ⟨_, before, after, format_of_lex hl, h⟩

/-- **C07 for every search of the line wrapper**: with the exact model of the wrapper stage around an arbitrary
    search (`Model/WrapStage.lean`) the hypothesis `WrapKeepsIgnored` is a theorem (`wrapKeepsIgnored_of_solver`):
    applying solutions writes counters only, and the string passes skip ignored tokens. -/
theorem C07_format_any_search (cfg : Config) (O : Oracles) (solve : Nat → Nat → Option Sol) (s : Bytes) (raw : List RawTok)
    (hl : lex s = some raw) (a b : Nat) (hab : a ≤ b) (hb : b ≤ raw.length)
    (hmark : ∀ i, a ≤ i → i < b → (preWrap (O.withSolver solve) raw).1.getD i false = true)
    (hsafe : safeRun (mbAfter false (((O.withSolver solve).wrap cfg (preWrap (O.withSolver solve) raw).2.1 (preWrap (O.withSolver solve) raw).2.2).take a))
      ((((O.withSolver solve).wrap cfg (preWrap (O.withSolver solve) raw).2.1 (preWrap (O.withSolver solve) raw).2.2).take b).drop a) = true) :
    ∃ (out before after : Bytes), format cfg (O.withSolver solve) s = some out ∧
      out = before ++ ((raw.take b).drop a).flatMap (fun r => r.ws ++ r.content) ++ after :=
  C07_format cfg (O.withSolver solve) (wrapKeepsIgnored_of_solver O solve) s raw hl a b hab hb hmark hsafe

/-- **C07 with the closed model's wrapper stage**: the stage with the search inside keeps ignored tokens
    (`wrapKeepsIgnored_full`), so in `format` at `fullOracles alnum po`, for any parser result `po`, a run of marked
    tokens is found in the output, contiguously, with its scanned whitespace and text (same side condition on the safety
    net).  The statement is about the parametrised `format`, not about `formatFull`; at `po` the closed parser's result
    the two agree (`formatFull_eq_format`, Proofs/PipelineTotal.lean). -/
theorem C07_format_full (cfg : Config) (alnum : Bytes → Bool) (po : ParserOut) (s : Bytes) (raw : List RawTok)
    (hl : lex s = some raw) (a b : Nat) (hab : a ≤ b) (hb : b ≤ raw.length)
    (hmark : ∀ i, a ≤ i → i < b → (preWrap (fullOracles alnum po) raw).1.getD i false = true)
    (hsafe : safeRun (mbAfter false (((fullOracles alnum po).wrap cfg (preWrap (fullOracles alnum po) raw).2.1 (preWrap (fullOracles alnum po) raw).2.2).take a))
      ((((fullOracles alnum po).wrap cfg (preWrap (fullOracles alnum po) raw).2.1 (preWrap (fullOracles alnum po) raw).2.2).take b).drop a) = true) :
    ∃ (out before after : Bytes), format cfg (fullOracles alnum po) s = some out ∧
      out = before ++ ((raw.take b).drop a).flatMap (fun r => r.ws ++ r.content) ++ after :=
  C07_format cfg (fullOracles alnum po) (wrapKeepsIgnored_full alnum po) s raw hl a b hab hb hmark hsafe

-- Tests: toggle spellings.
-- '// pasfmt off'
example : parseToggle [47, 47, 32, 112, 97, 115, 102, 109, 116, 32, 111, 102, 102] = some .off := by decide +kernel
-- '{PASFMT ON}'
example : parseToggle [123, 80, 65, 83, 70, 77, 84, 32, 79, 78, 125] = some .on := by decide +kernel
-- '(*  pasfmt  Off *)'
example : parseToggle [40, 42, 32, 32, 112, 97, 115, 102, 109, 116, 32, 32, 79, 102, 102, 32, 42, 41] = some .off := by decide +kernel
-- '// pasfmt offf'
example : parseToggle [47, 47, 32, 112, 97, 115, 102, 109, 116, 32, 111, 102, 102, 102] = none := by decide +kernel
-- '// pasfmtoff'
example : parseToggle [47, 47, 32, 112, 97, 115, 102, 109, 116, 111, 102, 102] = none := by decide +kernel
-- '/ pasfmt off'
example : parseToggle [47, 32, 112, 97, 115, 102, 109, 116, 32, 111, 102, 102] = none := by decide +kernel
-- '{$pasfmt off}'
example : parseToggle [123, 36, 112, 97, 115, 102, 109, 116, 32, 111, 102, 102, 125] = none := by decide +kernel

/-! ## Which tokens are marked: declarative characterisations of the two ignorers

The inductions are in `Proofs/ToggleSpec.lean`; every statement holds for every input.
The `example`s are tests on concrete inputs (byte strings are written out; the text is in the comment above each). -/

/-- **The toggle is recognised in `//`, `{ }` and `(* *)` comments, case-insensitively, only for the exact words.**
    `parseToggle c = some tg` iff `c` is: an opener `//`, `(*` or `{`; any ASCII blanks; `pasfmt` in any letter case;
    at least one ASCII blank; then `on` / `off` in any letter case as the *whole* run of ASCII letters and digits at
    that place (see `IsToggle` for the definition and for what happens at the edges: `///` and `{$` are not accepted,
    `on1`/`ONx`/`offf` are not, `on.`/`on_`/`on)` are). -/
theorem toggle_spec (c : Bytes) (tg : Toggle) : parseToggle c = some tg ↔ IsToggle c tg :=
  Pasfmt.toggle_spec c tg

example : IsToggle [47, 47, 32, 112, 97, 115, 102, 109, 116, 32, 111, 102, 102] /- // pasfmt off -/ .off := (toggle_spec _ _).mp (by decide +kernel)
example : IsToggle [123, 32, 80, 65, 83, 70, 77, 84, 32, 32, 32, 79, 110, 32, 125] /- { PASFMT   On } -/ .on := (toggle_spec _ _).mp (by decide +kernel)
example : IsToggle [40, 42, 112, 97, 115, 102, 109, 116, 32, 111, 102, 102, 42, 41] /- (*pasfmt off*) -/ .off := (toggle_spec _ _).mp (by decide +kernel)
example : ¬ IsToggle [47, 47, 32, 112, 97, 115, 102, 109, 116, 32, 111, 102, 102, 105, 99, 101] /- // pasfmt office -/ .off := fun h => absurd ((toggle_spec _ _).mpr h) (by decide +kernel)
-- the decomposition given by hand: '(*' ++ ' ' ++ 'PasFmt' ++ '\t ' ++ 'oFF' ++ '*)'
example : IsToggle ([40, 42] /- (* -/ ++ [32] /-   -/ ++ [80, 97, 115, 70, 109, 116] /- PasFmt -/ ++ [9, 32] /- \t  -/ ++ [111, 70, 70] /- oFF -/ ++ [42, 41] /- *) -/) .off :=
  ⟨[40, 42] /- (* -/, [32] /-   -/, [80, 97, 115, 70, 109, 116] /- PasFmt -/, [9, 32] /- \t  -/, [111, 70, 70] /- oFF -/, [42, 41] /- *) -/, rfl, by decide, by decide, by decide, by decide,
    by decide, by decide, fun _ _ h => by cases h; rfl, by decide⟩
-- what the model does at the edges (the model is the ground truth; see the doc comment of `IsToggle`)
example : parseToggle [47, 47, 47, 32, 112, 97, 115, 102, 109, 116, 32, 111, 102, 102] /- /// pasfmt off -/ = none := by decide +kernel
example : parseToggle [40, 42, 36, 112, 97, 115, 102, 109, 116, 32, 111, 102, 102, 42, 41] /- (*$pasfmt off*) -/ = none := by decide +kernel
example : parseToggle [123, 36, 112, 97, 115, 102, 109, 116, 32, 111, 102, 102, 125] /- {$pasfmt off} -/ = none := by decide +kernel
example : parseToggle [47, 47, 32, 112, 97, 115, 102, 109, 116, 32, 79, 78, 120] /- // pasfmt ONx -/ = none := by decide +kernel
example : parseToggle [47, 47, 32, 112, 97, 115, 102, 109, 116, 32, 111, 110, 49] /- // pasfmt on1 -/ = none := by decide +kernel
example : parseToggle [47, 47, 32, 112, 97, 115, 102, 109, 116, 32, 111, 110, 46] /- // pasfmt on. -/ = some .on := by decide +kernel
example : parseToggle [47, 47, 32, 112, 97, 115, 102, 109, 116, 32, 111, 110, 95] /- // pasfmt on_ -/ = some .on := by decide +kernel
example : parseToggle [123, 32, 112, 97, 115, 102, 109, 116, 32, 111, 110, 125] /- { pasfmt on} -/ = some .on := by decide +kernel
example : parseToggle [40, 42, 112, 97, 115, 102, 109, 116, 32, 111, 110, 42, 41] /- (*pasfmt on*) -/ = some .on := by decide +kernel
example : parseToggle [47, 47, 32, 112, 97, 115, 102, 109, 116, 32, 111, 110, 195, 169] /- // pasfmt oné -/ = some .on := by decide +kernel
example : parseToggle [47, 47, 32, 112, 97, 115, 102, 109, 116, 11, 111, 110] /- // pasfmt\x0bon -/ = none := by decide +kernel
example : parseToggle [123, 10, 32, 32, 112, 97, 115, 102, 109, 116, 13, 10, 32, 32, 111, 102, 102, 10, 125] /- {\n  pasfmt\r\n  off\n} -/ = some .off := by decide +kernel

/-- **Case-insensitively**: two comments that differ only in the case of ASCII letters (of `pasfmt`, of `on`/`off`,
    or anywhere else) get the same answer. -/
theorem toggle_case_insensitive (c c' : Bytes) (h : asciiLower c' = asciiLower c) : parseToggle c' = parseToggle c :=
  Pasfmt.toggle_case_insensitive c c' h

example : parseToggle [47, 47, 32, 80, 97, 83, 102, 77, 116, 32, 79, 102, 70] /- // PaSfMt OfF -/ = parseToggle [47, 47, 32, 112, 97, 115, 102, 109, 116, 32, 111, 102, 102] /- // pasfmt off -/ :=
  toggle_case_insensitive _ _ (by decide +kernel)

/-- **Only for the exact words**: with opener, blanks, `pasfmt` and the whole blank run `w2` in place, let `word` be the
    whole run of ASCII letters and digits that follows; if it spells neither `on` nor `off` the comment is not a toggle
    (`pasfmt only`, `pasfmt offf`, `pasfmt o`, `pasfmt on1`, …). -/
theorem toggle_exact_words (p w1 kw w2 word rest : Bytes)
    (hp : IsCommentOpener p) (hw1 : AllBytes isAsciiWs w1) (hkw : SpellsIC kw kwPasfmt)
    (hw2 : AllBytes isAsciiWs w2) (hne : w2 ≠ []) (hmax : ∀ b t, word ++ rest = b :: t → isAsciiWs b = false)
    (hword : AllBytes isAlnum word) (hrest : ∀ b t, rest = b :: t → isAlnum b = false)
    (hon : ¬ SpellsIC word (toggleWord .on)) (hoff : ¬ SpellsIC word (toggleWord .off)) :
    parseToggle (p ++ w1 ++ kw ++ w2 ++ word ++ rest) = none :=
  Pasfmt.toggle_exact_words p w1 kw w2 word rest hp hw1 hkw hw2 hne hmax hword hrest hon hoff

/-- the same as an equivalence: such a comment is an `on` (`off`) toggle exactly when `word` spells `on` (`off`) -/
theorem toggle_word_iff (p w1 kw w2 word rest : Bytes) (tg : Toggle)
    (hp : IsCommentOpener p) (hw1 : AllBytes isAsciiWs w1) (hkw : SpellsIC kw kwPasfmt)
    (hw2 : AllBytes isAsciiWs w2) (hne : w2 ≠ []) (hmax : ∀ b t, word ++ rest = b :: t → isAsciiWs b = false)
    (hword : AllBytes isAlnum word) (hrest : ∀ b t, rest = b :: t → isAlnum b = false) :
    parseToggle (p ++ w1 ++ kw ++ w2 ++ word ++ rest) = some tg ↔ SpellsIC word (toggleWord tg) :=
  Pasfmt.toggle_word_iff p w1 kw w2 word rest tg hp hw1 hkw hw2 hne hmax hword hrest

example : parseToggle [47, 47, 32, 112, 97, 115, 102, 109, 116, 32, 111, 110, 108, 121] /- // pasfmt only -/ = none := by decide +kernel
example : parseToggle [47, 47, 32, 112, 97, 115, 102, 109, 116, 32, 111, 102, 102, 102] /- // pasfmt offf -/ = none := by decide +kernel
example : parseToggle [47, 47, 32, 112, 97, 115, 102, 109, 116, 32, 111] /- // pasfmt o -/ = none := by decide +kernel

/-- **In `//`, `{ }` and `(* *)` comments**: the text after each of the three openers is read by the same rule … -/
theorem toggle_three_comment_forms (body : Bytes) :
    parseToggle ([0x2F, 0x2F] ++ body) = parseToggle ([0x7B] ++ body) ∧
    parseToggle ([0x28, 0x2A] ++ body) = parseToggle ([0x7B] ++ body) :=
  Pasfmt.toggle_three_comment_forms body

/-- … and nothing that starts otherwise is a toggle. -/
theorem toggle_only_comment_forms (c : Bytes) (tg : Toggle) (h : parseToggle c = some tg) :
    ∃ p body, IsCommentOpener p ∧ c = p ++ body :=
  parseToggle_only_openers h

example : parseToggle [47, 47, 112, 97, 115, 102, 109, 116, 32, 111, 102, 102] /- //pasfmt off -/ = some .off ∧ parseToggle [123, 112, 97, 115, 102, 109, 116, 32, 111, 102, 102] /- {pasfmt off -/ = some .off ∧
    parseToggle [40, 42, 112, 97, 115, 102, 109, 116, 32, 111, 102, 102] /- (*pasfmt off -/ = some .off ∧ parseToggle [112, 97, 115, 102, 109, 116, 32, 111, 102, 102] /- pasfmt off -/ = none ∧
    parseToggle [39, 112, 97, 115, 102, 109, 116, 32, 111, 102, 102, 39] /- 'pasfmt off' -/ = none := by decide +kernel

/-- **From a `pasfmt off` comment up to and including the next `pasfmt on` comment, or the end of the file.**
    For every token list: position `i` is marked by the toggler iff it holds a token and either that token is itself a
    toggle comment (a comment token whose text `IsToggle`; `on` or `off`), or there is an `off` toggle comment at some
    `j < i` with no toggle comment strictly between `j` and `i`.  So: the `off` comment, everything after it, and the
    closing `on` comment are marked; a lone `on` comment is marked itself and marks nothing after it
    (`toggler_lone_on`); a second `off` inside a region changes nothing (`toggler_off_region`); a region that is not
    closed includes the last token of the file, the end-of-file token (`toggler_region_to_eof`). -/
theorem toggler_regions (toks : List Tok) (i : Nat) :
    (togglerMarks toks)[i]? = some true ↔
      ∃ t, toks[i]? = some t ∧ ((∃ tg, IsToggleTok t tg) ∨
        ∃ j tj, j < i ∧ toks[j]? = some tj ∧ IsToggleTok tj .off ∧
          ∀ k t, j < k → k < i → toks[k]? = some t → ∀ tg, ¬ IsToggleTok t tg) :=
  Pasfmt.toggler_regions toks i

theorem togglerMarks_length (toks : List Tok) : (togglerMarks toks).length = toks.length :=
  Pasfmt.togglerMarks_length toks

/-- from an `off` comment at `j` every token up to `i` is marked if no `on` comment lies strictly between (the `off`
    comment itself: `i = j`; further `off` comments in between do not matter) -/
theorem toggler_off_region (toks : List Tok) (j i : Nat) (tj : Tok) (hj : toks[j]? = some tj)
    (hoff : IsToggleTok tj .off) (hji : j ≤ i) (hi : i < toks.length)
    (hnoon : ∀ k t, j < k → k < i → toks[k]? = some t → ¬ IsToggleTok t .on) :
    (togglerMarks toks)[i]? = some true := by
  rw [togglerMarks_getElem? (List.getElem?_eq_getElem hi), Option.some.injEq, Bool.or_eq_true]
  rcases Nat.eq_or_lt_of_le hji with rfl | hlt
  · rw [List.getElem?_eq_getElem hi] at hj; cases hj
    exact .inl ((isSome_tokToggle _).2 ⟨_, hoff⟩)
  · exact .inr (togState_run (togState_after hj hoff _) i hlt hnoon)

/-- an `off` comment with no `on` comment after it: everything from it to the end is marked, the last token included -/
theorem toggler_region_to_eof (toks : List Tok) (j : Nat) (tj : Tok) (hj : toks[j]? = some tj)
    (hoff : IsToggleTok tj .off) (hnoon : ∀ k t, j < k → toks[k]? = some t → ¬ IsToggleTok t .on) :
    (∀ i, j ≤ i → i < toks.length → (togglerMarks toks)[i]? = some true) ∧
    (togglerMarks toks)[toks.length - 1]? = some true := by
  have h : ∀ i, j ≤ i → i < toks.length → (togglerMarks toks)[i]? = some true := fun i hji hi =>
    toggler_off_region toks j i tj hj hoff hji hi (fun k t hk1 _ ht => hnoon k t hk1 ht)
  refine ⟨h, ?_⟩
  have hjl : j < toks.length := (List.getElem?_eq_some_iff.1 hj).1
  exact h _ (by omega) (by omega)

/-- after an `on` comment at `j`, a token at `i > j` that is not a toggle comment is not marked if no `off` comment
    lies between: code after the region is formatted again -/
theorem toggler_on_region (toks : List Tok) (j i : Nat) (tj ti : Tok) (hj : toks[j]? = some tj)
    (hon : IsToggleTok tj .on) (hji : j < i) (hi : toks[i]? = some ti) (hti : ∀ tg, ¬ IsToggleTok ti tg)
    (hnooff : ∀ k t, j < k → k < i → toks[k]? = some t → ¬ IsToggleTok t .off) :
    (togglerMarks toks)[i]? = some false := by
  rw [togglerMarks_getElem? hi, (tokToggle_none_iff ti).mpr hti,
    togState_run (togState_after hj hon _) i hji hnooff]
  rfl

/-- up to the first toggle comment nothing is marked -/
theorem toggler_before_first (toks : List Tok) (i : Nat) (hi : i < toks.length)
    (hnone : ∀ k t, k ≤ i → toks[k]? = some t → ∀ tg, ¬ IsToggleTok t tg) :
    (togglerMarks toks)[i]? = some false := by
  have ht := List.getElem?_eq_getElem hi
  rw [togglerMarks_getElem? ht, (tokToggle_none_iff _).mpr (hnone i _ (Nat.le_refl _) ht),
    togState_run (j := 0) rfl i (by omega) fun k t _ h2 hk => hnone k t (by omega) hk _]
  rfl

/-- a lone `on` comment (the only toggle comment of the file) is marked itself and marks nothing else -/
theorem toggler_lone_on (toks : List Tok) (j : Nat) (tj : Tok) (hj : toks[j]? = some tj) (hon : IsToggleTok tj .on)
    (honly : ∀ k t, k ≠ j → toks[k]? = some t → ∀ tg, ¬ IsToggleTok t tg) (i : Nat) (hi : i < toks.length) :
    (togglerMarks toks)[i]? = some true ↔ i = j := by
  rcases Nat.lt_trichotomy i j with h | h | h
  · have := toggler_before_first toks i hi (fun k t hk ht => honly k t (by omega) ht)
    rw [this]; simp; omega
  · subst h
    simp only [iff_true]
    rw [toggler_regions]
    exact ⟨tj, hj, Or.inl ⟨.on, hon⟩⟩
  · have := toggler_on_region toks j i tj toks[i] hj hon h (by simp [hi])
      (honly i _ (by omega) (by simp [hi])) (fun k t hk1 _ ht => honly k t (by omega) ht .off)
    rw [this]; simp; omega

/-- test tokens: an identifier, a line comment, a block comment, a directive, the end-of-file token -/
private def tId (s : Bytes) : Tok := { ws := [], content := s, kind := .tIdentifier }
private def tLc (s : Bytes) : Tok := { ws := [], content := s, kind := .tComment .cIndividualLine }
private def tBc (s : Bytes) : Tok := { ws := [], content := s, kind := .tComment .cInlineBlock }
private def tDir (s : Bytes) : Tok := { ws := [], content := s, kind := .tCompilerDirective }
private def tEnd : Tok := { ws := [], content := [], kind := .tEof }

-- a  // pasfmt off  b  { PASFMT   On }  c  <eof>
example : togglerMarks [tId [97] /- a -/, tLc [47, 47, 32, 112, 97, 115, 102, 109, 116, 32, 111, 102, 102] /- // pasfmt off -/, tId [98] /- b -/, tBc [123, 32, 80, 65, 83, 70, 77, 84, 32, 32, 32, 79, 110, 32, 125] /- { PASFMT   On } -/, tId [99] /- c -/, tEnd]
    = [false, true, true, true, false, false] := by decide +kernel
-- a  (*pasfmt off*)  b  <eof>       (the region runs to the end of the file and includes the end-of-file token)
example : togglerMarks [tId [97] /- a -/, tBc [40, 42, 112, 97, 115, 102, 109, 116, 32, 111, 102, 102, 42, 41] /- (*pasfmt off*) -/, tId [98] /- b -/, tEnd] = [false, true, true, true] := by
  decide +kernel
-- a  // pasfmt on  b  <eof>         (a lone `on` is marked itself, nothing else)
example : togglerMarks [tId [97] /- a -/, tLc [47, 47, 32, 112, 97, 115, 102, 109, 116, 32, 111, 110] /- // pasfmt on -/, tId [98] /- b -/, tEnd] = [false, true, false, false] := by
  decide +kernel
-- // pasfmt off  a  // pasfmt off  b  // pasfmt on  c  // pasfmt office  <eof>
example : togglerMarks [tLc [47, 47, 32, 112, 97, 115, 102, 109, 116, 32, 111, 102, 102] /- // pasfmt off -/, tId [97] /- a -/, tLc [47, 47, 32, 112, 97, 115, 102, 109, 116, 32, 111, 102, 102] /- // pasfmt off -/, tId [98] /- b -/, tLc [47, 47, 32, 112, 97, 115, 102, 109, 116, 32, 111, 110] /- // pasfmt on -/,
    tId [99] /- c -/, tLc [47, 47, 32, 112, 97, 115, 102, 109, 116, 32, 111, 102, 102, 105, 99, 101] /- // pasfmt office -/, tEnd] = [true, true, true, true, true, false, false, false] := by decide +kernel
-- a token that is not a comment is never a toggle, whatever its text: {pasfmt off} typed as a directive
example : togglerMarks [tDir [123, 112, 97, 115, 102, 109, 116, 32, 111, 102, 102, 125] /- {pasfmt off} -/, tId [97] /- a -/, tEnd] = [false, false, false] := by decide +kernel

/-- **The instruction lines of `asm ... end` blocks**: the asm ignorer marks exactly the token indices listed in the
    lines that the parser typed `AsmInstruction`. -/
theorem asm_marks_spec (lines : List Line) (i : Nat) :
    i ∈ asmMarked lines ↔ ∃ l ∈ lines, l.ltype = .lAsmInstruction ∧ i ∈ l.tokens :=
  Pasfmt.asm_marks_spec lines i

example : asmMarked [⟨none, 0, [0, 1], .lUnknown⟩, ⟨none, 1, [2, 3, 4], .lAsmInstruction⟩, ⟨none, 0, [5], .lEof⟩] = [2, 3, 4] := by
  decide

/-- **Both ignorers together** (the marks `C07_format` speaks about): there is one mark per token, and position `i` is
    marked iff it holds a token that is a toggle comment, or whose nearest earlier toggle comment is an `off`
    (`AfterOff`), or that belongs to an `AsmInstruction` line. -/
theorem ignoredMarks_spec (toks : List Tok) (lines : List Line) (i : Nat) :
    (ignoredMarks toks lines).length = toks.length ∧
    ((ignoredMarks toks lines)[i]? = some true ↔
      ∃ t, toks[i]? = some t ∧ ((∃ tg, IsToggleTok t tg) ∨ AfterOff toks i ∨
        ∃ l ∈ lines, l.ltype = .lAsmInstruction ∧ i ∈ l.tokens)) :=
  ⟨by simp [ignoredMarks, togglerMarks_length], Pasfmt.ignoredMarks_spec toks lines i⟩

/-- the marks of the pipeline (`(preWrap O raw).1`, the hypothesis `hmark` of `C07_format`) are these marks, for the
    token kinds and lines of the parser -/
theorem preWrap_marks_spec (O : Oracles) (raw : List RawTok) (i : Nat) :
    (preWrap O raw).1.getD i false = true ↔
      ∃ t, (retype raw (O.parser raw).kinds)[i]? = some t ∧ ((∃ tg, IsToggleTok t tg) ∨
        AfterOff (retype raw (O.parser raw).kinds) i ∨
        ∃ l ∈ (O.parser raw).lines, l.ltype = .lAsmInstruction ∧ i ∈ l.tokens) := by
  rw [getD_false_eq_true_iff]
  exact Pasfmt.ignoredMarks_spec _ _ i

-- a  // pasfmt off  b  // pasfmt on  c  d  <eof>, the line of `c d` typed as an asm instruction;
-- an index beyond the tokens is dropped
example : ignoredMarks [tId [97] /- a -/, tLc [47, 47, 32, 112, 97, 115, 102, 109, 116, 32, 111, 102, 102] /- // pasfmt off -/, tId [98] /- b -/, tLc [47, 47, 32, 112, 97, 115, 102, 109, 116, 32, 111, 110] /- // pasfmt on -/, tId [99] /- c -/, tId [100] /- d -/, tEnd]
    [⟨none, 0, [4, 5, 9], .lAsmInstruction⟩] = [false, true, true, true, true, true, false] := by decide +kernel

/-- **Code outside these regions is still formatted** (on the model): a token whose mark is `false` enters the rules
    with `ignored = false`, so nothing protects it — `set_content` is accepted and the spacing, wrapping and
    reconstruction rules treat it as any token (the `ignored` flag is the only thing the later stages look at). -/
theorem unmarked_still_formatted (toks : List Tok) (marks : List Bool) (i : Nat) (ft : FTok)
    (h : (FT.new toks (fun i => marks.getD i false))[i]? = some ft) (hm : marks[i]? = some false) :
    ft.fmt.ignored = false :=
  Pasfmt.unmarked_still_formatted toks marks i ft h hm

/-- in general the flag is the mark, and the token is the scanned token -/
theorem new_ignored_eq_mark (toks : List Tok) (marks : List Bool) (i : Nat) (ft : FTok)
    (h : (FT.new toks (fun i => marks.getD i false))[i]? = some ft) :
    ft.fmt.ignored = marks.getD i false ∧ toks[i]? = some ft.tok :=
  Pasfmt.FT_new_ignored toks marks i ft h

example : (FT.new [tId [97] /- a -/, tLc [47, 47, 32, 112, 97, 115, 102, 109, 116, 32, 111, 102, 102] /- // pasfmt off -/, tId [98] /- b -/] (fun i => [false, true, true].getD i false)).map (·.fmt.ignored)
    = [false, true, true] := by decide +kernel

/-- **The void step**: a line is voided (type `Voided`, token list emptied, so that no line formatter touches it)
    exactly when at least one token of the file is marked and every token of the line is marked (`Voided`) — in
    particular a line without tokens is voided as soon as anything in the file is marked; every other line is passed on
    unchanged, and the number of lines does not change. -/
theorem voidLines_spec (marks : List Bool) (lines : List Line) (n : Nat) (l : Line) (hl : lines[n]? = some l) :
    (voidLines marks lines).length = lines.length ∧
    (Voided marks l → (voidLines marks lines)[n]? = some { l with ltype := .lVoided, tokens := [] }) ∧
    (¬ Voided marks l → (voidLines marks lines)[n]? = some l) :=
  ⟨by rw [voidLines_eq_map, List.length_map], Pasfmt.voidLines_spec marks lines n l hl⟩

example : voidLines [false, true, true, false]
      [⟨none, 0, [0, 1], .lUnknown⟩, ⟨none, 0, [1, 2], .lUnknown⟩, ⟨none, 0, [], .lUnknown⟩, ⟨none, 0, [3], .lEof⟩]
    = [⟨none, 0, [0, 1], .lUnknown⟩, ⟨none, 0, [], .lVoided⟩, ⟨none, 0, [], .lVoided⟩, ⟨none, 0, [3], .lEof⟩] := by decide
example : voidLines [false, false] [⟨none, 0, [], .lUnknown⟩, ⟨none, 0, [0, 1], .lUnknown⟩]
    = [⟨none, 0, [], .lUnknown⟩, ⟨none, 0, [0, 1], .lUnknown⟩] := by decide

end Pasfmt.C07
