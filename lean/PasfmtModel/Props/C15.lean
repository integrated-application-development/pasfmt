/-
  C15 — Cursor tracking keeps cursors on the same text and never alters the result.
  Theorems on the exact cursor model (`Model/Cursor.lean`, checked arithmetic, u16 truncation).
-/
import PasfmtModel.Proofs.ReconOffsets
import PasfmtModel.Proofs.CursorModel
import PasfmtModel.Proofs.CursorBoundary
import PasfmtModel.Model.Pipeline
import PasfmtModel.Proofs.Utf8Pipeline

namespace Pasfmt.C15

/-- "Requesting cursor tracking never changes the formatted text": the model's `format` has no cursor
    argument at all; the cursor functions only read the final token list.  (Tied to the code by the
    with/without-cursors oracle on every case.) -/
theorem cursors_not_read (cfg : Config) (O : Oracles) (s : Bytes) (_cursors : List Nat) :
    format cfg O s = format cfg O s := rfl

/-- `offset_for_token` equals the true offset of the token's text in the output when no safety-net
    newline was inserted (it does not count that newline) -/
theorem offset_for_token_true (S : Settings) (ft : FT) (k : Nat) (t : FTok)
    (hk : ft[k]? = some t) (hsn : noSafetyNetGo false ft = true) :
    ∃ A B, reconstruct S ft = A ++ t.tok.content ++ B ∧ A.length = offsetForToken S ft k :=
  offset_for_token_spec S ft false k t hk hsn

/-- a cursor at offset `o` inside or at the end of a single-line token `k` is reported at
    `start'(k) + min(o, |content'|)`: the same offset inside the same token when its text is
    unchanged (files below 4 GiB) -/
theorem cursor_same_token (S : Settings) (ft : FT) (k o : Nat) (t : FTok)
    (hk : ft[k]? = some t) (ho : o ≤ t.tok.content.length)
    (hsmall : offsetForToken S ft k + t.tok.content.length < 4294967296) :
    relocate S ft { tokIdx := k, pos := .content o } = some (offsetForToken S ft k + o) :=
  relocate_content_same S ft k o t hk ho hsmall

/-- cursors beyond the end of the input are attached to no token … -/
theorem cursor_past_end_attach (raw : List RawTok) (c : Nat) (h : c > (raw.map RawTok.strLen).sum) :
    processCursor raw c = { tokIdx := raw.length, pos := .content 0 } := by
  unfold processCursor
  rw [processCursorGo_none 0 c [] raw h]

/-- … and are reported at the end of the output -/
theorem cursor_past_end (S : Settings) (ft : FT) (last : FTok) (hl : ft.getLast? = some last)
    (hc : last.tok.content = []) (hsn : noSafetyNetGo false ft = true)
    (hsmall : (reconstruct S ft).length < 4294967296) :
    relocate S ft { tokIdx := ft.length, pos := .content 0 } = some (reconstruct S ft).length := by
  rw [relocate_past_end S ft _ (by simp) (fun l h => by rw [hl] at h; cases h; exact hc)]
  unfold reconstruct at hsmall ⊢
  rw [reconGo_length S ft false hsn] at hsmall ⊢
  rw [asU32_of_lt hsmall]

/-- the arithmetic of `relocate_cursors` can underflow: the cursor in the same-line gap before a
    multi-line token (known finding F3) is a concrete witness on the model.
    Token 0 = `foo;` (4 bytes), token 1 = `{a\nb}` with 2 spaces before it, cursor in the gap. -/
theorem cursor_total_fails_F3 :
    relocate { nlStr := [10], indStr := [32, 32], contStr := [32, 32, 32, 32] }
      [ { tok := { ws := [], content := [102, 111, 111, 59], kind := .tOp .oSemicolon },
          fmt := { ignored := false, nl := 0, ind := 0, cont := 0, sp := 0 } },
        { tok := { ws := [32, 32], content := [123, 97, 10, 98, 125], kind := .tComment .cMultilineBlock },
          fmt := { ignored := false, nl := 0, ind := 0, cont := 0, sp := 1 } } ]
      { tokIdx := 1, pos := .whitespace 5 0 } = none := by
  decide +kernel

/-! ## The input side, in-bounds, multi-line tokens

  Sample used by the `example`s: input `foo ;⏎` (tokens `foo`, `;` with one leading space, end-of-file
  with a leading line break), output `foo;⏎`. -/

def exS : Settings := { nlStr := [10], indStr := [32, 32], contStr := [32, 32, 32, 32] }

def exRaw : List RawTok :=
  [ { ws := [], content := [102, 111, 111], kind := .rIdentifier },
    { ws := [32], content := [59], kind := .rOp .oSemicolon },
    { ws := [10], content := [], kind := .rEof } ]

def exFt : FT :=
  [ { tok := { ws := [], content := [102, 111, 111], kind := .tIdentifier },
      fmt := { ignored := false, nl := 0, ind := 0, cont := 0, sp := 0 } },
    { tok := { ws := [32], content := [59], kind := .tOp .oSemicolon },
      fmt := { ignored := false, nl := 0, ind := 0, cont := 0, sp := 0 } },
    { tok := { ws := [10], content := [], kind := .tEof },
      fmt := { ignored := false, nl := 1, ind := 0, cont := 0, sp := 0 } } ]

/-- Input side.  Let `t` be token `k` of the scanned input, not a multi-line comment or multi-line
    string, and let the cursor be `o` bytes into the text of `t` (`o = |text|` means just behind
    it), i.e. at absolute offset (length of tokens `0..k`) + (leading whitespace of `t`) + `o`.
    Then `process_cursors` attaches it to token `k` at content offset `o`.
    Excluded: `o ≥ 2^32` (the `as u32` cast), and the case `o = 0` with no whitespace in front of
    `t` and `k > 0`: that position is also the end of the previous token, and the code attaches the
    cursor to the first token whose range contains it (see `cursor_at_token_start_sticks`). -/
theorem processCursor_in_token (raw : List RawTok) (k : Nat) (t : RawTok) (o : Nat)
    (hk : raw[k]? = some t) (hm : isMultilineRawKind t.kind = false)
    (ho : o ≤ t.content.length) (h32 : o < 4294967296)
    (hfirst : 0 < o ∨ 0 < t.ws.length ∨ k = 0) :
    processCursor raw (((raw.take k).map RawTok.strLen).sum + t.ws.length + o)
      = { tokIdx := k, pos := .content o } :=
  Pasfmt.processCursor_in_token raw k t o hk hm ho h32 hfirst

/-- the cursor behind `;` in `foo ;⏎` (offset 5) is token 1, content offset 1 -/
example : processCursor exRaw 5 = { tokIdx := 1, pos := .content 1 } :=
  processCursor_in_token exRaw 1 { ws := [32], content := [59], kind := .rOp .oSemicolon } 1
    rfl rfl (by decide) (by decide) (by decide)

/-- What the code does in the case excluded above: a cursor exactly at the start of the text of
    token `k+1`, when that token has no leading whitespace, is attached to token `k` (single-line,
    and not an empty token unless `k = 0`) at the end of its text — the cursor "sticks" to the
    previous token.  Excluded: a previous token of 4 GiB or more. -/
theorem cursor_at_token_start_sticks (raw : List RawTok) (k : Nat) (t t' : RawTok)
    (hk : raw[k]? = some t) (hk' : raw[k + 1]? = some t') (hws : t'.ws = [])
    (hm : isMultilineRawKind t.kind = false) (h32 : t.content.length < 4294967296)
    (hfirst : 0 < t.strLen ∨ k = 0) :
    processCursor raw (((raw.take (k + 1)).map RawTok.strLen).sum + t'.ws.length + 0)
      = { tokIdx := k, pos := .content t.content.length } := by
  -- the offset is the one of the end of the text of token `k`
  have hsum : ((raw.take (k + 1)).map RawTok.strLen).sum + t'.ws.length + 0
      = ((raw.take k).map RawTok.strLen).sum + t.ws.length + t.content.length := by
    obtain ⟨hlt, hget⟩ := List.getElem?_eq_some_iff.mp hk
    rw [List.take_succ_eq_append_getElem hlt, hget, hws]
    simp [RawTok.strLen]; omega
  rw [hsum]
  exact processCursor_in_token raw k t t.content.length hk hm (Nat.le_refl _) h32
    (by unfold RawTok.strLen at hfirst; omega)

/-- in `a;` the cursor between `a` and `;` belongs to `a` -/
example : processCursor [ { ws := [], content := [97], kind := .rIdentifier },
                          { ws := [], content := [59], kind := .rOp .oSemicolon } ] 1
    = { tokIdx := 0, pos := .content 1 } :=
  cursor_at_token_start_sticks _ 0 { ws := [], content := [97], kind := .rIdentifier }
    { ws := [], content := [59], kind := .rOp .oSemicolon } rfl rfl rfl rfl (by decide) (by decide)

/-- Third clause of C15, end to end, for single-line tokens.  A cursor `o` bytes into the text of
    input token `k` (same position conditions as `processCursor_in_token`), when token `k` of the
    final token list still has the same text, is reported at `offset_for_token(k) + o`.
    Excluded: multi-line comments/strings (see `cursor_in_unchanged_multiline_token`), the
    sticking case `o = 0`, and outputs in which token `k` ends at or beyond 4 GiB. -/
theorem cursor_in_unchanged_token (S : Settings) (raw : List RawTok) (ft : FT) (k o : Nat)
    (t : RawTok) (t' : FTok)
    (hk : raw[k]? = some t) (hk' : ft[k]? = some t') (hsame : t'.tok.content = t.content)
    (hm : isMultilineRawKind t.kind = false) (ho : o ≤ t.content.length)
    (hfirst : 0 < o ∨ 0 < t.ws.length ∨ k = 0)
    (hsmall : offsetForToken S ft k + t.content.length < 4294967296) :
    trackCursors S raw ft [((raw.take k).map RawTok.strLen).sum + t.ws.length + o]
      = [some (offsetForToken S ft k + o)] :=
  trackCursors_unchanged S raw ft k o t t' hk hk' hsame ho hfirst (fun h => by rw [hm] at h; cases h) hsmall

/-- `foo ;⏎` → `foo;⏎`: the cursor behind `;` moves from 5 to 4 -/
example : trackCursors exS exRaw exFt [5] = [some 4] :=
  cursor_in_unchanged_token exS exRaw exFt 1 1 { ws := [32], content := [59], kind := .rOp .oSemicolon }
    { tok := { ws := [32], content := [59], kind := .tOp .oSemicolon },
      fmt := { ignored := false, nl := 0, ind := 0, cont := 0, sp := 0 } }
    rfl rfl rfl rfl (by decide) (by decide) (by decide)

/-- The same with the true position: when moreover no safety-net newline was inserted, the output
    is `A ++ text ++ B` with the text of token `k` starting at `|A|`, and the cursor is reported at
    `|A| + o`: the same offset inside the same token. -/
theorem cursor_in_unchanged_token_true (S : Settings) (raw : List RawTok) (ft : FT) (k o : Nat)
    (t : RawTok) (t' : FTok)
    (hk : raw[k]? = some t) (hk' : ft[k]? = some t') (hsame : t'.tok.content = t.content)
    (hm : isMultilineRawKind t.kind = false) (ho : o ≤ t.content.length)
    (hfirst : 0 < o ∨ 0 < t.ws.length ∨ k = 0)
    (hsn : noSafetyNetGo false ft = true)
    (hsmall : (reconstruct S ft).length < 4294967296) :
    ∃ A B, reconstruct S ft = A ++ t.content ++ B ∧
      trackCursors S raw ft [((raw.take k).map RawTok.strLen).sum + t.ws.length + o]
        = [some (A.length + o)] :=
  trackCursors_unchanged_true S raw ft k o t t' hk hk' hsame ho hfirst (fun h => by rw [hm] at h; cases h)
    hsn hsmall

example : noSafetyNetGo false exFt = true ∧ (reconstruct exS exFt).length < 4294967296 := by decide

/-- Second clause of C15 ("every reported cursor lies within the output"), strongest version that
    holds on the model: for every internal cursor (all three position forms, any token index) and
    every final token list (with or without safety-net newlines), the reported offset is at most
    the length of the output.  No size bound is needed.  Excluded, because the statement is false
    there:
    * (`heof`) a token index beyond the list when the last token has non-empty text — cannot
      happen in the code, the last token is the empty end-of-file token
      (`cursor_in_bounds_fails_without_eof`);
    * (`hign`) a cursor in the leading whitespace of an *ignored* token whose newline counter
      times the length of the configured line ending exceeds the length of that whitespace, e.g. a
      `{pasfmt off}` region with bare `\n` line breaks formatted with `line_ending = crlf`
      (`cursor_in_bounds_fails_ignored_crlf`, reproduced on the real binary).
    Only the case `relocate = some r` is covered: `none` means an unsigned subtraction underflows
    (`cursor_total_fails_F3`). -/
theorem cursor_in_bounds_partial (S : Settings) (ft : FT) (ic : ICursor) (r : Nat)
    (heof : ic.tokIdx < ft.length ∨ ∀ last, ft.getLast? = some last → last.tok.content = [])
    (hign : ∀ t c n, ft[ic.tokIdx]? = some t → ic.pos = .whitespace c n → t.fmt.ignored = true →
      S.nlStr.length * t.fmt.nl ≤ t.tok.ws.length)
    (h : relocate S ft ic = some r) :
    r ≤ (reconstruct S ft).length := by
  have hoff := offset_le_length S ft false ic.tokIdx
  cases hk : ft[ic.tokIdx]? with
  | some t =>
    rw [hk] at hoff
    exact Nat.le_trans (relocate_le_token_end S ft ic t r hk (fun c n hp => hign t c n hk hp) h) hoff
  | none =>
    rw [hk] at hoff
    rw [relocate_past_end S ft ic hk (heof.resolve_left fun hlt => by simp [List.getElem?_eq_getElem hlt] at hk)] at h
    cases h
    exact Nat.le_trans (asU32_le _) hoff

/-- Corollary without a condition on the cursor: with the one-byte line ending (`\n`), a token
    list ending in a token with empty text, and ignored tokens carrying the newline counter computed
    from their whitespace (`FormattingData::from`, never changed for ignored tokens), *every*
    reported cursor is within the output. -/
theorem cursor_in_bounds_lf (S : Settings) (ft : FT) (ic : ICursor) (r : Nat)
    (hS : S.nlStr.length = 1)
    (heof : ∀ last, ft.getLast? = some last → last.tok.content = [])
    (hfmt : ∀ t ∈ ft, t.fmt.ignored = true → t.fmt.nl = u16sat (countByte 0x0A t.tok.ws))
    (h : relocate S ft ic = some r) :
    r ≤ (reconstruct S ft).length := by
  refine cursor_in_bounds_partial S ft ic r (Or.inr heof) ?_ h
  intro t c n hk _ hi
  have := countByte_le_length 0x0A t.tok.ws
  rw [hS, hfmt t (List.mem_of_getElem? hk) hi]; unfold u16sat; omega

example : exS.nlStr.length = 1 ∧
    (∀ last, exFt.getLast? = some last → last.tok.content = []) ∧
    (∀ t ∈ exFt, t.fmt.ignored = true → t.fmt.nl = u16sat (countByte 0x0A t.tok.ws)) := by
  refine ⟨rfl, ?_, by decide⟩
  intro last h; simp [exFt] at h; subst h; rfl

/-- `cursor_in_bounds_partial` is false without `hign`: input `{}` followed by three bare `\n`,
    everything ignored, `line_ending = crlf`.  The output is the input, 5 bytes long; the cursor at
    input offset 4 (behind the second `\n`) is reported at 6.  (`pasfmt -C line_ending=crlf
    --cursor 14` on `{pasfmt off}\n\n\n` prints `CURSOR=16` for a 15-byte output.) -/
theorem cursor_in_bounds_fails_ignored_crlf :
    let S : Settings := { nlStr := [13, 10], indStr := [32, 32], contStr := [32, 32, 32, 32] }
    let raw : List RawTok :=
      [ { ws := [], content := [123, 125], kind := .rComment .cInlineBlock },
        { ws := [10, 10, 10], content := [], kind := .rEof } ]
    let ft : FT :=
      [ { tok := { ws := [], content := [123, 125], kind := .tComment .cInlineBlock },
          fmt := FmtData.ofWs [] true },
        { tok := { ws := [10, 10, 10], content := [], kind := .tEof },
          fmt := FmtData.ofWs [10, 10, 10] true } ]
    noSafetyNetGo false ft = true ∧ (reconstruct S ft).length = 5 ∧
      trackCursors S raw ft [4] = [some 6] := by
  decide +kernel

/-- `cursor_in_bounds_partial` is false without `heof`: a token index beyond a list whose last
    token has text is reported at (length of the output) + (length of that text).  Not reachable
    from the code, where the last token is the empty end-of-file token. -/
theorem cursor_in_bounds_fails_without_eof :
    let S : Settings := { nlStr := [10], indStr := [32, 32], contStr := [32, 32, 32, 32] }
    let ft : FT :=
      [ { tok := { ws := [], content := [97, 98], kind := .tIdentifier },
          fmt := { ignored := false, nl := 0, ind := 0, cont := 0, sp := 0 } } ]
    noSafetyNetGo false ft = true ∧ (reconstruct S ft).length = 2 ∧
      relocate S ft { tokIdx := 1, pos := .content 0 } = some 4 := by
  decide +kernel

/-- A cursor that was in the whitespace in front of token `idx` is reported inside the new gap in
    front of token `idx`: not behind the start of the token's text, and at most the length of the
    gap before it.  Excluded: ignored tokens violating the `hign` condition above, and outputs in
    which the token starts at or beyond 4 GiB. -/
theorem cursor_whitespace_in_gap (S : Settings) (ft : FT) (idx c n : Nat) (t : FTok) (r : Nat)
    (hk : ft[idx]? = some t)
    (hfit : t.fmt.ignored = true → S.nlStr.length * t.fmt.nl ≤ t.tok.ws.length)
    (hsmall : offsetForToken S ft idx < 4294967296)
    (h : relocate S ft { tokIdx := idx, pos := .whitespace c n } = some r) :
    r ≤ offsetForToken S ft idx ∧ offsetForToken S ft idx ≤ r + wsLen S t := by
  obtain ⟨v, rfl, hle, hge⟩ := relocate_whitespace_pre S ft idx c n t r hk hfit h
  rw [asU32_of_lt (by omega)]
  exact ⟨hle, hge⟩

/-- the cursor in the space of `foo ;⏎` (internal form: column 3, no break behind it) is reported
    at 3 in `foo;⏎`, where the gap in front of `;` is empty -/
example : relocate exS exFt { tokIdx := 1, pos := .whitespace 3 0 } = some 3 := by decide +kernel

/-- Third clause of C15 for multi-line comments and multi-line strings.  A cursor `o` bytes into
    the text of the multi-line input token `k`, when token `k` of the final token list still has
    the same text, is reported at `offset_for_token(k) + o`.
    Excluded: the rest of the cursor's line inside the token is 65536 bytes or longer, or 65536 or
    more line breaks of the token follow the cursor (both are cast to `u16`); the sticking case
    `o = 0` without leading whitespace and `k > 0`; outputs in which the token ends at or beyond
    4 GiB. -/
theorem cursor_in_unchanged_multiline_token (S : Settings) (raw : List RawTok) (ft : FT) (k o : Nat)
    (t : RawTok) (t' : FTok)
    (hk : raw[k]? = some t) (hk' : ft[k]? = some t') (hsame : t'.tok.content = t.content)
    (hm : isMultilineRawKind t.kind = true) (ho : o ≤ t.content.length)
    (hfirst : 0 < o ∨ 0 < t.ws.length ∨ k = 0)
    (hcol : firstLen (t.content.drop o) < 65536) (hnl : countByte 0x0A (t.content.drop o) < 65536)
    (hsmall : offsetForToken S ft k + t.content.length < 4294967296) :
    trackCursors S raw ft [((raw.take k).map RawTok.strLen).sum + t.ws.length + o]
      = [some (offsetForToken S ft k + o)] :=
  trackCursors_unchanged S raw ft k o t t' hk hk' hsame ho hfirst (by rw [hm]; exact fun _ => ⟨hcol, hnl⟩) hsmall

/-- sufficient for `hcol` and `hnl`: the token is shorter than 65536 bytes -/
theorem multiline_small (c : Bytes) (o : Nat) (h : c.length < 65536) :
    firstLen (c.drop o) < 65536 ∧ countByte 0x0A (c.drop o) < 65536 := by
  have h1 : firstLen (c.drop o) ≤ (c.drop o).length := by
    have := lastPiecesLen_drop c o; omega
  have h2 := countByte_le_length 0x0A (c.drop o)
  have h3 : (c.drop o).length ≤ c.length := by simp
  omega

/-- The same with the true position (no safety-net newline inserted): the output is
    `A ++ text ++ B` and the cursor is reported at `|A| + o`. -/
theorem cursor_in_unchanged_multiline_token_true (S : Settings) (raw : List RawTok) (ft : FT)
    (k o : Nat) (t : RawTok) (t' : FTok)
    (hk : raw[k]? = some t) (hk' : ft[k]? = some t') (hsame : t'.tok.content = t.content)
    (hm : isMultilineRawKind t.kind = true) (ho : o ≤ t.content.length)
    (hfirst : 0 < o ∨ 0 < t.ws.length ∨ k = 0)
    (hcol : firstLen (t.content.drop o) < 65536) (hnl : countByte 0x0A (t.content.drop o) < 65536)
    (hsn : noSafetyNetGo false ft = true)
    (hsmall : (reconstruct S ft).length < 4294967296) :
    ∃ A B, reconstruct S ft = A ++ t.content ++ B ∧
      trackCursors S raw ft [((raw.take k).map RawTok.strLen).sum + t.ws.length + o]
        = [some (A.length + o)] :=
  trackCursors_unchanged_true S raw ft k o t t' hk hk' hsame ho hfirst (by rw [hm]; exact fun _ => ⟨hcol, hnl⟩) hsn hsmall

/-- `x {a⏎b}⏎` → `x {a⏎b}⏎`: the cursor behind `a` (offset 4 = 1 + 1 + 2) stays at 4 -/
example :
    trackCursors exS
      [ { ws := [], content := [120], kind := .rIdentifier },
        { ws := [32], content := [123, 97, 10, 98, 125], kind := .rComment .cMultilineBlock },
        { ws := [10], content := [], kind := .rEof } ]
      [ { tok := { ws := [], content := [120], kind := .tIdentifier },
          fmt := { ignored := false, nl := 0, ind := 0, cont := 0, sp := 0 } },
        { tok := { ws := [32], content := [123, 97, 10, 98, 125], kind := .tComment .cMultilineBlock },
          fmt := { ignored := false, nl := 0, ind := 0, cont := 0, sp := 1 } },
        { tok := { ws := [10], content := [], kind := .tEof },
          fmt := { ignored := false, nl := 1, ind := 0, cont := 0, sp := 0 } } ]
      [4] = [some 4] :=
  cursor_in_unchanged_multiline_token exS _ _ 1 2
    { ws := [32], content := [123, 97, 10, 98, 125], kind := .rComment .cMultilineBlock }
    { tok := { ws := [32], content := [123, 97, 10, 98, 125], kind := .tComment .cMultilineBlock },
      fmt := { ignored := false, nl := 0, ind := 0, cont := 0, sp := 1 } }
    rfl rfl rfl rfl (by decide) (by decide) (by decide) (by decide) (by decide)

/-! ## "On a character boundary"

  `isCharBoundary s i` is Rust's `str::is_char_boundary`: `i = 0`, or `i = |s|`, or byte `i` of `s`
  is not a UTF-8 continuation byte (so an offset behind the end of `s` is never a boundary, and
  "on a character boundary" contains "within the output").
  Hypotheses shared by the theorems below:
  * `AsciiSettings S`: the line ending and the two indentation strings are ASCII — true of the
    settings of every configuration (`config_settings_ascii`);
  * `PiecesValid ft`: the text of every token is well-formed UTF-8, and so is the verbatim leading
    whitespace of every ignored token (for scanned tokens: `C13.lex_char_boundaries`; for the final
    token state of the closed model `formatFull` on well-formed input: `formatFull_pieces_valid`
    below);
  * `noSafetyNetGo false ft = true`: no safety-net newline was inserted, as in
    `offset_for_token_true` (without it the statement is false: `cursor_boundary_fails_safety_net`).

  Sample with a non-ASCII character: input `é ;⏎`, output `é;⏎`. -/

def exRawU : List RawTok :=
  [ { ws := [], content := [195, 169], kind := .rIdentifier },
    { ws := [32], content := [59], kind := .rOp .oSemicolon },
    { ws := [10], content := [], kind := .rEof } ]

def exFtU : FT :=
  [ { tok := { ws := [], content := [195, 169], kind := .tIdentifier },
      fmt := { ignored := false, nl := 0, ind := 0, cont := 0, sp := 0 } },
    { tok := { ws := [32], content := [59], kind := .tOp .oSemicolon },
      fmt := { ignored := false, nl := 0, ind := 0, cont := 0, sp := 0 } },
    { tok := { ws := [10], content := [], kind := .tEof },
      fmt := { ignored := false, nl := 1, ind := 0, cont := 0, sp := 0 } } ]

/-- the sample settings are those of the default configuration -/
theorem exS_ascii : AsciiSettings exS := by
  have : exS = Config.default.settings := by decide
  rw [this]; exact config_settings_ascii _

/-- Everything `reconstruct` writes in front of a non-ignored token — line breaks, indentation,
    continuation indentation, spaces, the safety-net line break — is ASCII (every byte below 0x80),
    with the settings of any configuration. -/
theorem gap_is_ascii (cfg : Config) (t : FTok) (mustBreak : Bool) (hi : t.fmt.ignored = false) :
    ∀ b ∈ gapOf cfg.settings t mustBreak, b < 0x80 :=
  gapOf_ascii cfg.settings t mustBreak (config_settings_ascii cfg) hi

/-- Hence, in a well-formed text `A ++ g ++ R` where `g` is ASCII (a gap of a non-ignored token),
    every offset inside `g` or at its end is a character boundary, and so is its start as soon as
    `|A|` is one. -/
theorem gap_offsets_on_boundary (s A g R : Bytes) (hs : s = A ++ g ++ R) (hv : ValidUtf8 s)
    (hg : ∀ b ∈ g, b < 0x80) (hA : isCharBoundary s A.length = true) (j : Nat) (hj : j ≤ g.length) :
    isCharBoundary s (A.length + j) = true := by
  cases j with
  | zero => exact hA
  | succ i =>
    -- byte `A.length + i` is the ASCII byte `g[i]`, and the position behind an ASCII byte is a boundary
    have hlt : i < g.length := by omega
    have hget : s[A.length + i]? = some g[i] := by
      rw [hs, List.append_assoc, List.getElem?_append_right (by omega)]
      have : A.length + i - A.length = i := by omega
      rw [this, List.getElem?_append_left hlt, List.getElem?_eq_getElem hlt]
    exact isCharBoundary_after_ascii s (A.length + i) g[i] hv hget (hg _ (List.getElem_mem hlt))

/-- The output is well-formed UTF-8 when every token text (and the verbatim whitespace of every
    ignored token) is: it is the chain gap, text, gap, text, … of well-formed pieces. -/
theorem output_valid_utf8 (S : Settings) (ft : FT) (hS : AsciiSettings S) (hv : PiecesValid ft) :
    ValidUtf8 (reconstruct S ft) :=
  reconGo_valid S false ft hS hv

/-- The text of every token starts (`o = 0`) and ends (`o = |text|`) on a character boundary of the
    output, and every character boundary `o` of the token's own text is one of the output, at
    `offset_for_token(k) + o`. -/
theorem token_offsets_on_boundary (S : Settings) (ft : FT) (k o : Nat) (t : FTok)
    (hk : ft[k]? = some t) (ho : o ≤ t.tok.content.length)
    (hb : isCharBoundary t.tok.content o = true)
    (hS : AsciiSettings S) (hv : PiecesValid ft) (hsn : noSafetyNetGo false ft = true) :
    isCharBoundary (reconstruct S ft) (offsetForToken S ft k + o) = true :=
  token_offsets_boundary S ft k o t hk ho hb hS hv hsn

/-- A cursor that was in the whitespace in front of a *non-ignored* token (internal form
    `.whitespace col newlinesAfter`, any values) is reported on a character boundary of the output:
    it lands inside or at an end of the new gap in front of that token
    (`cursor_whitespace_in_gap`), and the gap is ASCII.
    Excluded: ignored tokens (false there: `cursor_boundary_fails_ignored_wide_blank`, and out of
    bounds in `cursor_in_bounds_fails_ignored_crlf`), inserted safety-net newlines, outputs in
    which the token starts at or beyond 4 GiB; only `relocate = some r` is covered (`none` =
    arithmetic underflow, `cursor_total_fails_F3`). -/
theorem cursor_in_gap_on_boundary (S : Settings) (ft : FT) (idx c n : Nat) (t : FTok) (r : Nat)
    (hk : ft[idx]? = some t) (hi : t.fmt.ignored = false)
    (hS : AsciiSettings S) (hv : PiecesValid ft) (hsn : noSafetyNetGo false ft = true)
    (hsmall : offsetForToken S ft idx < 4294967296)
    (h : relocate S ft { tokIdx := idx, pos := .whitespace c n } = some r) :
    isCharBoundary (reconstruct S ft) r = true := by
  obtain ⟨h1, h2⟩ := cursor_whitespace_in_gap S ft idx c n t r hk
    (fun h' => by rw [hi] at h'; cases h') hsmall h
  exact gap_offsets_boundary S ft idx t r hk hi hS hv hsn h1 h2

/-- the cursor in the space of `é ;⏎` is reported at 2 in `é;⏎`, a character boundary -/
example : relocate exS exFtU { tokIdx := 1, pos := .whitespace 2 0 } = some 2 ∧
    isCharBoundary (reconstruct exS exFtU) 2 = true := by
  have h : relocate exS exFtU { tokIdx := 1, pos := .whitespace 2 0 } = some 2 := by decide +kernel
  exact ⟨h, cursor_in_gap_on_boundary exS exFtU 1 2 0 _ 2 rfl rfl exS_ascii
    (piecesValid_of_b _ (by decide +kernel)) (by decide) (by decide) h⟩

/-- A cursor attached to token `k` at content offset `o` (`pos = .content o`, single-line token),
    where `o` is a character boundary of the token's *current* text, is reported at
    `offset_for_token(k) + o`, which is a character boundary of the output.
    Excluded: inserted safety-net newlines, outputs in which the token ends at or beyond 4 GiB, and
    offsets that are not a boundary of the current text — which happens when the text of the token
    was changed (`cursor_boundary_fails_changed_comment_F16`). -/
theorem cursor_in_token_on_boundary (S : Settings) (ft : FT) (k o : Nat) (t : FTok)
    (hk : ft[k]? = some t) (ho : o ≤ t.tok.content.length)
    (hb : isCharBoundary t.tok.content o = true)
    (hS : AsciiSettings S) (hv : PiecesValid ft) (hsn : noSafetyNetGo false ft = true)
    (hsmall : offsetForToken S ft k + t.tok.content.length < 4294967296) :
    relocate S ft { tokIdx := k, pos := .content o } = some (offsetForToken S ft k + o) ∧
      isCharBoundary (reconstruct S ft) (offsetForToken S ft k + o) = true :=
  ⟨cursor_same_token S ft k o t hk ho hsmall, token_offsets_boundary S ft k o t hk ho hb hS hv hsn⟩

/-- an input cursor on a character boundary of the input text that is `o` bytes into the text of
    token `k` is on a character boundary of that token's text -/
theorem input_cursor_boundary_in_token (raw : List RawTok) (k o : Nat) (t : RawTok)
    (hk : raw[k]? = some t) (ho : o ≤ t.content.length)
    (hb : isCharBoundary (raw.flatMap (fun t => t.ws ++ t.content))
      (((raw.take k).map RawTok.strLen).sum + t.ws.length + o) = true) :
    isCharBoundary t.content o = true :=
  input_boundary_in_token raw k o t hk ho hb

/-- "On a character boundary", end to end, single-line tokens.  The input is the concatenation of
    the scanned tokens (`C13.lex_lossless`).  A cursor on a character boundary of the input, `o`
    bytes into the text of input token `k`, when token `k` of the final token list still has the
    same text, is reported at `offset_for_token(k) + o`, on a character boundary of the output.
    Excluded (as in `cursor_in_unchanged_token_true`): multi-line comments/strings (next theorem),
    the sticking case `o = 0`, inserted safety-net newlines, outputs of 4 GiB or more. -/
theorem cursor_on_boundary_unchanged_token (S : Settings) (raw : List RawTok) (ft : FT) (k o : Nat)
    (t : RawTok) (t' : FTok)
    (hk : raw[k]? = some t) (hk' : ft[k]? = some t') (hsame : t'.tok.content = t.content)
    (hm : isMultilineRawKind t.kind = false) (ho : o ≤ t.content.length)
    (hfirst : 0 < o ∨ 0 < t.ws.length ∨ k = 0)
    (hS : AsciiSettings S) (hv : PiecesValid ft)
    (hsn : noSafetyNetGo false ft = true)
    (hsmall : (reconstruct S ft).length < 4294967296)
    (hb : isCharBoundary (raw.flatMap (fun t => t.ws ++ t.content))
      (((raw.take k).map RawTok.strLen).sum + t.ws.length + o) = true) :
    trackCursors S raw ft [((raw.take k).map RawTok.strLen).sum + t.ws.length + o]
        = [some (offsetForToken S ft k + o)] ∧
      isCharBoundary (reconstruct S ft) (offsetForToken S ft k + o) = true :=
  trackCursors_unchanged_on_boundary S raw ft k o t t' hk hk' hsame ho hfirst (fun h => by rw [hm] at h; cases h)
    hS hv hsn hsmall hb

/-- `é ;⏎` → `é;⏎`: the cursor behind `é` (offset 2, a character boundary of the input) stays at 2,
    a character boundary of the output -/
example : trackCursors exS exRawU exFtU [2] = [some 2] ∧
    isCharBoundary (reconstruct exS exFtU) 2 = true :=
  cursor_on_boundary_unchanged_token exS exRawU exFtU 0 2
    { ws := [], content := [195, 169], kind := .rIdentifier }
    { tok := { ws := [], content := [195, 169], kind := .tIdentifier },
      fmt := { ignored := false, nl := 0, ind := 0, cont := 0, sp := 0 } }
    rfl rfl rfl rfl (by decide) (by decide) exS_ascii (piecesValid_of_b _ (by decide +kernel))
    (by decide) (by decide) (by decide +kernel)

/-- The same for multi-line comments and multi-line strings (position conditions as in
    `cursor_in_unchanged_multiline_token`). -/
theorem cursor_on_boundary_unchanged_multiline_token (S : Settings) (raw : List RawTok) (ft : FT)
    (k o : Nat) (t : RawTok) (t' : FTok)
    (hk : raw[k]? = some t) (hk' : ft[k]? = some t') (hsame : t'.tok.content = t.content)
    (hm : isMultilineRawKind t.kind = true) (ho : o ≤ t.content.length)
    (hfirst : 0 < o ∨ 0 < t.ws.length ∨ k = 0)
    (hcol : firstLen (t.content.drop o) < 65536) (hnl : countByte 0x0A (t.content.drop o) < 65536)
    (hS : AsciiSettings S) (hv : PiecesValid ft)
    (hsn : noSafetyNetGo false ft = true)
    (hsmall : (reconstruct S ft).length < 4294967296)
    (hb : isCharBoundary (raw.flatMap (fun t => t.ws ++ t.content))
      (((raw.take k).map RawTok.strLen).sum + t.ws.length + o) = true) :
    trackCursors S raw ft [((raw.take k).map RawTok.strLen).sum + t.ws.length + o]
        = [some (offsetForToken S ft k + o)] ∧
      isCharBoundary (reconstruct S ft) (offsetForToken S ft k + o) = true :=
  trackCursors_unchanged_on_boundary S raw ft k o t t' hk hk' hsame ho hfirst (by rw [hm]; exact fun _ => ⟨hcol, hnl⟩)
    hS hv hsn hsmall hb

/-- Cursors beyond the end of the input are reported at the end of the output
    (`cursor_past_end`), which is a character boundary. -/
theorem cursor_past_end_on_boundary (S : Settings) (ft : FT) (last : FTok)
    (hl : ft.getLast? = some last) (hc : last.tok.content = [])
    (hsn : noSafetyNetGo false ft = true) (hsmall : (reconstruct S ft).length < 4294967296) :
    relocate S ft { tokIdx := ft.length, pos := .content 0 } = some (reconstruct S ft).length ∧
      isCharBoundary (reconstruct S ft) (reconstruct S ft).length = true :=
  ⟨cursor_past_end S ft last hl hc hsn hsmall, isCharBoundary_length _⟩

/-- Known finding F16: a cursor in a line comment whose text *changes* can be reported inside a
    multi-byte character.  Input `//é⏎` (well-formed; the comment is `2F 2F C3 A9`), the line
    comment rule inserts a space: output `// é⏎` = `2F 2F 20 C3 A9 0A` (this token list is what
    the closed model `formatFull` computes for this input).  The cursor at input offset 4 (end of
    the comment, a character boundary of the input) is content offset 4 of token 0 and is reported
    at 4, between `C3` and `A9`.  `token_offsets_on_boundary` does not apply: 4 is not a boundary of
    the new text. -/
theorem cursor_boundary_fails_changed_comment_F16 :
    let S : Settings := { nlStr := [10], indStr := [32, 32], contStr := [32, 32, 32, 32] }
    let raw : List RawTok :=
      [ { ws := [], content := [47, 47, 195, 169], kind := .rComment .cIndividualLine },
        { ws := [10], content := [], kind := .rEof } ]
    let ft : FT :=
      [ { tok := { ws := [], content := [47, 47, 32, 195, 169], kind := .tComment .cIndividualLine },
          fmt := { ignored := false, nl := 0, ind := 0, cont := 0, sp := 0 } },
        { tok := { ws := [10], content := [], kind := .tEof },
          fmt := { ignored := false, nl := 1, ind := 0, cont := 0, sp := 0 } } ]
    noSafetyNetGo false ft = true ∧ piecesValidB ft = true ∧
      validUtf8 (raw.flatMap (fun t => t.ws ++ t.content)) = true ∧
      isCharBoundary (raw.flatMap (fun t => t.ws ++ t.content)) 4 = true ∧
      reconstruct S ft = [47, 47, 32, 195, 169, 10] ∧
      trackCursors S raw ft [4] = [some 4] ∧
      isCharBoundary (reconstruct S ft) 4 = false := by
  decide +kernel

/-- The theorems above are false without `noSafetyNetGo` (known finding F19: `offset_for_token`
    does not count the safety-net newline).  Token list `//x`, `é` with no line break requested
    between them: the reconstructor inserts one, the output is `//x⏎é` = `2F 2F 78 0A C3 A9`; the
    cursor behind `é` (content offset 2 of token 1) is reported at 5, between `C3` and `A9`. -/
theorem cursor_boundary_fails_safety_net :
    let S : Settings := { nlStr := [10], indStr := [32, 32], contStr := [32, 32, 32, 32] }
    let ft : FT :=
      [ { tok := { ws := [], content := [47, 47, 120], kind := .tComment .cIndividualLine },
          fmt := { ignored := false, nl := 0, ind := 0, cont := 0, sp := 0 } },
        { tok := { ws := [10], content := [195, 169], kind := .tIdentifier },
          fmt := { ignored := false, nl := 0, ind := 0, cont := 0, sp := 0 } } ]
    noSafetyNetGo false ft = false ∧ piecesValidB ft = true ∧
      reconstruct S ft = [47, 47, 120, 10, 195, 169] ∧
      relocate S ft { tokIdx := 1, pos := .content 2 } = some 5 ∧
      isCharBoundary (reconstruct S ft) 5 = false := by
  decide +kernel

/-- `cursor_in_gap_on_boundary` is false for ignored tokens whose verbatim whitespace is not
    ASCII: the column arithmetic counts bytes.  Input `a  b□□c` with `□` = U+3000 (`E3 80 80`),
    `c` ignored, `a  b` reformatted to `a b`.  The cursor between the two `□` (input offset 7, a
    character boundary) has byte column 7; the output is `a b□□c`, where byte column 7 is inside
    the second `□`. -/
theorem cursor_boundary_fails_ignored_wide_blank :
    let S : Settings := { nlStr := [10], indStr := [32, 32], contStr := [32, 32, 32, 32] }
    let raw : List RawTok :=
      [ { ws := [], content := [97], kind := .rIdentifier },
        { ws := [32, 32], content := [98], kind := .rIdentifier },
        { ws := [227, 128, 128, 227, 128, 128], content := [99], kind := .rIdentifier } ]
    let ft : FT :=
      [ { tok := { ws := [], content := [97], kind := .tIdentifier },
          fmt := { ignored := false, nl := 0, ind := 0, cont := 0, sp := 0 } },
        { tok := { ws := [32, 32], content := [98], kind := .tIdentifier },
          fmt := { ignored := false, nl := 0, ind := 0, cont := 0, sp := 1 } },
        { tok := { ws := [227, 128, 128, 227, 128, 128], content := [99], kind := .tIdentifier },
          fmt := FmtData.ofWs [227, 128, 128, 227, 128, 128] true } ]
    noSafetyNetGo false ft = true ∧ piecesValidB ft = true ∧
      isCharBoundary (raw.flatMap (fun t => t.ws ++ t.content)) 7 = true ∧
      processCursor raw 7 = { tokIdx := 2, pos := .whitespace 7 0 } ∧
      reconstruct S ft = [97, 32, 98, 227, 128, 128, 227, 128, 128, 99] ∧
      trackCursors S raw ft [7] = [some 7] ∧
      isCharBoundary (reconstruct S ft) 7 = false := by
  decide +kernel

/-! ## `PiecesValid` holds for the closed model of the formatter

  The hypothesis `PiecesValid ft` of the theorems on character boundaries is discharged for the final token state
  of `formatFull` (scanner, parser, consolidators, ignorers, token rules, wrapper stage with the search
  inside): well-formed input gives well-formed pieces at every stage; no rule of the model cuts inside a
  multi-byte character. -/

/-- The scanner: well-formed UTF-8 input is cut into tokens whose leading whitespace and text are
    both well-formed UTF-8 (every token boundary is a character boundary, `C13.lex_char_boundaries`). -/
theorem lex_pieces_valid (s : Bytes) (raw : List RawTok) (hv : ValidUtf8 s) (h : lex s = some raw) :
    ∀ t ∈ raw, ValidUtf8 t.ws ∧ ValidUtf8 t.content :=
  Utf8Pipeline.lex_pieces_valid s raw hv h

/-- `LowercaseKeywords`: ASCII lower-casing replaces ASCII letters by ASCII letters and keeps
    every other byte, so the text is well-formed UTF-8 after it exactly when it was before. -/
theorem lowercase_keeps_utf8 (c : Bytes) : validUtf8 (asciiLower c) = validUtf8 c :=
  Utf8Pipeline.asciiLower_valid c

/-- More generally, replacing ASCII bytes by ASCII bytes (texts related by `BSim`: same length, equal
    bytes except where both are below 0x80) never changes whether a text is well-formed UTF-8. -/
theorem ascii_replacement_keeps_utf8 (l l' : Bytes) (h : Utf8Pipeline.BSim l l') :
    validUtf8 l = validUtf8 l' :=
  Utf8Pipeline.validUtf8_bsim h

/-- The line-comment rule of `CommentFormatter` (one space inserted right behind the ASCII
    slashes, ASCII whitespace removed at the end): a well-formed comment stays well-formed, for every
    behaviour of `char::is_alphanumeric`. -/
theorem line_comment_rule_keeps_utf8 (alnum : Bytes → Bool) (c c' : Bytes) (hv : ValidUtf8 c)
    (h : formatLineComment alnum c = some c') : ValidUtf8 c' :=
  Utf8Pipeline.formatLineComment_valid alnum c c' hv h

/-- The compiler-directive rule of `CommentFormatter` (ASCII upper-casing of a span of the
    text): a well-formed directive stays well-formed. -/
theorem directive_rule_keeps_utf8 (c c' : Bytes) (hv : ValidUtf8 c)
    (h : formatCompilerDirective c = some c') : ValidUtf8 c' :=
  Utf8Pipeline.formatCompilerDirective_valid c c' hv h

/-- The token rules together, with `TokenSpacing` and `EofNewline` (which change counters only) and the
    conversion of the scanned tokens: the token state handed to the wrapper stage consists of
    well-formed pieces — text and leading whitespace of every token — for every parser result. -/
theorem pre_wrap_pieces_valid (O : Oracles) (raw : List RawTok)
    (h : ∀ t ∈ raw, ValidUtf8 t.ws ∧ ValidUtf8 t.content) :
    ∀ t ∈ (preWrap O raw).2.2, ValidUtf8 t.tok.content ∧ ValidUtf8 t.tok.ws :=
  Utf8Pipeline.preWrap_valid O raw h

/-- The prefix of blanks that `count_leading_whitespace` measures (bytes up to 0x20 and whole
    U+3000 = `E3 80 80`) is always well-formed UTF-8, whatever the text is: a partial `E3 80` is not
    counted as a blank.  This prefix of the last line is what the string re-indenter strips from
    every line of a multi-line literal. -/
theorem leading_blank_run_is_whole_characters (l : Bytes) : ValidUtf8 (l.take (countLeadingWs l)) :=
  Utf8Pipeline.leadingWs_valid l

/-- a space followed by a partial U+3000 (`E3 80`, then `A`): only the space is counted -/
example : countLeadingWs [0x20, 0xE3, 0x80, 0x41] = 1 := by decide

/-- The string re-indenter: when `try_rewrite_string` replaces the text of a multi-line
    literal, well-formed text stays well-formed (settings with ASCII line ending and indentation:
    `config_settings_ascii`).  It cuts the literal behind CR / LF, removes from each line a prefix equal to the
    (well-formed) blank run of the last line, or the whole line, and writes ASCII in front. -/
theorem mls_rewrite_keeps_utf8 (S : Settings) (hS : AsciiSettings S) (c : Bytes) (ind cont : Nat) (c' : Bytes)
    (hv : ValidUtf8 c) (h : mlsRewrite S c ind cont = some c') : ValidUtf8 c' :=
  Utf8Pipeline.mlsRewrite_valid S hS c ind cont c' hv h

/-- The wrapper stage with the search inside (`OptimisingLineFormatter::format`): whatever
    solutions the search returns, a token state of well-formed pieces is turned into one (solutions
    change counters only, the two string passes change text only through the re-indenter and may
    empty the leading whitespace). -/
theorem wrap_stage_keeps_pieces_valid (cfg : Config) (lines : List Line) (ft ftz : FT)
    (sols : List (Nat × Nat × Sol))
    (h : ∀ t ∈ ft, ValidUtf8 t.tok.content ∧ ValidUtf8 t.tok.ws)
    (h1 : wrapStageFull cfg lines ft = some (ftz, sols)) :
    ∀ t ∈ ftz, ValidUtf8 t.tok.content ∧ ValidUtf8 t.tok.ws :=
  Utf8Pipeline.wrapStageFull_valid cfg lines ft ftz sols h h1

/-- **For well-formed UTF-8 input, whenever the closed model of the whole formatter
    answers, its output is the reconstruction of a token state satisfying `PiecesValid`** (every token
    text, and the verbatim whitespace of every ignored token, is well-formed UTF-8), for every
    configuration and every behaviour of `char::is_alphanumeric`. -/
theorem formatFull_pieces_valid (cfg : Config) (alnum : Bytes → Bool) (s out : Bytes) (hv : ValidUtf8 s)
    (h : formatFull cfg alnum s = some out) :
    ∃ ftz, out = reconstruct cfg.settings ftz ∧ PiecesValid ftz :=
  Utf8Pipeline.formatFull_pieces_valid cfg alnum s out hv h

/-- The same naming the state: `formatFullState` returns the scanned tokens and the final token
    state of the closed model (the two arguments of `trackCursors`); `formatFull` is the
    reconstruction of that state (`Utf8Pipeline.formatFullState_eq_some` beside `formatFull_eq_some`).  For well-formed input the
    scanned tokens spell the input (`C13.lex_lossless`) and the state satisfies both hypotheses
    `AsciiSettings` and `PiecesValid` of the theorems on character boundaries. -/
theorem formatFull_state_pieces_valid (cfg : Config) (alnum : Bytes → Bool) (s : Bytes)
    (raw : List RawTok) (ftz : FT) (hv : ValidUtf8 s)
    (h : Utf8Pipeline.formatFullState cfg alnum s = some (raw, ftz)) :
    raw.flatMap (fun t => t.ws ++ t.content) = s ∧ formatFull cfg alnum s = some (reconstruct cfg.settings ftz) ∧
      AsciiSettings cfg.settings ∧ PiecesValid ftz := by
  obtain ⟨p, sols, hp, hw, rfl⟩ := Utf8Pipeline.formatFullState_eq_some.1 h
  obtain ⟨hl, hvp⟩ := Utf8Pipeline.preStage_valid hv hp
  exact ⟨lex_lossless_with false s _ hl, formatFull_eq_some.2 ⟨p, ftz, sols, hp, hw, rfl⟩, config_settings_ascii cfg,
    (Utf8Pipeline.wrapStageFull_valid cfg _ _ ftz sols hvp hw).piecesValid⟩

/-- every answer of `formatFull` comes from such a state -/
theorem formatFull_has_state (cfg : Config) (alnum : Bytes → Bool) (s out : Bytes)
    (h : formatFull cfg alnum s = some out) :
    ∃ raw ftz, Utf8Pipeline.formatFullState cfg alnum s = some (raw, ftz) ∧
      out = reconstruct cfg.settings ftz := by
  obtain ⟨p, ftz, sols, hp, hw, rfl⟩ := formatFull_eq_some.1 h
  exact ⟨p.raw, ftz, Utf8Pipeline.formatFullState_eq_some.2 ⟨p, sols, hp, hw, rfl⟩, rfl⟩

/-- `cursor_in_gap_on_boundary` for the closed model, without hypotheses on the pieces: for
    well-formed input, a cursor that was in the whitespace in front of a non-ignored token of the
    final state is reported on a character boundary of the formatter's output.
    Excluded as before: ignored tokens, inserted safety-net newlines, tokens starting at or beyond
    4 GiB, arithmetic underflow (`relocate = none`). -/
theorem formatFull_cursor_in_gap_on_boundary (cfg : Config) (alnum : Bytes → Bool) (s : Bytes)
    (raw : List RawTok) (ftz : FT) (hv : ValidUtf8 s)
    (h : Utf8Pipeline.formatFullState cfg alnum s = some (raw, ftz))
    (idx c n : Nat) (t : FTok) (r : Nat)
    (hk : ftz[idx]? = some t) (hi : t.fmt.ignored = false)
    (hsn : noSafetyNetGo false ftz = true)
    (hsmall : offsetForToken cfg.settings ftz idx < 4294967296)
    (hr : relocate cfg.settings ftz { tokIdx := idx, pos := .whitespace c n } = some r) :
    ∃ out, formatFull cfg alnum s = some out ∧ isCharBoundary out r = true := by
  obtain ⟨_, h2, hS, hp⟩ := formatFull_state_pieces_valid cfg alnum s raw ftz hv h
  exact ⟨_, h2, cursor_in_gap_on_boundary cfg.settings ftz idx c n t r hk hi hS hp hsn hsmall hr⟩

/-- `cursor_on_boundary_unchanged_token` for the closed model, without hypotheses on the pieces:
    for well-formed input, a cursor on a character boundary of the input, `o` bytes into the text of
    the single-line input token `k`, when token `k` of the final state still has the same text, is
    reported at `offset_for_token(k) + o`, on a character boundary of the formatter's output.
    Excluded as before: the sticking case `o = 0`, inserted safety-net newlines, outputs of 4 GiB or
    more; multi-line comments and strings: `formatFull_cursor_on_boundary_unchanged_multiline_token`. -/
theorem formatFull_cursor_on_boundary_unchanged_token (cfg : Config) (alnum : Bytes → Bool) (s : Bytes)
    (raw : List RawTok) (ftz : FT) (hv : ValidUtf8 s)
    (h : Utf8Pipeline.formatFullState cfg alnum s = some (raw, ftz))
    (k o : Nat) (t : RawTok) (t' : FTok)
    (hk : raw[k]? = some t) (hk' : ftz[k]? = some t') (hsame : t'.tok.content = t.content)
    (hm : isMultilineRawKind t.kind = false) (ho : o ≤ t.content.length)
    (hfirst : 0 < o ∨ 0 < t.ws.length ∨ k = 0)
    (hsn : noSafetyNetGo false ftz = true)
    (hsmall : (reconstruct cfg.settings ftz).length < 4294967296)
    (hb : isCharBoundary s (((raw.take k).map RawTok.strLen).sum + t.ws.length + o) = true) :
    ∃ out, formatFull cfg alnum s = some out ∧
      trackCursors cfg.settings raw ftz [((raw.take k).map RawTok.strLen).sum + t.ws.length + o]
        = [some (offsetForToken cfg.settings ftz k + o)] ∧
      isCharBoundary out (offsetForToken cfg.settings ftz k + o) = true := by
  obtain ⟨hloss, h2, hS, hp⟩ := formatFull_state_pieces_valid cfg alnum s raw ftz hv h
  rw [← hloss] at hb
  exact ⟨_, h2, cursor_on_boundary_unchanged_token cfg.settings raw ftz k o t t' hk hk' hsame hm ho hfirst
    hS hp hsn hsmall hb⟩

/-- The same for multi-line comments and multi-line strings (position conditions as in
    `cursor_in_unchanged_multiline_token`). -/
theorem formatFull_cursor_on_boundary_unchanged_multiline_token (cfg : Config) (alnum : Bytes → Bool)
    (s : Bytes) (raw : List RawTok) (ftz : FT) (hv : ValidUtf8 s)
    (h : Utf8Pipeline.formatFullState cfg alnum s = some (raw, ftz))
    (k o : Nat) (t : RawTok) (t' : FTok)
    (hk : raw[k]? = some t) (hk' : ftz[k]? = some t') (hsame : t'.tok.content = t.content)
    (hm : isMultilineRawKind t.kind = true) (ho : o ≤ t.content.length)
    (hfirst : 0 < o ∨ 0 < t.ws.length ∨ k = 0)
    (hcol : firstLen (t.content.drop o) < 65536) (hnl : countByte 0x0A (t.content.drop o) < 65536)
    (hsn : noSafetyNetGo false ftz = true)
    (hsmall : (reconstruct cfg.settings ftz).length < 4294967296)
    (hb : isCharBoundary s (((raw.take k).map RawTok.strLen).sum + t.ws.length + o) = true) :
    ∃ out, formatFull cfg alnum s = some out ∧
      trackCursors cfg.settings raw ftz [((raw.take k).map RawTok.strLen).sum + t.ws.length + o]
        = [some (offsetForToken cfg.settings ftz k + o)] ∧
      isCharBoundary out (offsetForToken cfg.settings ftz k + o) = true := by
  obtain ⟨hloss, h2, hS, hp⟩ := formatFull_state_pieces_valid cfg alnum s raw ftz hv h
  rw [← hloss] at hb
  exact ⟨_, h2, cursor_on_boundary_unchanged_multiline_token cfg.settings raw ftz k o t t' hk hk' hsame hm ho
    hfirst hcol hnl hS hp hsn hsmall hb⟩

end Pasfmt.C15
