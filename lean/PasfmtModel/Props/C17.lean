/-
  C17 — Files are written back in the encoding and with the BOM they were read in.
-/
import PasfmtModel.Proofs.IOProofs

namespace Pasfmt.C17
open Pasfmt.IO

/-- BOM sniffing: EF BB BF / FF FE / FE FF (in that order of precedence) -/
theorem bom_sniff_spec (rest : Bytes) :
    sniffBom (0xEF :: 0xBB :: 0xBF :: rest) = some (.utf8, 3) ∧
    sniffBom (0xFF :: 0xFE :: rest) = some (.utf16le, 2) ∧
    sniffBom (0xFE :: 0xFF :: rest) = some (.utf16be, 2) := ⟨rfl, rfl, rfl⟩

theorem bom_overrides_config {T : Type} (C : Codec T) (e1 e2 : Enc) (bs : Bytes) (h : (sniffBom bs).isSome = true) :
    (decodeFile C e1 bs).map (·.enc) = (decodeFile C e2 bs).map (·.enc) ∧
    (decodeFile C e1 bs).map (·.bom) = (decodeFile C e2 bs).map (·.bom) :=
  IO.bom_overrides_config C e1 e2 bs h

/-- the hand-written UTF-16 encoders round-trip every text (surrogate pairs included), both byte orders -/
theorem utf16_roundtrip (be : Bool) (s : List Nat) (hs : ∀ c ∈ s, isScalar c = true) :
    decode16 be (encode16 be s) = some s := IO.utf16_roundtrip be s hs

/-- bytes written = BOM ++ encode(selected encoding, formatted text), the BOM being the one read -/
theorem written_bytes_spec {T : Type} (C : Codec T) (cfgEnc : Enc) (content : Bytes) (d : Decoded T) (out : T) (bs : Bytes)
    (hd : decodeFile C cfgEnc content = some d) (hw : writeBytes C d out = some bs) :
    ∃ e, C.enc d.enc out = some e ∧ bs = d.bom ++ e ∧
      d.bom = content.take (match sniffBom content with | some (_, n) => n | none => 0) := by
  unfold writeBytes at hw
  obtain ⟨e, he, rfl⟩ := Option.map_eq_some_iff.1 hw
  refine ⟨e, he, rfl, ?_⟩
  unfold decodeFile at hd
  cases hs : sniffBom content with
  | none =>
    rw [hs] at hd; simp only at hd
    split at hd
    · simp at hd; rw [← hd]; simp
    · simp at hd
  | some p =>
    obtain ⟨en, n⟩ := p
    rw [hs] at hd; simp only at hd
    split at hd
    · simp at hd; rw [← hd]
    · simp at hd

/-- malformed input is rejected and never rewritten, in every mode -/
theorem malformed_never_written {T : Type} [DecidableEq T] (C : Codec T) (fmt : T → T) (u8 : T → Bytes)
    (cfgEnc : Enc) (mode : Mode) (hdr content : Bytes) (h : decodeFile C cfgEnc content = none) :
    (runFile C fmt u8 cfgEnc mode hdr content).file = content ∧
    (runFile C fmt u8 cfgEnc mode hdr content).failed = true := by
  rw [IO.undecodable_untouched C fmt u8 cfgEnc mode hdr content h]; exact ⟨rfl, rfl⟩

-- Non-vacuity / test: U+1F600 encodes to the surrogate pair D83D DE00 in both byte orders.
example : encode16 false [0x1F600] = [0x3D, 0xD8, 0x00, 0xDE] := by decide
example : encode16 true [0x41, 0x1F600] = [0x00, 0x41, 0xD8, 0x3D, 0xDE, 0x00] := by decide

end Pasfmt.C17
