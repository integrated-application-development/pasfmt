/-
  C01 — Formatting preserves every non-blank character, in order (ignoring ASCII letter case).
-/
import PasfmtModel.Proofs.PipelineC01
import PasfmtModel.Model.Contracts
import PasfmtModel.Proofs.LexBoundaries
import PasfmtModel.Proofs.MlsSim
import PasfmtModel.Proofs.WrapStageProps
import PasfmtModel.Proofs.Utf8Pipeline
import PasfmtModel.Proofs.PipelineTotal

namespace Pasfmt.C01

/-
  `C01_format` below is the full statement; `C01_format_partial` is the same statement with
  `ValidUtf8 s` replaced by its consequence "no token content has a dangling E3 byte" (`hnd`), which
  also covers byte strings that are not UTF-8.
-/
theorem C01_format_partial (cfg : Config) (O : Oracles) (s out : Bytes)
    (h : format cfg O s = some out)
    (hW : WrapFrame O)
    (hnd : ∀ toks, lex s = some toks → ∀ t ∈ toks, nd t.content = true) :
    foldStrip out = foldStrip s := by
  obtain ⟨toks, hl⟩ := lex_total s
  cases (format_of_lex hl).symm.trans h
  rw [formatTokens_foldStrip cfg O toks hW fun r hr => ⟨lex_ws_gap s toks hl r hr, hnd toks hl r hr⟩,
    lex_lossless_with false s toks hl]

/-- **C01.**  For every well-formed UTF-8 input, every configuration, every parser behaviour and every
    wrapper behaviour that satisfies the frame contract, the formatter returns an output (the
    scanner never fails) and the output has the same non-blank characters in the same order as the
    input, up to ASCII letter case. -/
theorem C01_format (cfg : Config) (O : Oracles) (s : Bytes) (hv : ValidUtf8 s) (hW : WrapFrame O) :
    ∃ out, format cfg O s = some out ∧ foldStrip out = foldStrip s := by
  obtain ⟨toks, hl⟩ := lex_total s
  exact ⟨_, format_of_lex hl, C01_format_partial cfg O s _ (format_of_lex hl) hW fun toks' hl' t ht =>
    valid_nd _ (lexWith_char_boundaries false s toks' hv hl' t ht).2⟩

/-- **C01 under the exact wrapper contract.**  `WrapExact` is what the correspondence compares on every
    case (`wc`): leading whitespace kept or dropped, kinds and ignored flags kept, contents changed
    exactly as the model of the string re-indenter does with the final counters.  The frame used by
    `C01_format` is a consequence (`mlsRewrite_sim`: the re-indenter only changes blanks). -/
theorem C01_format_exact (cfg : Config) (O : Oracles) (s : Bytes) (hv : ValidUtf8 s) (hW : WrapExact O) :
    ∃ out, format cfg O s = some out ∧ foldStrip out = foldStrip s :=
  C01_format cfg O s hv hW.frame

/-- **C01 for every search of the line wrapper.**  The wrapper stage is the exact model of
    `OptimisingLineFormatter::format` around an arbitrary search (`Model/WrapStage.lean`: applying solutions, the
    string passes, which lines are re-wrapped, the removal of spaces at line starts; compared with the real stage on
    every case, fields `wp`, `wcn`).  Whatever solutions the search returns, for every parser behaviour: the output
    has the input's non-blank characters, in order, up to ASCII case.  No wrapper contract is assumed. -/
theorem C01_format_any_search (cfg : Config) (O : Oracles) (solve : Nat → Nat → Option Sol) (s : Bytes) (hv : ValidUtf8 s) :
    ∃ out, format cfg (O.withSolver solve) s = some out ∧ foldStrip out = foldStrip s :=
  C01_format cfg (O.withSolver solve) s hv (wrapFrame_of_solver O solve)

/-- **C01 for the closed model of the whole formatter** (`formatFull`: scanner, parser with its control flow,
    consolidators, ignorers, token rules, the wrapper stage with the search inside, reconstructor - no component is a
    parameter except `char::is_alphanumeric` on non-ASCII characters; compared byte for byte with
    `make_formatter().format()` on every case of the `full` stream).  Whenever the model answers, its output has the
    input's non-blank characters, in order, up to ASCII case. -/
theorem C01_format_full (cfg : Config) (alnum : Bytes → Bool) (s : Bytes) (hv : ValidUtf8 s) (out : Bytes)
    (h : formatFull cfg alnum s = some out) : foldStrip out = foldStrip s := by
  obtain ⟨po, hf⟩ := formatFull_format h
  obtain ⟨_, ho, hfold⟩ := C01_format cfg (fullOracles alnum po) s hv (wrapFrame_full alnum po)
  cases ho.symm.trans hf
  exact hfold

/-- the reconstructor emits every token's content exactly once, in order, separated by blank-only
    gaps — for **every** assignment of whitespace counters and every ignored-set -/
theorem reconstruct_contents_in_order (cfg : Config) (ft : FT)
    (h : ∀ t ∈ ft, Gap t.tok.ws ∧ nd t.tok.content = true) :
    stripBlank (reconstruct cfg.settings ft) = ft.flatMap (fun t => stripBlank t.tok.content) :=
  reconGo_strip _ (settings_gap cfg) ft false h

/-! each content rule only changes blanks / ASCII letter case (on text without dangling `E3`) -/

theorem lowercase_fold (c : Bytes) : Sim c (asciiLower c) := sim_lower c
theorem directive_fold (c c' : Bytes) (h : formatCompilerDirective c = some c') :
    asciiLower c' = asciiLower c ∧ Sim c c' :=
  ⟨formatCompilerDirective_caseEq h, sim_formatCompilerDirective c c' h⟩
theorem line_comment_blank_only (U : Bytes → Bool) (c c' : Bytes) (h : formatLineComment U c = some c') :
    Sim c c' := sim_formatLineComment U c c' h

/-- the executable frame check used by the correspondence implies the hypothesis `WrapFrame` -/
theorem wrapFrameB_sound (ft ft' : FT) (h : wrapFrameB ft ft' = true) : All2 WrapRel ft ft' := by
  refine all2B_sound (fun t t' h1 => ?_) h
  unfold wrapRelB at h1
  simp only [Bool.and_eq_true, Bool.or_eq_true, beq_iff_eq, Bool.not_eq_true'] at h1
  refine ⟨Gap.kept_or_dropped h1.1, fun hn => ?_⟩
  rcases h1.2 with e | e
  · rw [e]; exact ⟨hn, rfl⟩
  · simpa [hn] using e

-- Non-vacuity: the identity wrapper satisfies `WrapFrame`.
example : WrapFrame { parser := fun raw => { kinds := raw.map (·.kind.toTokenType), lines := [] },
                      wrap := fun _ _ ft => ft, alnum := fun _ => false } := by
  intro cfg lines ft
  induction ft with
  | nil => exact .nil
  | cons t r ih => exact .cons ⟨id, Sim.refl _⟩ ih

/-- **C01, second clause: where case may change.**  For every parser behaviour, every token that
    reaches the wrapper stage relates to the scanned token it came from in one of three ways: its
    content differs in blanks only (exactly — not up to case; this is what the line-comment rule
    does, and "no change" is a special case); or the parser typed it as a keyword and it is that text
    lower-cased; or it is a compiler directive `{$name…}` / `(*$name…*)` whose name — the run of letters,
    digits, `_`, `+`, `-`, `,` directly after the `$` — is upper-cased while the opener and everything
    after the name are kept byte for byte.  (The wrapper stage itself changes contents of multi-line
    strings only, as the re-indenter does: contract `wrapContentB`, evaluated per case.) -/
theorem case_changes_confined (O : Oracles) (raw : List RawTok) :
    All2 (fun (r : RawTok) (t : FTok) => CaseRel t.tok.kind r.content t.tok.content) raw (preWrap O raw).2.2 :=
  preWrap_all2 O raw fun _ r t _ p => by
    rcases p.content_cases with e | ⟨_, e⟩
    · rw [e]; exact .blanks (SimX.refl _)
    rcases textRule_cases e with ⟨hk, _, e'⟩ | ⟨_, h⟩ | ⟨_, h⟩
    · exact .keyword (isKeywordKind_iff.2 hk) e'
    · obtain ⟨pre, name, rest, h1, h2, h3, h4⟩ := formatCompilerDirective_shape _ _ h
      exact .directive pre name rest h1 h2 h3 h4
    · exact .blanks (simx_formatLineComment _ _ _ h)

/-- the directive clause is met by `{$ifdef foo}`: the name `ifdef` is upper-cased, ` foo}` is kept -/
example : formatCompilerDirective "{$ifdef foo}".toUTF8.toList = some "{$IFDEF foo}".toUTF8.toList := by
  decide +kernel

/-- **The output of the closed model of the whole formatter is well-formed UTF-8 whenever the input is**, for
    every configuration and every behaviour of `char::is_alphanumeric`: the scanner cuts at character boundaries,
    every token rule and the string re-indenter keep each piece well-formed (`C15.formatFull_pieces_valid`), and the
    reconstructor joins the pieces with ASCII gaps (`C15.output_valid_utf8`).  So C01's "same non-blank characters"
    is a statement about characters of the output, not only about its bytes. -/
theorem formatFull_output_valid_utf8 (cfg : Config) (alnum : Bytes → Bool) (s out : Bytes) (hv : ValidUtf8 s)
    (h : formatFull cfg alnum s = some out) : ValidUtf8 out :=
  Utf8Pipeline.formatFull_output_valid_utf8 cfg alnum s out hv h

end Pasfmt.C01
