/-
  C14 — Parsing yields well-formed logical lines that cover every token.

  First the line builder under an arbitrary control flow: which primitive is called when is a universally
  quantified operation trace; the primitives themselves, the conditional-directive passes, the consolidation
  of passes and the directive lines are exact models (`Model/Parser.lean`), replayed against the real parser's
  hook trace on every case.  Then the lines after the three post-parse consolidators.  Then the parser's own
  control flow (`Model/ParserFull.lean`): its traces are among the arbitrary ones, so the clauses of C14 hold
  for every input on which the model answers, with no hypothesis on control flow.
-/
import PasfmtModel.Proofs.Machine
import PasfmtModel.Proofs.Tree
import PasfmtModel.Proofs.TreeSorted
import PasfmtModel.Proofs.PassCover
import PasfmtModel.Proofs.ConsolidatorsCdc
import PasfmtModel.Proofs.ConsolidatorsGen
import PasfmtModel.Proofs.ParserFullSound
import PasfmtModel.Proofs.ParserParentsMutual

namespace Pasfmt.C14

/-- For **every** operation trace the machine accepts (i.e. for every control flow), in every state:
    each line lists tokens of the consumed pass prefix in strictly increasing order, and no token
    occurs in two lines (or twice in one) of the same pass. -/
theorem machine_lines_wellformed (kinds : List RawKind) (pass : List Nat) (hs : pass.Pairwise (· < ·))
    (ops : List POp) (s : MState) (h : MState.init.run kinds pass ops = some s) :
    (∀ l ∈ s.lines, l.tokens.Pairwise (· < ·)) ∧
    (∀ l ∈ s.lines, ∀ t ∈ l.tokens, t ∈ pass) ∧
    (s.lines.flatMap (·.tokens)).Nodup := by
  exact ((reach_run h).tinv hs).lines

/-- For every accepted trace that consumes the whole pass, every token of the pass is in some line
    or was explicitly skipped by `skip_token`: no code is dropped by the line builder. -/
theorem machine_covers_pass (kinds : List RawKind) (pass : List Nat) (ops : List POp) (s : MState)
    (h : MState.init.run kinds pass ops = some s) (hdone : pass.length ≤ s.passIdx) :
    ∀ j tok, pass[j]? = some tok →
      (∃ l ∈ s.lines, tok ∈ l.tokens) ∨ j ∈ skippedRun kinds pass MState.init ops := by
  have hc := (reach_run h).cover
  intro j tok hj
  have hjl := (List.getElem?_eq_some_iff.1 hj).1
  exact (hc j tok (by omega) hj).imp_left mem_flatten_toksOf.1

/-- every conditional directive, and every compiler directive no pass attributed to a line,
    gets its own directive line -/
theorem directive_lines_cover (attributed : List Nat) (level : Nat) (toks : List (RawKind × Nat))
    (k : RawKind) (idx : Nat) (hmem : (k, idx) ∈ toks) (hna : idx ∉ attributed)
    (hk : k = .rCompilerDirective ∨ ∃ c, k = .rConditionalDirective c) :
    ∃ l ∈ directiveLinesGo attributed level toks, l.tokens = [idx] := by
  have hx : (k, idx) ∈ toks.filter (Parents.freeDirective attributed) :=
    List.mem_filter.2 ⟨hmem, by rcases hk with rfl | ⟨c, rfl⟩ <;> simp [Parents.freeDirective, hna, isDirectiveRaw]⟩
  obtain ⟨l, hl, _, _, ht⟩ := all2_mem_right (Parents.directiveLinesGo_spec attributed level toks) _ hx
  exact ⟨l, hl, ht⟩

/-- when the file has no conditional directives there is exactly one pass, the whole file in order
    (so, with `machine_lines_wellformed`, no token can be in two lines) -/
theorem single_pass_without_conditionals (kinds : List RawKind) (h : ∀ k ∈ kinds, condKind? k = none) :
    passes kinds = [List.range kinds.length] := passes_noCond kinds h

/-- every conditional-directive pass of every file lists token positions in strictly increasing
    order, all below the number of tokens (the directive tree lays its sections out in token order) -/
theorem passes_sorted_in_range (kinds : List RawKind) :
    ∀ p ∈ passes kinds, p.Pairwise (· < ·) ∧ ∀ i ∈ p, i < kinds.length :=
  fun p hp => ⟨passes_sorted kinds p hp, passes_in_range kinds p hp⟩

/-- every token that is not a conditional directive is contained in some pass (so, with
    `machine_covers_pass`, `Parents.final_lines` and `directive_lines_cover`, no token of the file
    can be left out by the passes: what remains is the parser's control flow consuming each pass);
    the argument is at the head of `Proofs/PassCover.lean` -/
theorem every_token_in_some_pass (kinds : List RawKind) (i : Nat) (hi : i < kinds.length)
    (hnc : condKind? kinds[i] = none) : ∃ p ∈ passes kinds, i ∈ p :=
  passes_cover kinds i hi hnc

/-- hence the well-formedness of the line builder's output holds for every pass of every file and
    every control flow of the parser, without a side condition on the pass -/
theorem file_lines_wellformed (kinds : List RawKind) (pass : List Nat) (hp : pass ∈ passes kinds)
    (ops : List POp) (s : MState) (h : MState.init.run kinds pass ops = some s) :
    (∀ l ∈ s.lines, l.tokens.Pairwise (· < ·)) ∧
    (∀ l ∈ s.lines, ∀ t ∈ l.tokens, t < kinds.length) ∧
    (s.lines.flatMap (·.tokens)).Nodup := by
  obtain ⟨h1, h2, h3⟩ := machine_lines_wellformed kinds pass (passes_sorted kinds pass hp) ops s h
  exact ⟨h1, fun l hl t ht => passes_in_range kinds pass hp t (h2 l hl t ht), h3⟩

end Pasfmt.C14

/-! ### the lines that line-based formatting sees: after the three post-parse consolidators

The formatter does not work on the parser's lines directly: `DistinguishGenericTypeParamsConsolidator`,
`ConditionalDirectiveConsolidator` and `DeindentPackageDirectives` run first (exact models in
`Model/Consolidators.lean`, compared with the real stages on every case: fields `ck`, `cl`). -/

namespace Pasfmt.C14

/-- The conditional-directive consolidator keeps the lines well formed and loses no token: the number of lines
    (hence every parent reference), parents and levels are unchanged; every line is still strictly increasing
    and within the same bound; every token that was in some line is still in some line.  Of the hypotheses,
    strictly increasing token lists are what the theorems above establish for the parser's lines; that a
    conditional-directive line holds exactly its directive (`hc`, needed for the last clause only) is shown for the lines added for directives
    (`directiveLinesGo_spec`) and for no line of a pass: the theorem is not applied to the parser's lines. -/
theorem consolidator_keeps_lines_wellformed (kinds : List Kind) (lines : List Line)
    (hs : ∀ l ∈ lines, l.tokens.Pairwise (· < ·))
    (hc : ∀ l ∈ lines, l.ltype = .lConditionalDirective → ∃ t, l.tokens = [t]) :
    let out := cdcConsolidate kinds lines
    out.length = lines.length ∧
    (∀ i (h1 : i < out.length) (h2 : i < lines.length), out[i].parent = lines[i].parent ∧ out[i].level = lines[i].level ∧
        (out[i].ltype = lines[i].ltype ∨ out[i].ltype = .lVoided)) ∧
    (∀ l ∈ out, l.tokens.Pairwise (· < ·)) ∧
    (∀ n, (∀ l ∈ lines, ∀ t ∈ l.tokens, t < n) → ∀ l ∈ out, ∀ t ∈ l.tokens, t < n) ∧
    (∀ t, (∃ l ∈ lines, t ∈ l.tokens) → ∃ l ∈ out, t ∈ l.tokens) := by
  intro out
  generalize hD : (lines.map (cdcLine1 kinds.toArray)).flatMap (·.2) = D
  -- the result is a map over the lines, and every line is related to what it is mapped to
  have hout : out = lines.map fun l => cdcLine2 D (cdcLine1 kinds.toArray l).1 := by
    simp only [out, cdcConsolidate_eq, List.map_map, hD]; rfl
  have keeps := fun l (hl : l ∈ lines) => (cdcLine_rel kinds.toArray D l (hs l hl)).keeps (hs l hl)
  rw [hout]
  refine ⟨List.length_map _, fun i _ h2 => ?_, ?_, fun n hn => ?_, ?_⟩
  · rw [List.getElem_map]
    obtain ⟨a, b, c, -⟩ := keeps _ (List.getElem_mem h2)
    exact ⟨a, b, c⟩
  · simp only [List.forall_mem_map]; exact fun l hl => (keeps l hl).2.2.2.1
  · simp only [List.forall_mem_map]; exact fun l hl => (keeps l hl).2.2.2.2.1 n (hn l hl)
  · rintro t ⟨l, hl, ht⟩
    rcases (keeps l hl).2.2.2.2.2 with ⟨hty, t0, ht0, htD⟩ | hk
    · -- a directive line whose directive `t` was merged into a line `lj`; that line holds more than one token, so it is no
      -- directive line (`hc`) and stays as it was expanded
      obtain ⟨tt, htt⟩ := hc l hl hty
      rw [htt] at ht ht0
      obtain rfl := List.mem_singleton.1 ht
      cases ht0
      rw [← hD] at htD
      obtain ⟨p, hp, htp⟩ := List.mem_flatMap.1 htD
      obtain ⟨lj, hlj, rfl⟩ := List.mem_map.1 hp
      refine ⟨_, List.mem_map_of_mem hlj, ?_⟩
      rcases cdcLine1_spec kinds.toArray lj (hs lj hlj) with ⟨_, e2⟩ | ⟨f, la, hf, hla, e1, hin, _⟩
      · rw [e2] at htp; cases htp
      · have := hin _ htp
        rw [e1]
        rcases cdcLine2_spec D { lj with tokens := rangeIncl f la } with e | ⟨_, htyj, _⟩
        · rw [e]; exact mem_rangeIncl.2 ⟨by omega, by omega⟩
        · obtain ⟨t2, ht2⟩ := hc lj hlj htyj
          rw [ht2] at hf hla
          simp at hf hla; omega
    · exact ⟨_, List.mem_map_of_mem hl, hk t ht⟩

/-- a line the consolidator rewrites becomes the full range from its first to its last token (the merged
    directives lie strictly inside) -/
theorem expanded_line_is_a_range {kinds : Array Kind} {toks new dirs : List Nat} (hs : toks.Pairwise (· < ·))
    (h : cdcExpand kinds toks = some (new, dirs)) :
    ∃ first last, toks.head? = some first ∧ toks.getLast? = some last ∧ new = rangeIncl first last ∧
      (∀ d ∈ dirs, first < d ∧ d < last) ∧ dirs ≠ [] :=
  cdcExpand_range hs h

/-- the generics consolidator keeps the token count and only retypes `<`/`>` as generic chevrons -/
theorem generics_only_retypes_chevrons (kinds : List Kind) :
    (genericsConsolidate kinds).length = kinds.length ∧
    ∀ i (h1 : i < kinds.length) (h2 : i < (genericsConsolidate kinds).length),
      ChevRel kinds[i] (genericsConsolidate kinds)[i] :=
  genericsConsolidate_frame kinds

/-- the package rule changes levels only -/
theorem package_rule_changes_levels_only (kinds : List Kind) (lines : List Line) :
    (deindentPackage kinds lines).length = lines.length ∧
    ∀ i (h1 : i < (deindentPackage kinds lines).length) (h2 : i < lines.length),
      (deindentPackage kinds lines)[i].tokens = lines[i].tokens ∧
      (deindentPackage kinds lines)[i].parent = lines[i].parent ∧
      (deindentPackage kinds lines)[i].ltype = lines[i].ltype := by
  unfold deindentPackage
  split
  · refine ⟨by simp, ?_⟩
    intro i h1 h2
    simp only [List.getElem_map]
    split <;> exact ⟨rfl, rfl, rfl⟩
  · exact ⟨rfl, fun i h1 h2 => ⟨rfl, rfl, rfl⟩⟩

/-- non-vacuity: `Foo({$ifdef A} 1 {$else} 2 {$endif});` — the line 0 1 3 7 8 (the pass that takes the first
    branch) is expanded to 0..8 and the three directive lines are voided -/
example :
    let kinds : List Kind := [.tIdentifier, .tOp .oLParen, .tConditionalDirective .dIfdef, .tNumberLiteral .nDecimal,
      .tConditionalDirective .dElse, .tNumberLiteral .nDecimal, .tConditionalDirective .dEndif, .tOp .oRParen, .tOp .oSemicolon]
    let lines : List Line := [
      { parent := none, level := 0, tokens := [0, 1, 3, 7, 8], ltype := .lUnknown },
      { parent := none, level := 0, tokens := [2], ltype := .lConditionalDirective },
      { parent := none, level := 0, tokens := [4], ltype := .lConditionalDirective },
      { parent := none, level := 0, tokens := [6], ltype := .lConditionalDirective }]
    (cdcConsolidate kinds lines).map (·.tokens) = [[0, 1, 2, 3, 4, 5, 6, 7, 8], [], [], []] := by
  decide

end Pasfmt.C14

/-! ### the whole parser as a model: no hypothesis on the control flow

`Model/ParserFull.lean` (+ `ParserBase`, `ParserLeaf`) is an exact model of the parser's control flow (every
function of `impl InternalDelphiLogicalLineParser`, translated arm by arm; total, fuel-bounded), compared with the
real parser on every case (`pfull` stream: final token kinds and lines).  Its line builder state can only be changed
by the primitives of the machine (`Traced`: the state is carried with the trace that produced it), so the theorems
above, which hold for every trace, apply to it outright. -/

namespace Pasfmt.C14

/-- **For every input on which the parser model answers, the lines of every pass are well formed**: strictly
    increasing token positions, all within the file, and no token in two lines of the pass (or twice in one). -/
theorem parser_model_lines_wellformed (toks : List (RawKind × Bool)) (o : ParseFullOut)
    (h : parseFileFull toks = some o) :
    ∀ ls ∈ o.passLines,
      (∀ l ∈ ls, l.tokens.Pairwise (· < ·)) ∧ (∀ l ∈ ls, ∀ t ∈ l.tokens, t < toks.length) ∧
      (ls.flatMap (·.tokens)).Nodup :=
  Parents.pass_lines_wellformed toks o h

/-- the lines of every pass are what the machine makes of the trace the model issued for that pass, the trace consumes
    the whole pass and skips compiler directives only (`PassOK`): the theorems about arbitrary traces apply -/
theorem parser_model_passes_are_machine_runs (toks : List (RawKind × Bool)) (o : ParseFullOut)
    (h : parseFileFull toks = some o) :
    All2 (PassOK (toks.map (·.1))) o.passLines o.traces ∧ o.traces.map (·.1) = passes (toks.map (·.1)) :=
  parseFileFull_passes toks o h

/-- **Every token of the file is in a logical line of the parser model** (C14, coverage): a token that is not a
    conditional directive is in some pass; the control flow consumed the whole pass, so the token is in a line of the
    pass or was skipped; a skipped token is a compiler directive, which gets a directive line unless a line of some
    pass holds it; conditional directives get directive lines; consolidation keeps the tokens of every non-empty
    line.  No hypothesis on control flow: it is the exact model's own. -/
theorem parser_model_covers_every_token (toks : List (RawKind × Bool)) (o : ParseFullOut)
    (h : parseFileFull toks = some o) : ∀ i, i < toks.length → ∃ l ∈ o.lines, i ∈ l.tokens := by
  intro i hi
  obtain ⟨hall, hpasses⟩ := parseFileFull_passes toks o h
  obtain ⟨-, hk⟩ := Parents.dirKindsKept_spec _ _ (Parents.final_kinds toks o h)
  have hi0 : i < (toks.map (·.1)).length := by simpa using hi
  -- a line of a pass, or a directive line, that holds i is stored among the final lines
  have from_src : ∀ ls ∈ Parents.sources o, ∀ l ∈ ls, i ∈ l.tokens → ∃ l ∈ o.lines, i ∈ l.tokens := by
    intro ls hls l hl hil
    obtain ⟨l1, hl1, st⟩ := (Parents.final_lines toks o h).kept l (List.mem_flatten.2 ⟨ls, hls, hl⟩)
      (by intro e; rw [e] at hil; cases hil)
    exact ⟨l1, hl1, by rw [st.tokens]; exact hil⟩
  have from_pass : (∃ ls ∈ o.passLines, ∃ l ∈ ls, i ∈ l.tokens) → ∃ l ∈ o.lines, i ∈ l.tokens :=
    fun ⟨ls, hls, l, hl, hil⟩ => from_src ls (List.mem_append_left _ hls) l hl hil
  -- a directive that no pass line holds gets a directive line
  have from_directive : ∀ k, o.kinds[i]? = some k →
      (k = .rCompilerDirective ∨ ∃ c, k = .rConditionalDirective c) →
      i ∉ attributedOf o.kinds o.passLines → ∃ l ∈ o.lines, i ∈ l.tokens := by
    intro k hk' hkind hna
    obtain ⟨l, hl, ht⟩ := directive_lines_cover _ 0 _ k i (List.mem_zipIdx_iff_getElem?.2 hk') hna hkind
    exact from_src _ (List.mem_append_right _ (List.mem_singleton.2 rfl)) l hl (by rw [ht]; simp)
  cases hc : condKind? (toks.map (·.1))[i] with
  | some c =>
    -- a conditional directive: its kind is kept, it is never attributed, it gets a directive line
    have hk0 : (toks.map (·.1))[i] = .rConditionalDirective c := by
      unfold condKind? at hc
      split at hc
      · rename_i c' heq; rw [heq, Option.some.inj hc]
      · cases hc
    have hkf : o.kinds[i]? = some (.rConditionalDirective c) :=
      (hk i).1 _ (by rw [List.getElem?_eq_getElem hi0, hk0]) rfl
    apply from_directive _ hkf (Or.inr ⟨c, rfl⟩)
    intro hatt
    have := (Parents.mem_attributedOf.1 hatt).2
    rw [List.getD_eq_getElem?_getD, hkf] at this
    simp at this
  | none =>
    obtain ⟨p, hp, hip⟩ := every_token_in_some_pass _ i hi0 hc
    -- the pass, its trace and its final machine state
    rw [← hpasses] at hp
    obtain ⟨pt, hpt, rfl⟩ := List.mem_map.1 hp
    have : ∃ ls ∈ o.passLines, PassOK (toks.map (·.1)) ls pt := all2_mem_right hall pt hpt
    obtain ⟨ls, hls, s, hrun, hlines, hdone, hskip⟩ := this
    obtain ⟨j, hj⟩ := List.getElem?_of_mem hip
    rcases machine_covers_pass _ _ _ s hrun hdone j i hj with ⟨l, hl, hil⟩ | hsk
    · exact from_pass ⟨ls, hls, l, by rw [← hlines]; exact hl, hil⟩
    · obtain ⟨tok, htok, hkind⟩ := hskip j hsk
      rw [hj] at htok
      cases htok
      have hkf : o.kinds[i]? = some .rCompilerDirective := (hk i).1 _ hkind rfl
      by_cases hatt : i ∈ attributedOf o.kinds o.passLines
      · exact from_pass (Parents.mem_attributedOf.1 hatt).1
      · exact from_directive _ hkf (Or.inl rfl) hatt

/-- **Every logical line of the parser model is non-empty, lists token positions of the file in strictly
    increasing order** (C14, first clause) - for every input on which the model answers, with no hypothesis on
    control flow. -/
theorem parser_model_final_lines_wellformed (toks : List (RawKind × Bool)) (o : ParseFullOut)
    (h : parseFileFull toks = some o) :
    ∀ l ∈ o.lines, l.tokens ≠ [] ∧ l.tokens.Pairwise (· < ·) ∧ ∀ t ∈ l.tokens, t < toks.length :=
  Parents.final_lines_wellformed toks o h

end Pasfmt.C14

/-! ### exactly one line per token, parent references, the end-of-file line

Proofs: `Proofs/ParserParents.lean` (consolidation of passes), `Proofs/ParserParentsFlow.lean` (an invariant of the
control flow of the parser model), `Proofs/ParserFlows.lean` (every function of `Model/ParserFull.lean` keeps it) and
`Proofs/ParserParentsMutual.lean` (`parse`, `parse_file`). -/

namespace Pasfmt.C14

open Pasfmt.Parents

/-- the kinds of `begin a; end.` -/
def exBeginEnd : List (RawKind × Bool) :=
  [(.rKeyword .kBegin, false), (.rIdentifier, false), (.rOp .oSemicolon, false), (.rKeyword .kEnd, false),
   (.rOp .oDot, false), (.rEof, false)]

/-- the kinds of `begin if a then b; end.` -/
def exIfThen : List (RawKind × Bool) :=
  [(.rKeyword .kBegin, false), (.rKeyword .kIf, false), (.rIdentifier, false), (.rKeyword .kThen, false),
   (.rIdentifier, false), (.rOp .oSemicolon, false), (.rKeyword .kEnd, false), (.rOp .oDot, false), (.rEof, false)]

/-- the kinds of `begin {$ifdef A} if a then {$else} if b then {$endif} c; end.` -/
def exTwoPasses : List (RawKind × Bool) :=
  [(.rKeyword .kBegin, false), (.rConditionalDirective .dIfdef, false), (.rKeyword .kIf, false), (.rIdentifier, false),
   (.rKeyword .kThen, false), (.rConditionalDirective .dElse, false), (.rKeyword .kIf, false), (.rIdentifier, false),
   (.rKeyword .kThen, false), (.rConditionalDirective .dEndif, false), (.rIdentifier, false), (.rOp .oSemicolon, false),
   (.rKeyword .kEnd, false), (.rOp .oDot, false), (.rEof, false)]

/-- the kinds of the ill-formed `if then record case` -/
def exIllFormedIf : List (RawKind × Bool) :=
  [(.rKeyword .kIf, false), (.rKeyword .kThen, false), (.rKeyword .kRecord, false), (.rKeyword .kCase, false),
   (.rEof, false)]

/-- the kinds of the ill-formed `x := function begin` -/
def exIllFormedEof : List (RawKind × Bool) :=
  [(.rIdentifier, false), (.rOp .oAssign, false), (.rKeyword .kFunction, false), (.rKeyword .kBegin, false),
   (.rEof, false)]

/-- **When the file has no conditional directives, every token is in exactly one logical line** (C14, "exactly one"),
    for every input on which the parser model answers.  First part: the token lists of the final lines, read one after
    the other, have no repetition (so no token is in two lines, nor twice in one).  Second part, with
    `parser_model_covers_every_token`: every token position has exactly one line position that holds it.
    The hypothesis excludes files with `{$if..}`/`{$else}`/`{$endif}`: there a token behind the directives is parsed
    once per pass and may end up in several lines (`token_in_two_lines_with_conditionals`). -/
theorem parser_model_exactly_one_without_conditionals (toks : List (RawKind × Bool)) (o : ParseFullOut)
    (h : parseFileFull toks = some o) (hnc : ∀ k ∈ toks.map (·.1), condKind? k = none) :
    (o.lines.flatMap (·.tokens)).Nodup ∧
    ∀ i, i < toks.length →
      ∃ j, (∃ l, o.lines[j]? = some l ∧ i ∈ l.tokens) ∧
        ∀ (j' : Nat) (l' : PLine), o.lines[j']? = some l' → i ∈ l'.tokens → j' = j := by
  have hnd := final_lines_nodup_without_conditionals toks o h hnc
  refine ⟨hnd, ?_⟩
  intro i hi
  obtain ⟨l, hl, hil⟩ := parser_model_covers_every_token toks o h i hi
  obtain ⟨j, hj⟩ := List.getElem?_of_mem hl
  exact ⟨j, ⟨l, hj, hil⟩, fun j' l' hj' hil' => nodup_flat_index hnd hj' hj hil' hil⟩

/-- non-vacuity: `begin a; end.` has no conditional directive, the model answers, and its lines are
    `begin` / `a ;` / `end .` / end of file -/
example : (∀ k ∈ exBeginEnd.map (·.1), condKind? k = none) ∧
    (parseFileFull exBeginEnd).map (·.lines.map (·.tokens)) = some [[0], [1, 2], [3, 4], [5]] := by
  decide +kernel

/-- the hypothesis of `parser_model_exactly_one_without_conditionals` is needed: in
    `begin {$ifdef A} if a then {$else} if b then {$endif} c; end.` the tokens `c ;` (10, 11) are in two final lines,
    one per pass (the two lines differ in their parent) -/
theorem token_in_two_lines_with_conditionals :
    (parseFileFull exTwoPasses).map (fun o => o.lines.filter (fun l => l.tokens.contains 10)) =
      some [{ parent := some ⟨1, 4⟩, level := 1, tokens := [10, 11], ltype := .lUnknown },
            { parent := some ⟨5, 8⟩, level := 1, tokens := [10, 11], ltype := .lUnknown }] := by
  decide +kernel

/-- **In the lines of every pass, every parent reference points at a line of the pass that holds the parent token** -
    for every input on which the parser model answers, ill-formed input included.  This is a fact about the control
    flow: a parent reference is taken from the current line and the current token
    (`get_line_parent_of_current_token`) and `next_token` puts that token onto that line before the reference is used;
    lines never lose tokens.  (For an arbitrary trace of the line builder nothing of the kind holds: the references
    are arguments of the primitives `pushLine` and `finish`.)  `parentsOk` is the decidable check
    `Parents.passParentsOk` on every pass. -/
theorem parser_model_pass_parents_contain_token (toks : List (RawKind × Bool)) (o : ParseFullOut)
    (h : parseFileFull toks = some o) : parentsOk o = true :=
  parentsOk_holds toks o h

/-- **A child line's parent line precedes it and contains the parent token** (C14, parent clause) - in the final lines,
    for every input on which the parser model answers.  No well-formedness hypothesis is needed for the final lines,
    because consolidation drops a parent reference that does not point at an earlier line of its pass (see
    `pass_line_can_be_its_own_parent`), remaps the others, and merges equal lines without moving any. -/
theorem parser_model_parent_contains_token (toks : List (RawKind × Bool)) (o : ParseFullOut)
    (h : parseFileFull toks = some o) :
    ∀ (i : Nat) (l : PLine) (p : LineParent), o.lines[i]? = some l → l.parent = some p →
      p.lineIndex < i ∧ ∃ pl, o.lines[p.lineIndex]? = some pl ∧ p.tokenIndex ∈ pl.tokens :=
  final_parents toks o h

/-- the same from the check alone (what consolidation does to parent references): if `parentsOk` holds for the lines
    of the passes then the parent clause holds for the final lines -/
theorem parent_clause_of_parentsOk (toks : List (RawKind × Bool)) (o : ParseFullOut)
    (h : parseFileFull toks = some o) (hg : parentsOk o = true) :
    ∀ (i : Nat) (l : PLine) (p : LineParent), o.lines[i]? = some l → l.parent = some p →
      p.lineIndex < i ∧ ∃ pl, o.lines[p.lineIndex]? = some pl ∧ p.tokenIndex ∈ pl.tokens :=
  final_parents_contain_token toks o h hg

/-- non-vacuity: in `begin if a then b; end.` the line `b ;` (final line 2) has the parent line 1 (`if a then`) and
    the parent token 3 (`then`) -/
example : (parseFileFull exIfThen).map (fun o => o.lines.map (fun l => (l.parent, l.tokens))) =
    some [(none, [0]), (none, [1, 2, 3]), (some ⟨1, 3⟩, [4, 5]), (none, [6, 7]), (none, [8])] := by
  decide +kernel

/-- the quirk on ill-formed input: for `if then record case` the line builder ends the pass with line 0 (`if then`)
    as its own parent, so "the parent line precedes the child line" is false for the lines of a pass; consolidation
    drops that reference (the final line 0 has no parent) -/
theorem pass_line_can_be_its_own_parent :
    (parseFileFull exIllFormedIf).map (fun o => (o.passLines.map (fun ls => ls.head?), o.lines.head?)) =
      some ([some { parent := some ⟨0, 1⟩, level := 1, tokens := [0, 1], ltype := .lUnknown }],
            some { parent := none, level := 1, tokens := [0, 1], ltype := .lUnknown }) := by
  decide +kernel

/-- **In the lines of every pass at most one line is typed `Eof`** - for every input on which the parser model answers.
    A fact about the control flow: only the last `set_logical_line_type` of `parse` makes an `Eof` line, out of the line
    that is current then; every other function leaves the line types other than `Eof`. -/
theorem parser_model_at_most_one_eof_line_per_pass (toks : List (RawKind × Bool)) (o : ParseFullOut)
    (h : parseFileFull toks = some o) :
    ∀ ls ∈ o.passLines, ∀ (i j : Nat) (li lj : PLine), ls[i]? = some li → ls[j]? = some lj →
      li.ltype = .lEof → lj.ltype = .lEof → i = j := by
  intro ls hls i j li lj hi hj hti htj
  obtain ⟨_, top, htop⟩ := passLines_ok toks o h ls hls
  have a := htop i li hi hti
  have b := htop j lj hj htj
  rw [← b] at a
  exact Option.some.inj a

/-- **Without conditional directives at most one final line is typed `Eof`** - for every input on which the parser
    model answers (ill-formed input included: there may be none, see `eof_token_can_be_swallowed`). -/
theorem parser_model_at_most_one_eof_line_without_conditionals (toks : List (RawKind × Bool)) (o : ParseFullOut)
    (h : parseFileFull toks = some o) (hnc : ∀ k ∈ toks.map (·.1), condKind? k = none) :
    ∀ (i j : Nat) (li lj : PLine), o.lines[i]? = some li → o.lines[j]? = some lj →
      li.ltype = .lEof → lj.ltype = .lEof → i = j := by
  obtain ⟨ls, hpl⟩ := single_pass toks o h hnc
  have hone := parser_model_at_most_one_eof_line_per_pass toks o h ls (by rw [hpl]; simp)
  -- a final line typed `Eof` has the tokens of a line of the pass typed `Eof`
  have src : ∀ l ∈ o.lines, l.ltype = .lEof → ∃ l0 ∈ ls, l.tokens = l0.tokens ∧ l0.ltype = .lEof := by
    intro l hl ht
    obtain ⟨-, l0, hl0, -, st⟩ := (final_lines toks o h).src l hl
    obtain ⟨ls', hls', hl0⟩ := List.mem_flatten.1 hl0
    rw [sources, hpl] at hls'
    rw [st.ltype] at ht
    rcases List.mem_append.1 hls' with h1 | h1
    · rw [List.mem_singleton.1 h1] at hl0
      exact ⟨l0, hl0, st.tokens, ht⟩
    · exfalso
      rw [List.mem_singleton.1 h1] at hl0
      obtain ⟨_, hty, _⟩ := directive_source toks o h l0 (hpl ▸ hl0)
      rcases hty with b | b <;> rw [b] at ht <;> cases ht
  intro i j li lj hi hj hti htj
  obtain ⟨a, ha, ea, ta⟩ := src li (List.mem_of_getElem? hi) hti
  obtain ⟨b, hb, eb, tb⟩ := src lj (List.mem_of_getElem? hj) htj
  obtain ⟨ia, hia⟩ := List.getElem?_of_mem ha
  obtain ⟨ib, hib⟩ := List.getElem?_of_mem hb
  have hab := hone ia ib a b hia hib ta tb
  subst hab
  rw [hia] at hib
  have hab : a = b := Option.some.inj hib
  subst hab
  -- the two final lines share a token, and no token is in two final lines
  obtain ⟨hne, _, _⟩ := parser_model_final_lines_wellformed toks o h li (List.mem_of_getElem? hi)
  obtain ⟨t, ht⟩ := List.exists_mem_of_ne_nil _ hne
  exact nodup_flat_index (final_lines_nodup_without_conditionals toks o h hnc) hi hj ht (by rw [eb, ← ea]; exact ht)

/-- **Exactly one end-of-file line, holding only the end-of-file token** (C14, last clause), under two decidable
    hypotheses: the file ends with the end-of-file token (true of every scanner output), and `eofLineInEveryPass`:
    the lines of every pass include the line `Eof, level 0, no parent, [last token]`.  Conclusion: the final lines hold
    that line at exactly one position `j`, and every final line that has type `Eof` or holds the end-of-file token is
    at position `j`.  What the hypothesis excludes: the control flow consuming the end-of-file token before the last
    `next_token` of `parse` (then the token sits in an ordinary line and no line has type `Eof`:
    `eof_token_can_be_swallowed`), or contexts still open at the end of `parse` (then level or parent of the line
    differ).  That no pass has a second `Eof` line need not be assumed
    (`parser_model_at_most_one_eof_line_per_pass`). -/
theorem parser_model_single_eof_line (toks : List (RawKind × Bool)) (o : ParseFullOut)
    (h : parseFileFull toks = some o) (hlast : (toks.map (·.1)).getLast? = some .rEof)
    (hg : eofLineInEveryPass o = true) :
    ∃ j, o.lines[j]? = some (eofLine toks.length) ∧
      ∀ (j' : Nat) (l : PLine), o.lines[j']? = some l → (l.ltype = .lEof ∨ (toks.length - 1) ∈ l.tokens) → j' = j :=
  final_single_eof_line' toks o h hlast hg

/-- the hypothesis can equally be put as `eofOk`: in the lines of every pass, the lines typed `Eof` are exactly
    `[Eof, level 0, no parent, [last token]]` -/
theorem eof_hypotheses_equivalent (toks : List (RawKind × Bool)) (o : ParseFullOut)
    (h : parseFileFull toks = some o) : eofOk o = true ↔ eofLineInEveryPass o = true :=
  eofOk_iff toks o h

/-- non-vacuity: `begin a; end.` satisfies the hypotheses of `parser_model_single_eof_line` -/
example : (exBeginEnd.map (·.1)).getLast? = some .rEof ∧
    (parseFileFull exBeginEnd).map eofLineInEveryPass = some true := by
  decide +kernel

/-- non-vacuity with two passes: `begin {$ifdef A} if a then {$else} if b then {$endif} c; end.` satisfies the
    hypotheses too, and the two end-of-file lines of its two passes are one final line -/
example : (exTwoPasses.map (·.1)).getLast? = some .rEof ∧
    (parseFileFull exTwoPasses).map (fun o => (eofLineInEveryPass o, o.passLines.length,
      (o.lines.filter (fun l => l.ltype == .lEof)).map (·.tokens))) = some (true, 2, [[14]]) := by
  decide +kernel

/-- the hypothesis is needed: for the ill-formed `x := function begin` the model (like the parser) answers one line of
    type `Assignment` holding all five tokens, the end-of-file token included; no line has type `Eof` -/
theorem eof_token_can_be_swallowed :
    (parseFileFull exIllFormedEof).map (fun o => (eofLineInEveryPass o, o.lines)) =
      some (false, [{ parent := none, level := 0, tokens := [0, 1, 2, 3, 4], ltype := .lAssignment }]) := by
  decide +kernel

end Pasfmt.C14
