/-
  C12 — Multi-line string literals keep their value.
  First the re-indenter alone, the model of multiline_strings.rs (`Model/Mls.lean`): what it writes, that the value is
  kept, idempotence, that the result is still one token, and counterexamples without the hypotheses.  Then the whole
  formatter (`formatFull`): every multi-line literal of the input comes out with its value.
-/
import PasfmtModel.Proofs.MlsSim
import PasfmtModel.Proofs.MlsPipeline

namespace Pasfmt.C12

/-- what the re-indenter makes of one interior line: `none` = the literal is rejected -/
def lineValue (base line : Bytes) : Option Bytes :=
  if base.isPrefixOf line then some (line.drop base.length)
  else if line.isPrefixOf base then some []
  else none

/-- rendering of one interior line with value `v` -/
def renderLine (S : Settings) (ind cont : Nat) (v : Bytes) : Bytes :=
  S.nlStr ++ (if v.isEmpty then [] else replicateBytes ind S.indStr ++ replicateBytes cont S.contStr ++ v)

theorem joinNl_lineText (S : Settings) (ind cont : Nat) (first : Bytes) (vs : List Bytes) :
    CrlfFull.joinNl S.nlStr first (vs.map (MlsMore.lineText S ind cont)) =
      first ++ (vs.map (renderLine S ind cont)).flatten := by
  unfold CrlfFull.joinNl
  rw [List.map_map]
  rfl

/-- The rewriting loop succeeds exactly when every interior line starts with the closing line's
    indentation or is a prefix of it, and then the result is, line by line, the configured line
    terminator followed by (for non-empty values) exactly `ind` indentation strings, `cont`
    continuation strings and the line's value: the values are unchanged, trailing blanks included. -/
theorem rewriteLines_spec (S : Settings) (ind cont : Nat) (base : Bytes) (lines : List Bytes) :
    rewriteLines S ind cont base lines =
      (lines.mapM (lineValue base)).map (fun vs => (vs.map (renderLine S ind cont)).flatten) := by
  simp only [MlsMore.rewriteLines_eq, joinNl_lineText, List.nil_append]
  rfl

/-- a literal with an interior line that neither starts with the base indentation nor is a prefix
    of it is rejected (left byte for byte) -/
theorem rewriteLines_rejects (S : Settings) (ind cont : Nat) (base : Bytes) (lines : List Bytes)
    (h : ∃ l ∈ lines, lineValue base l = none) : rewriteLines S ind cont base lines = none := by
  rw [rewriteLines_spec, mapM_none h]
  rfl

/-- text before the closing quotes on the last line: the literal is left alone -/
theorem mls_rejects_text_before_quotes (S : Settings) (content : Bytes) (ind cont : Nat)
    (h : ((lastLineOf content).take (countLeadingWs (lastLineOf content))).length
          ≠ (trimEndQuotes (lastLineOf content)).length) :
    mlsRewrite S content ind cont = none := by
  rw [MlsMore.mlsRewrite_eq, MlsMore.newLines, if_pos (bne_iff_ne.2 h)]
  rfl

/-- with `format_multiline_strings = false`, ignored tokens, and non-literals the stage keeps the text -/
theorem mls_off (S : Settings) (t : FTok) (ind cont : Nat) : mlsTok S false t ind cont = t.tok.content := by
  unfold mlsTok; simp

theorem mls_ignored (S : Settings) (b : Bool) (t : FTok) (ind cont : Nat) (h : t.fmt.ignored = true) :
    mlsTok S b t ind cont = t.tok.content := by
  unfold mlsTok; simp [h]

theorem mls_other_kinds (S : Settings) (b : Bool) (t : FTok) (ind cont : Nat) (h : isMlsKind t.tok.kind = false) :
    mlsTok S b t ind cont = t.tok.content := by
  unfold mlsTok; simp [h]

/-- re-indentation changes blanks only: for a literal without a dangling `E3` byte (every well-formed
    UTF-8 text) the sequence of non-blank characters is unchanged, for the settings of every
    configuration and every pair of counters -/
theorem mls_only_blanks_change (cfg : Config) (content : Bytes) (ind cont : Nat) (c' : Bytes)
    (h : mlsRewrite cfg.settings content ind cont = some c') (hnd : nd content = true) :
    nd c' = true ∧ foldStrip c' = foldStrip content :=
  mlsRewrite_sim cfg.settings (settings_blank cfg) content ind cont c' h hnd

-- Tests: a literal with LF/CR/CRLF interior endings, a short line and an
-- over-indented line, rewritten to indentation 1 x "  " + 1 x "    " with LF.
-- content = "'''\r\n    a  \n  \r      b\n    '''"
example : mlsRewrite { nlStr := [10], indStr := [32, 32], contStr := [32, 32, 32, 32] }
    [39,39,39,13,10, 32,32,32,32,97,32,32,10, 32,32,13, 32,32,32,32,32,32,98,10, 32,32,32,32,39,39,39] 1 1
    = some [39,39,39,10, 32,32,32,32,32,32,97,32,32,10, 10, 32,32,32,32,32,32,32,32,98,10, 32,32,32,32,32,32,39,39,39] := by
  decide +kernel

/-- the indentation the re-indenter writes in front of every non-empty interior line and of the closing quotes -/
def newIndent (S : Settings) (ind cont : Nat) : Bytes := replicateBytes ind S.indStr ++ replicateBytes cont S.contStr

/-- an interior line after re-indentation, without its terminator -/
def lineText (S : Settings) (ind cont : Nat) (v : Bytes) : Bytes := if v.isEmpty then [] else newIndent S ind cont ++ v

theorem renderLine_eq (S : Settings) (ind cont : Nat) (v : Bytes) :
    renderLine S ind cont v = S.nlStr ++ lineText S ind cont v := by
  unfold renderLine lineText newIndent
  split <;> simp

/-- **the value survives.**  Reading the re-indented interior lines (and the closing-quote line)
    relative to the new indentation gives back exactly the values they had relative to the old one:
    nothing but the common indentation changed — trailing blanks, blank lines and over-indentation
    included. -/
theorem mls_values_preserved (S : Settings) (ind cont : Nat) (vs : List Bytes) :
    (vs.map (lineText S ind cont)).mapM (lineValue (newIndent S ind cont)) = some vs :=
  MlsMore.values_preserved S ind cont vs

/-- **`lines_custom` splits at LF, CR and CR LF and at nothing else, and loses no byte of a line**: the model of the
    Rust code (a `split_inclusive` with a stateful closure, then `trim_matches(['\n','\r'])`) equals the reference
    definition by cases `refLines`, for every text that does not end in CR LF (a multi-line literal ends in a quote). -/
theorem lines_custom_splits_at_terminators (s : Bytes) (h : ¬ ∃ p, s = p ++ [0x0D, 0x0A]) :
    linesCustom s = refLines s :=
  linesCustom_eq_refLines s h

-- `a⏎b` with CR LF, `b` ended by a lone CR, `c` by LF, an empty line, `d` unterminated
example : refLines [0x61, 0x0D, 0x0A, 0x62, 0x0D, 0x63, 0x0A, 0x0A, 0x64] = [[0x61], [0x62], [0x63], [], [0x64]] := by decide
example : linesCustom [0x61, 0x0D, 0x0A, 0x62, 0x0D, 0x63, 0x0A, 0x0A, 0x64] = [[0x61], [0x62], [0x63], [], [0x64]] := by decide
-- the excluded case: a final CR LF yields one more (empty) line in the Rust code
example : linesCustom [0x61, 0x0D, 0x0A] = [[0x61], []] ∧ refLines [0x61, 0x0D, 0x0A] = [[0x61]] := by decide

/-! ### end to end from `mlsRewrite` (helpers in `Proofs/MlsMore.lean`)

Common hypothesis `content.getLast? = some 0x27`: the literal ends in a quote - true of every multi-line literal token
(the scanner ends it after the closing quotes); it excludes texts whose last line holds no closing quotes at all, for
which the model does other things (counterexamples below).  `MlsMore.SettingsOk S`: the line ending is LF or CR LF and
the indentation strings consist of blanks `≤ 0x20` other than CR/LF - true of `cfg.settings` for every `cfg`
(`MlsMore.settings_ok`). -/

/-- an interior line after re-indentation is empty or the new indentation followed by its (non-empty) value -/
theorem lineText_cases (S : Settings) (ind cont : Nat) (v : Bytes) :
    (v = [] ∧ lineText S ind cont v = []) ∨ (v ≠ [] ∧ lineText S ind cont v = newIndent S ind cont ++ v) := by
  unfold lineText
  cases v with
  | nil => simp
  | cons a r => simp

/-- **C12, "afterwards the closing quotes and all interior lines are indented exactly like the opening quotes' line"**,
    on the model's own structure, end to end from `mlsRewrite`, for every literal that ends in a quote, every pair of
    counters and every settings record.  If the rewriter changes the literal, then the literal consists of an opening
    line, interior lines and a closing line `base ++ q` (`base` = the blanks of the closing line, `q` = a non-empty run
    of quotes, nothing after it); every interior line has a value `v` with respect to `base`; and the new text is the
    unchanged opening line, then per interior line the configured line ending followed by nothing (empty value) or by
    exactly `ind` indentation strings, `cont` continuation strings and the value (`renderLine`), then the line ending,
    the same `ind`+`cont` strings and the same quotes `q`.  No piece contains a CR or LF of its own. -/
theorem mls_indent_exact (S : Settings) (content : Bytes) (ind cont : Nat) (c' : Bytes)
    (hq : content.getLast? = some 0x27) (h : mlsRewrite S content ind cont = some c') :
    ∃ (opening : Bytes) (interior : List Bytes) (base q : Bytes) (vs : List Bytes),
      linesCustom content = opening :: (interior ++ [base ++ q]) ∧
      countLeadingWs (base ++ q) = base.length ∧ q ≠ [] ∧ (∀ b ∈ q, b = 0x27) ∧
      interior.mapM (lineValue base) = some vs ∧
      c' = opening ++ (vs.map (renderLine S ind cont)).flatten ++ S.nlStr ++ newIndent S ind cont ++ q ∧
      NoNl opening ∧ (∀ v ∈ vs, NoNl v) := by
  obtain ⟨first, interior, base, q, vs, A, hv, rfl⟩ := MlsMore.mlsRewrite_struct S content ind cont c' hq h
  refine ⟨first, interior, base, q, vs, A.linesCustom, A.blanks, A.q_ne, A.allQ, hv, ?_, A.lines.noNl first (by simp),
    A.values_noNl hv⟩
  rw [joinNl_snoc, joinNl_lineText]
  simp [newIndent, MlsMore.newIndent]

/-- the same **on the bytes of the result**, for the settings of every configuration: split at its line breaks, the
    rewritten literal is the unchanged opening line, then for each interior value either an empty line or the new
    indentation followed by the value (`lineText_cases`), then the new indentation followed by the closing quotes. -/
theorem mls_indent_exact_lines (S : Settings) (hS : MlsMore.SettingsOk S) (content : Bytes) (ind cont : Nat) (c' : Bytes)
    (hq : content.getLast? = some 0x27) (h : mlsRewrite S content ind cont = some c') :
    ∃ (opening q : Bytes) (vs : List Bytes),
      (linesCustom content).head? = some opening ∧ MlsMore.literalValue content = some vs ∧
      q ≠ [] ∧ (∀ b ∈ q, b = 0x27) ∧
      linesCustom c' = opening :: (vs.map (lineText S ind cont) ++ [newIndent S ind cont ++ q]) := by
  obtain ⟨first, interior, base, q, vs, A, hv, rfl⟩ := MlsMore.mlsRewrite_struct S content ind cont c' hq h
  exact ⟨first, q, vs, by rw [A.linesCustom]; rfl, A.value.trans hv, A.q_ne, A.allQ,
    (A.rendered hS ind cont hv).linesCustom⟩

/-- **C03/C12: a second application changes nothing.**  If the rewriter turned the literal into `c'`, then applied to
    `c'` with the same counters and settings it reports "no change" (`none`; the model has no separate fast path - it
    recomputes the text and finds it equal), so the token text stays `c'`.  Excluded: texts that do not end in a quote,
    line endings other than LF / CR LF, indentation strings with non-blanks or line breaks (counterexamples below). -/
theorem mls_rewrite_idem (S : Settings) (hS : MlsMore.SettingsOk S) (content : Bytes) (ind cont : Nat) (c' : Bytes)
    (hq : content.getLast? = some 0x27) (h : mlsRewrite S content ind cont = some c') :
    mlsRewrite S c' ind cont = none :=
  MlsMore.mls_idem S hS content ind cont c' hq h

/-- **C12, first sentence, end to end: the value of the literal is unchanged.**  `MlsMore.literalValue` is defined
    without reference to the rewriter (lines split at CR LF / CR / LF; first and last line dropped; indentation = the
    blanks in front of the closing quotes; each interior line stripped of it, a line that is a prefix of it counting as
    empty).  Whenever the rewriter changes a literal that ends in a quote, the literal is well-formed and the new text
    has the same value - trailing blanks, blank lines and over-indentation included. -/
theorem mls_value_full (S : Settings) (hS : MlsMore.SettingsOk S) (content : Bytes) (ind cont : Nat) (c' : Bytes)
    (hq : content.getLast? = some 0x27) (h : mlsRewrite S content ind cont = some c') :
    ∃ vs, MlsMore.literalValue content = some vs ∧ MlsMore.literalValue c' = some vs :=
  MlsMore.mls_value hS hq h

/-- the same for the settings of every configuration, as an equation -/
theorem mls_value_full_cfg (cfg : Config) (content : Bytes) (ind cont : Nat) (c' : Bytes)
    (hq : content.getLast? = some 0x27) (h : mlsRewrite cfg.settings content ind cont = some c') :
    MlsMore.literalValue c' = MlsMore.literalValue content := by
  obtain ⟨vs, h1, h2⟩ := mls_value_full cfg.settings (MlsMore.settings_ok cfg) content ind cont c' hq h
  rw [h1, h2]

-- Tests: content = "'''\n    abc\n    '''", rewritten to 1 x "  " + 1 x "    " with LF
example : mlsRewrite { nlStr := [10], indStr := [32, 32], contStr := [32, 32, 32, 32] }
    [39,39,39,10, 32,32,32,32,97,98,99,10, 32,32,32,32,39,39,39] 1 1
    = some [39,39,39,10, 32,32,32,32,32,32,97,98,99,10, 32,32,32,32,32,32,39,39,39] := by decide +kernel
example : linesCustom [39,39,39,10, 32,32,32,32,32,32,97,98,99,10, 32,32,32,32,32,32,39,39,39]
    = [[39,39,39], [32,32,32,32,32,32,97,98,99], [32,32,32,32,32,32,39,39,39]] := by decide +kernel
example : mlsRewrite { nlStr := [10], indStr := [32, 32], contStr := [32, 32, 32, 32] }
    [39,39,39,10, 32,32,32,32,32,32,97,98,99,10, 32,32,32,32,32,32,39,39,39] 1 1 = none := by decide +kernel
example : MlsMore.literalValue [39,39,39,10, 32,32,32,32,97,98,99,10, 32,32,32,32,39,39,39] = some [[97,98,99]] := by
  decide +kernel
example : MlsMore.literalValue [39,39,39,10, 32,32,32,32,32,32,97,98,99,10, 32,32,32,32,32,32,39,39,39] = some [[97,98,99]] := by
  decide +kernel
-- the literal of the first test: CR LF / LF / CR endings, a short line, an over-indented line, trailing blanks
example : MlsMore.literalValue
    [39,39,39,13,10, 32,32,32,32,97,32,32,10, 32,32,13, 32,32,32,32,32,32,98,10, 32,32,32,32,39,39,39]
    = some [[97,32,32], [], [32,32,98]] := by decide +kernel
example : MlsMore.literalValue
    [39,39,39,10, 32,32,32,32,32,32,97,32,32,10, 10, 32,32,32,32,32,32,32,32,98,10, 32,32,32,32,32,32,39,39,39]
    = some [[97,32,32], [], [32,32,98]] := by decide +kernel
-- an interior line that does not start with the closing line's indentation: ill-formed
example : MlsMore.literalValue [39,39,39,10, 32,97,10, 32,32,39,39,39] = none := by decide +kernel

/-! #### the hypotheses are needed -/

/-- **Counterexample without "ends in a quote"**: `x⏎··␍··` (the last line of `str::lines()` is `··␍··`, all blank,
    no closing quotes) is rewritten to `x⏎⏎`, whose last piece is not "indentation + quotes", and a second
    application changes the text again (`x⏎`): neither `mls_indent_exact` nor `mls_rewrite_idem` hold for it.  The third
    conjunct is a fact about the model only: `x⏎` ends in a line break, where `lastLineOf` is not `str::lines().last()`
    (that is `x`, and the Rust function leaves `x⏎` alone); no token the scanner types `MultiLine` ends so. -/
theorem mls_no_quote_counterexample :
    let S : Settings := { nlStr := [10], indStr := [32, 32], contStr := [32, 32] }
    mlsRewrite S [120, 10, 32, 32, 13, 32, 32] 1 0 = some [120, 10, 10] ∧
    mlsRewrite S [120, 10, 10] 1 0 = some [120, 10] ∧
    mlsRewrite S [120, 10] 1 0 = some [120] := by decide +kernel

/-- **Counterexample to value preservation without "ends in a quote"**: `⏎'⏎⏎` has no value (its last line is empty),
    the rewritten text `⏎··⇥'⏎` has the value "no interior lines". -/
theorem mls_value_no_quote_counterexample :
    let S : Settings := { nlStr := [10], indStr := [32, 32], contStr := [9] }
    mlsRewrite S [10, 39, 10, 10] 1 1 = some [10, 32, 32, 9, 39, 10] ∧
    MlsMore.literalValue [10, 39, 10, 10] = none ∧ MlsMore.literalValue [10, 32, 32, 9, 39, 10] = some [] := by
  decide +kernel

/-- **Counterexamples for the settings**: with the line ending `⏎⏎`, with the indentation string `⏎`, and with the
    indentation string `'`, the rewritten literal is changed again by a second application. -/
theorem mls_settings_counterexamples :
    (mlsRewrite { nlStr := [10, 10], indStr := [32, 32], contStr := [] } [39,39,39,10,97,10,39,39,39] 0 0
        = some [39,39,39,10,10,97,10,10,39,39,39] ∧
      mlsRewrite { nlStr := [10, 10], indStr := [32, 32], contStr := [] } [39,39,39,10,10,97,10,10,39,39,39] 0 0
        = some [39,39,39,10,10,10,10,97,10,10,10,10,39,39,39]) ∧
    (mlsRewrite { nlStr := [10], indStr := [10], contStr := [] } [39,39,39,10,32,39,39,39] 1 0
        = some [39,39,39,10,10,39,39,39] ∧
      mlsRewrite { nlStr := [10], indStr := [10], contStr := [] } [39,39,39,10,10,39,39,39] 1 0
        = some [39,39,39,10,10,10,39,39,39]) ∧
    (mlsRewrite { nlStr := [10], indStr := [39], contStr := [] } [39,39,39,10,32,39,39,39] 1 0
        = some [39,39,39,10,39,39,39,39] ∧
      mlsRewrite { nlStr := [10], indStr := [39], contStr := [] } [39,39,39,10,39,39,39,39] 1 0
        = some [39,39,39,10,39,39,39,39,39]) := by decide +kernel

/-- with a non-blank indentation string (`a`) the value is lost: the new closing line `a'''` has text before the quotes -/
theorem mls_value_settings_counterexample :
    let S : Settings := { nlStr := [10], indStr := [97], contStr := [] }
    mlsRewrite S [39,39,39,10,32,39,39,39] 1 0 = some [39,39,39,10,97,39,39,39] ∧
    MlsMore.literalValue [39,39,39,10,32,39,39,39] = some [] ∧ MlsMore.literalValue [39,39,39,10,97,39,39,39] = none := by
  decide +kernel

/-- **C12: the re-indented literal is still ONE multi-line string literal token.**  If the scanner's text-literal
    sub-lexer reads `content`, standing in front of any `rest`, as one multi-line literal (length `|content|`, kind
    `MultiLine`), and the re-indenter turns `content` into `c'`, then it reads `c'` in front of the same `rest` as one
    multi-line literal of length exactly `|c'|`: re-indentation creates no earlier run of closing quotes and keeps
    the opening and closing runs.  Nothing is assumed about `rest` (it may start with a quote).  Excluded: settings
    whose indentation strings contain non-blanks (counterexample below). -/
theorem mls_still_one_token (S : Settings) (hS : MlsMore.SettingsOk S) (content rest : Bytes) (ind cont : Nat) (c' : Bytes)
    (hscan : textLiteral (content ++ rest) = (content.length, .tMultiLine))
    (h : mlsRewrite S content ind cont = some c') :
    textLiteral (c' ++ rest) = (c'.length, .tMultiLine) :=
  MlsMore.mls_one_token S hS content rest ind cont c' hscan h

/-- the same for one step of the scanner (`whitespace_and_token`), in any scanner state, in and outside `asm` blocks:
    no leading blanks, a token of length `|c'|` and kind `TextLiteral(MultiLine)` -/
theorem mls_still_one_token_lexOne (cfg : Config) (content rest : Bytes) (ind cont : Nat) (c' : Bytes)
    (hscan : textLiteral (content ++ rest) = (content.length, .tMultiLine))
    (h : mlsRewrite cfg.settings content ind cont = some c') (simd : Bool) (st : LexState) :
    lexOne simd st (c' ++ rest) = some (some (0, c'.length, .rTextLiteral .tMultiLine,
      { isFirst := false, inAsm := st.inAsm, prevReal := some (.rTextLiteral .tMultiLine) })) :=
  MlsMore.mls_one_token_lexOne cfg.settings (MlsMore.settings_ok cfg) content rest ind cont c' hscan h simd st

-- Tests: "'''\n    abc\n    '''" and its re-indented form, each followed by "';"
example : textLiteral ([39,39,39,10, 32,32,32,32,97,98,99,10, 32,32,32,32,39,39,39] ++ [39, 59])
    = (19, .tMultiLine) := by decide +kernel
example : textLiteral ([39,39,39,10, 32,32,32,32,32,32,97,98,99,10, 32,32,32,32,32,32,39,39,39] ++ [39, 59])
    = (23, .tMultiLine) := by decide +kernel

/-- **Counterexample for the settings**: with the indentation string `'` the literal `'''⏎·'''` (8 bytes) becomes
    `'''⏎''''` (8 bytes), of which the scanner reads only the first 7 as the literal. -/
theorem mls_one_token_settings_counterexample :
    textLiteral [39,39,39,10,32,39,39,39] = (8, .tMultiLine) ∧
    mlsRewrite { nlStr := [10], indStr := [39], contStr := [] } [39,39,39,10,32,39,39,39] 1 0
      = some [39,39,39,10,39,39,39,39] ∧
    textLiteral [39,39,39,10,39,39,39,39] = (7, .tMultiLine) := by decide +kernel

/-- the common hypothesis "the literal ends in a quote" holds for every text that the scanner reads as a multi-line
    literal (whatever follows it) -/
theorem mls_token_ends_quote (content rest : Bytes)
    (hscan : textLiteral (content ++ rest) = (content.length, .tMultiLine)) : content.getLast? = some 0x27 :=
  MlsMore.multi_ends_quote content rest hscan

/-! ### end to end, for the closed model of the whole formatter (helpers in `Proofs/MlsPipeline.lean`)

`formatFull cfg alnum s` = scanner, parser and consolidators, ignore marks and token rules, the wrapper stage with the
search inside (`wrapStageFull`), the reconstructor.  `MlsPipe.MlsChain S k c c'`: `c'` is obtained from `c` by exactly
`k` successive applications of the re-indenter `mlsRewrite S` (each with its own pair of counters, each changing the
text). -/

open MlsPipe in
/-- **C12 through the wrapper stage, token by token, whatever solutions the search returns.**  Let `t` be token `j`
    when the stage starts, and let its text end in a quote if it is typed multi-line literal (true of every scanned
    literal).  Then the stage ends with a token `tz` at position `j` of the same kind and ignored flag, and either the
    token is untouched; or its text is the result of one application of the re-indenter (first *or* second string
    pass); or of two, the second one with the counters the token has in the end.  The last two only for a token that
    is not ignored, is typed multi-line literal, and with `format_multiline_strings = true`.  In particular the text
    is reached by a chain of at most two applications, and the token is untouched if it is ignored, of another kind,
    or the option is off.  (Within one pass a token that is visited twice is rewritten once: idempotence.) -/
theorem stage_mls_contents (cfg : Config) (lines : List Line) (ft ftz : FT) (sols : List (Nat × Nat × Sol))
    (h : wrapStageFull cfg lines ft = some (ftz, sols)) (j : Nat) (t : FTok) (hj : ft[j]? = some t)
    (hq : isMlsKind t.tok.kind = true → t.tok.content.getLast? = some 0x27) :
    ∃ tz, ftz[j]? = some tz ∧ tz.tok.kind = t.tok.kind ∧ tz.fmt.ignored = t.fmt.ignored ∧
      (tz.tok = t.tok ∨
        (t.fmt.ignored = false ∧ isMlsKind t.tok.kind = true ∧ cfg.fmtMls = true ∧
          ((∃ i k, mlsRewrite cfg.settings t.tok.content i k = some tz.tok.content) ∨
           (∃ i k c1, mlsRewrite cfg.settings t.tok.content i k = some c1 ∧
              mlsRewrite cfg.settings c1 tz.fmt.ind tz.fmt.cont = some tz.tok.content)))) ∧
      (∃ k, k ≤ 2 ∧ MlsChain cfg.settings k t.tok.content tz.tok.content) ∧
      (t.fmt.ignored = true ∨ isMlsKind t.tok.kind = false ∨ cfg.fmtMls = false → tz.tok = t.tok) := by
  obtain ⟨tz, h1, h2, h3, h4⟩ := wrapStageFull_at cfg lines ft ftz sols h j t hj hq
  exact ⟨tz, h1, h2, h3, h4, h4.chain, h4.frozen⟩

open MlsPipe in
/-- the same for all tokens at once and without any hypothesis on the texts (then without the bound "two"): the stage
    keeps the number of tokens, every kind and every ignored flag; a text changes through applications of the
    re-indenter only (`MlsReach` = some chain); ignored tokens, tokens of other kinds, and all tokens when
    `format_multiline_strings = false` are untouched -/
theorem stage_mls_reach (cfg : Config) (lines : List Line) (ft ftz : FT) (sols : List (Nat × Nat × Sol))
    (h : wrapStageFull cfg lines ft = some (ftz, sols)) :
    ftz.length = ft.length ∧
    ∀ (j : Nat) (t : FTok), ft[j]? = some t → ∃ tz, ftz[j]? = some tz ∧ tz.tok.kind = t.tok.kind ∧
      tz.fmt.ignored = t.fmt.ignored ∧ MlsReach cfg.settings t.tok.content tz.tok.content ∧
      (t.fmt.ignored = true ∨ isMlsKind t.tok.kind = false ∨ cfg.fmtMls = false → tz.tok = t.tok) := by
  have hr := wrapStageFull_reach cfg lines ft ftz sols h
  refine ⟨(all2_length hr).symm, ?_⟩
  intro j t hj
  obtain ⟨tz, hz, r⟩ := all2_getElem? hr hj
  exact ⟨tz, hz, r.kind, r.ign, r.reach, r.frozen⟩

/-- **the token rules before the stage keep literals**: the two rules that rewrite token text (`LowercaseKeywords`,
    `CommentFormatter`) return a token typed text literal - of any sort - exactly as they got it -/
theorem rules_keep_literals (U : Bytes → Bool) (t : FTok) (k : TextLiteralKind) (h : t.tok.kind = .tTextLiteral k) :
    commentFormatTok U (lowercaseTok t) = t :=
  MlsPipe.rules_keep_tok U t (Or.inl (by rw [h]; rfl))

/-- the same for the whole prefix of the pipeline up to the wrapper stage (`TokenSpacing`, `LowercaseKeywords`,
    `CommentFormatter`, `EofNewline`, for any parser result): as many tokens as scanned, and a token that is ignored
    or whose kind is not keyword / line comment / directive (`MlsPipe.ruleKind`) has its scanned text -/
theorem rules_keep_literals_preWrap (O : Oracles) (raw : List RawTok) :
    (preWrap O raw).2.2.length = raw.length ∧
    ∀ (j : Nat) (r : RawTok), raw[j]? = some r → ∃ t, (preWrap O raw).2.2[j]? = some t ∧
      (MlsPipe.ruleKind t.tok.kind = false ∨ t.fmt.ignored = true → t.tok.content = r.content) :=
  ⟨preWrap_length O raw, fun _ _ hj => all2_getElem? (preWrap_all2 O raw fun _ _ _ _ p => p.keeps) hj⟩

/-- every token that the scanner types `TextLiteral(MultiLine)` ends in a quote -/
theorem scanned_mls_ends_quote (s : Bytes) (raw : List RawTok) (h : lex s = some raw) (r : RawTok) (hr : r ∈ raw)
    (hk : r.kind = .rTextLiteral .tMultiLine) : r.content.getLast? = some 0x27 :=
  MlsPipe.lex_multi_ends_quote s raw h r hr hk

/-- **the parser and the consolidators never retype a text literal** (`Proofs/ParserLiterals.lean`: an invariant over
    the whole control flow of the parser model - every write of a token type is guarded by a test that no text literal
    passes): in the kinds the formatter works with, a token that the scanner typed `TextLiteral(k)` is typed
    `TextLiteral(k)` -/
theorem parser_keeps_literals (raw : List RawTok) (po : ParserOut) (h : parseAndConsolidate raw = some po)
    (i : Nat) (r : RawTok) (k : TextLiteralKind) (hi : raw[i]? = some r) (hk : r.kind = .rTextLiteral k) :
    po.kinds[i]? = some (.tTextLiteral k) :=
  (ParserLit.parseAndConsolidate_sameLit raw po h i k).mpr ⟨r, hi, hk⟩

/-- **C12 for the closed model of the whole formatter: values.**  Whenever the formatter answers, its answer is the
    reconstruction of a final token state `ftz` with as many tokens as the scanner produced, and for every token `j`
    that the scanner typed `TextLiteral(MultiLine)`, with `tz` the final token at position `j`:
    `tz` is still typed multi-line literal and its text ends in a quote; **the value of the literal is the scanned
    literal's value**; the text is the scanned text after at most two applications of the re-indenter; and it is the
    scanned text, byte for byte, in a verbatim region (`tz` ignored) and when `format_multiline_strings = false`.
    No hypothesis on the input. -/
theorem formatFull_mls_values (cfg : Config) (alnum : Bytes → Bool) (s out : Bytes)
    (h : formatFull cfg alnum s = some out) :
    ∃ (raw : List RawTok) (ftz : FT), lex s = some raw ∧ out = reconstruct cfg.settings ftz ∧
      ftz.length = raw.length ∧
      ∀ (j : Nat) (r : RawTok), raw[j]? = some r → r.kind = .rTextLiteral .tMultiLine →
        ∃ tz, ftz[j]? = some tz ∧
          tz.tok.kind = .tTextLiteral .tMultiLine ∧ tz.tok.content.getLast? = some 0x27 ∧
          MlsMore.literalValue tz.tok.content = MlsMore.literalValue r.content ∧
          (∃ k, k ≤ 2 ∧ MlsPipe.MlsChain cfg.settings k r.content tz.tok.content) ∧
          (tz.fmt.ignored = true → tz.tok.content = r.content) ∧
          (cfg.fmtMls = false → tz.tok.content = r.content) := by
  obtain ⟨raw, ftz, h1, h2, h3, h4⟩ := MlsPipe.formatFull_literals cfg alnum s out h
  refine ⟨raw, ftz, h1, h2, h3, ?_⟩
  intro j r hj hk
  obtain ⟨tz, hz, kept⟩ := h4 j r hj hk
  exact ⟨tz, hz, kept.kind, kept.ends, kept.value, kept.chain, kept.ignored, kept.off⟩

/-- the chain of `formatFull_mls_values` spelled out, with the counters of the last application: the final text of a
    scanned multi-line literal is the scanned text; or (only outside verbatim regions and with
    `format_multiline_strings = true`) the result of one application of the re-indenter to it (in the first or in
    the second string pass); or of two, the second one with the token's own final counters `tz.fmt.ind`,
    `tz.fmt.cont` - the ones the reconstructor reads.  `mls_indent_exact` then gives the exact indentation of the
    closing quotes and of every interior line in terms of the counters of the last application. -/
theorem formatFull_mls_outcome (cfg : Config) (alnum : Bytes → Bool) (s out : Bytes)
    (h : formatFull cfg alnum s = some out) :
    ∃ (raw : List RawTok) (ftz : FT), lex s = some raw ∧ out = reconstruct cfg.settings ftz ∧
      ftz.length = raw.length ∧
      ∀ (j : Nat) (r : RawTok), raw[j]? = some r → r.kind = .rTextLiteral .tMultiLine →
        ∃ tz, ftz[j]? = some tz ∧
          (tz.tok.content = r.content ∨
            (tz.fmt.ignored = false ∧ cfg.fmtMls = true ∧
              ((∃ i k, mlsRewrite cfg.settings r.content i k = some tz.tok.content) ∨
               (∃ i k c1, mlsRewrite cfg.settings r.content i k = some c1 ∧
                  mlsRewrite cfg.settings c1 tz.fmt.ind tz.fmt.cont = some tz.tok.content)))) := by
  obtain ⟨raw, ftz, h1, h2, h3, h4⟩ := MlsPipe.formatFull_literals cfg alnum s out h
  refine ⟨raw, ftz, h1, h2, h3, ?_⟩
  intro j r hj hk
  obtain ⟨tz, hz, kept⟩ := h4 j r hj hk
  exact ⟨tz, hz, kept.outcome⟩

/-- a literal with an interior line that neither starts with the indentation of the closing line nor is a prefix of
    it is rejected by the re-indenter, for every pair of counters -/
theorem mls_rejects_bad_line (S : Settings) (content : Bytes) (ind cont : Nat)
    (h : ∃ l ∈ (linesCustom content).tail,
      lineValue ((lastLineOf content).take (countLeadingWs (lastLineOf content))) l = none) :
    mlsRewrite S content ind cont = none := by
  rw [MlsMore.mlsRewrite_eq]
  cases hn : MlsMore.newLines S content ind cont with
  | none => rfl
  | some p =>
    obtain ⟨rest, vs, hlc, hvs, _⟩ := MlsMore.newLines_some hn
    rw [hlc] at h
    exact absurd ((mapM_none h).symm.trans hvs) nofun

/-- **C12 for the closed model of the whole formatter: literals that violate the indentation rule.**  With the
    notation of `formatFull_mls_values`: if the re-indenter rejects the scanned literal for every pair of counters -
    e.g. because of an interior line that neither starts with the closing line's indentation nor is a prefix of it,
    or of text before the closing quotes (`mls_rejects_bad_line`, `mls_rejects_text_before_quotes`) - then it is
    reproduced byte for byte.  No hypothesis on the input. -/
theorem formatFull_mls_rejected_verbatim (cfg : Config) (alnum : Bytes → Bool) (s out : Bytes)
    (h : formatFull cfg alnum s = some out) :
    ∃ (raw : List RawTok) (ftz : FT), lex s = some raw ∧ out = reconstruct cfg.settings ftz ∧
      ftz.length = raw.length ∧
      ∀ (j : Nat) (r : RawTok), raw[j]? = some r → r.kind = .rTextLiteral .tMultiLine →
        (∀ ind cont, mlsRewrite cfg.settings r.content ind cont = none) →
        ∃ tz, ftz[j]? = some tz ∧ tz.tok.content = r.content := by
  obtain ⟨raw, ftz, h1, h2, h3, h4⟩ := MlsPipe.formatFull_literals cfg alnum s out h
  refine ⟨raw, ftz, h1, h2, h3, ?_⟩
  intro j r hj hk hrej
  obtain ⟨tz, hz, kept⟩ := h4 j r hj hk
  exact ⟨tz, hz, kept.rejected hrej⟩

/-- the same for the violation named in C12: an interior line of the scanned literal that neither starts with the
    blanks in front of the closing quotes nor is a prefix of them -/
theorem formatFull_mls_bad_line_verbatim (cfg : Config) (alnum : Bytes → Bool) (s out : Bytes)
    (h : formatFull cfg alnum s = some out) :
    ∃ (raw : List RawTok) (ftz : FT), lex s = some raw ∧ out = reconstruct cfg.settings ftz ∧
      ftz.length = raw.length ∧
      ∀ (j : Nat) (r : RawTok), raw[j]? = some r → r.kind = .rTextLiteral .tMultiLine →
        (∃ l ∈ (linesCustom r.content).tail,
          lineValue ((lastLineOf r.content).take (countLeadingWs (lastLineOf r.content))) l = none) →
        ∃ tz, ftz[j]? = some tz ∧ tz.tok.content = r.content := by
  obtain ⟨raw, ftz, h1, h2, h3, h4⟩ := formatFull_mls_rejected_verbatim cfg alnum s out h
  exact ⟨raw, ftz, h1, h2, h3, fun j r hj hk hbad =>
    h4 j r hj hk (fun ind cont => mls_rejects_bad_line cfg.settings r.content ind cont hbad)⟩

end Pasfmt.C12
