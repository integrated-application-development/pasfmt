/-
  C16 — The three CLI modes agree and only files mode writes.
  Theorems on the mode logic (`Model/IO.lean`); file system and codecs are parameters.  The model is
  tied to the built binary by `tools/iocheck.py` (file bytes, stdout, exit status on temp trees).
-/
import PasfmtModel.Proofs.IOProofs

namespace Pasfmt.C16
open Pasfmt.IO

/-- `seek(0); write(bs); set_len(|bs|)` leaves exactly `bs`, whatever the previous length -/
theorem write_truncates (old bs : Bytes) (pos : Nat) :
    ((({ data := old, pos := pos } : FileSt).seekStart.write bs).setLen bs.length).data = bs :=
  IO.write_truncates old bs pos

variable {T : Type} [DecidableEq T]

/-- files mode leaves exactly the bytes that formatting the same content from standard input
    prints — no stale tail whatever the old length — when the file is rewritten; and leaves the file
    alone when the text is already formatted, which is the same thing iff re-encoding the decoded
    text reproduces the bytes (hypothesis `hrt`; see known finding F8 for a legacy encoding where it does not) -/
theorem files_eq_stdout (C : Codec T) (fmt : T → T) (u8 : T → Bytes) (cfgEnc : Enc) (hdr content out : Bytes)
    (hout : runStdin C fmt cfgEnc content = some out)
    (hrt : ∀ d, decodeFile C cfgEnc content = some d → fmt d.text = d.text → writeBytes C d d.text = some content) :
    (runFile C fmt u8 cfgEnc .files hdr content).file = out ∧
    (runFile C fmt u8 cfgEnc .files hdr content).failed = false := by
  unfold runStdin at hout
  unfold runFile
  cases hd : decodeFile C cfgEnc content with
  | none => rw [hd] at hout; exact absurd hout (by simp)
  | some d =>
    rw [hd] at hout
    have h2 : writeBytes C d (fmt d.text) = some out := hout
    by_cases heq : d.text = fmt d.text
    · rw [← heq, hrt d hd heq.symm] at h2
      simp only [if_pos heq]
      exact ⟨Option.some.inj h2, trivial⟩
    · simp only [if_neg heq, h2]
      exact ⟨IO.write_truncates content out content.length, trivial⟩

theorem check_exit_iff (C : Codec T) (fmt : T → T) (u8 : T → Bytes) (cfgEnc : Enc) (hdr content : Bytes) :
    (runFile C fmt u8 cfgEnc .check hdr content).failed = checkStdin C fmt cfgEnc content :=
  IO.check_exit_iff C fmt u8 cfgEnc hdr content

theorem readonly_modes_no_write (C : Codec T) (fmt : T → T) (u8 : T → Bytes) (cfgEnc : Enc) (mode : Mode)
    (hdr content : Bytes) (hm : mode ≠ .files) :
    (runFile C fmt u8 cfgEnc mode hdr content).file = content ∧
    (runFile C fmt u8 cfgEnc mode hdr content).wrote = false :=
  IO.readonly_modes_no_write C fmt u8 cfgEnc mode hdr content hm

theorem undecodable_untouched (C : Codec T) (fmt : T → T) (u8 : T → Bytes) (cfgEnc : Enc) (mode : Mode)
    (hdr content : Bytes) (h : decodeFile C cfgEnc content = none) :
    runFile C fmt u8 cfgEnc mode hdr content = { file := content, wrote := false, stdout := [], failed := true } :=
  IO.undecodable_untouched C fmt u8 cfgEnc mode hdr content h

theorem mode_defaults :
    effectiveMode none true = some .stdout ∧ effectiveMode none false = some .files ∧
    effectiveMode (some .files) true = none ∧ effectiveMode (some .check) true = some .check ∧
    effectiveMode (some .stdout) false = some .stdout := IO.mode_defaults

end Pasfmt.C16
