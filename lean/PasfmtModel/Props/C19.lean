/-
  C19 — Configuration is resolved by a fixed precedence and rejects unknown settings.
-/
import PasfmtModel.Proofs.IOProofs

namespace Pasfmt.C19
open Pasfmt.IO

theorem nearest_ancestor {D : Type} (hasFile : D → Bool) (pre : List D) (d : D) (post : List D)
    (hpre : ∀ x ∈ pre, hasFile x = false) (hd : hasFile d = true) :
    findConfig hasFile (pre ++ d :: post) = some d := IO.nearest_ancestor hasFile pre d post hpre hd

theorem no_config_found {D : Type} (hasFile : D → Bool) (dirs : List D) (h : ∀ x ∈ dirs, hasFile x = false) :
    findConfig hasFile dirs = none := by
  rw [findConfig_eq_find?]; exact List.find?_eq_none.2 (by simpa using h)

variable {K V : Type} [DecidableEq K]

/-- the last `-C` for a key wins over everything -/
theorem precedence_override (S : ConfigSpec K V) (file ov : List (K × V)) (k : K) (v : V) :
    effective S file (ov ++ [(k, v)]) k = v := by
  unfold effective; rw [lookupLast_append_some k ov [(k, v)] v (by simp [lookupLast])]

/-- without an override the file's (last) value wins over the default -/
theorem precedence_file (S : ConfigSpec K V) (file ov : List (K × V)) (k : K) (v : V)
    (hov : lookupLast k ov = none) (hf : lookupLast k file = some v) : effective S file ov k = v := by
  unfold effective; rw [hov, hf]

theorem precedence_default (S : ConfigSpec K V) (file ov : List (K × V)) (k : K)
    (hov : lookupLast k ov = none) (hf : lookupLast k file = none) : effective S file ov k = S.default k := by
  unfold effective; rw [hov, hf]

theorem unknown_rejected (S : ConfigSpec K V) (file ov : List (K × V)) (k : K) (v : V)
    (hmem : (k, v) ∈ file ++ ov) (hk : S.known k = false) : configOk S file ov = false :=
  IO.unknown_rejected S file ov k v hmem hk

/-- an ill-typed effective value of a supplied key is rejected -/
theorem illtyped_rejected (S : ConfigSpec K V) (file ov : List (K × V)) (k : K) (v : V)
    (hmem : (k, v) ∈ file ++ ov) (hv : S.valid k (effective S file ov k) = false) : configOk S file ov = false := by
  unfold configOk
  rw [List.all_eq_false]
  exact ⟨(k, v), hmem, by simp [hv]⟩

end Pasfmt.C19
